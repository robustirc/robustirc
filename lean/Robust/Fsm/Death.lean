/-!
Message-of-death containment (statemachine.go `applyProto` + restart), generic in the state
machine: `apply s m = none` models a panic while applying `m`.  A node's durable raft log is a
list of entries, each possibly already marked as message of death; a *life* of the process
replays the log from the start and dies at the first entry whose application panics, after
rewriting exactly that entry as message of death.
-/
namespace Robust.Fsm.Death

variable {S M : Type}

structure E (M : Type) where
  msg : M
  dead : Bool

/-- what replaying one durable entry does: marked entries only have the marker effect -/
def replayOne (apply : S → M → Option S) (death : S → M → S) (s : S) (e : E M) : Option S :=
  if e.dead then some (death s e.msg) else apply s e.msg

/-- replay of a whole log without any panic handling: `none` if some entry panics -/
def replay (apply : S → M → Option S) (death : S → M → S) (s : S) : List (E M) → Option S
  | [] => some s
  | e :: rest => match replayOne apply death s e with
    | none => none
    | some s' => replay apply death s' rest

/-- one life of the process: returns the durable log afterwards and the state if it survived -/
def life (apply : S → M → Option S) (death : S → M → S) (s : S) : List (E M) → List (E M) × Option S
  | [] => ([], some s)
  | e :: rest => match replayOne apply death s e with
    | none => ({ e with dead := true } :: rest, none)          -- mark exactly this entry, terminate
    | some s' =>
      let (log', r) := life apply death s' rest
      (e :: log', r)

/-- restart until a life survives (`fuel` restarts at most) -/
def lives (apply : S → M → Option S) (death : S → M → S) (init : S) : Nat → List (E M) → List (E M) × Option S
  | 0, log => (log, none)
  | fuel + 1, log =>
    match life apply death init log with
    | (log', some s) => (log', some s)
    | (log', none) => lives apply death init fuel log'

def alive (log : List (E M)) : Nat := (log.filter (fun e => !e.dead)).length

/-- What one life does: it survives, leaves the log as it is and ends where plain replay ends; or it dies at the
first entry that panics, having applied those before it, and marks exactly that entry. -/
theorem life_cases (apply : S → M → Option S) (death : S → M → S) (s : S) (log : List (E M)) :
    (∃ s', life apply death s log = (log, some s') ∧ replay apply death s log = some s') ∨
    ∃ pre e post sk, log = pre ++ e :: post ∧ e.dead = false ∧
      life apply death s log = (pre ++ { e with dead := true } :: post, none) ∧
      replay apply death s pre = some sk ∧ apply sk e.msg = none := by
  induction log generalizing s with
  | nil => exact Or.inl ⟨s, rfl, rfl⟩
  | cons e rest ih =>
    simp only [life, replay]
    cases hr : replayOne apply death s e with
    | none =>
      refine Or.inr ⟨[], e, rest, s, rfl, ?_, rfl, rfl, ?_⟩ <;>
        cases hd : e.dead <;> simp_all [replayOne]
    | some s1 =>
      rcases ih s1 with ⟨s', hl, hp⟩ | ⟨pre, e', post, sk, h1, h2, hl, h4, h5⟩
      · exact Or.inl ⟨s', by simp only [hl], hp⟩
      · exact Or.inr ⟨e :: pre, e', post, sk, by rw [h1]; rfl, h2, by simp only [hl]; rfl, by simp only [replay, hr, h4], h5⟩

theorem alive_mark (pre post : List (E M)) (e : E M) (h : e.dead = false) :
    alive (pre ++ { e with dead := true } :: post) + 1 = alive (pre ++ e :: post) := by
  simp [alive, List.filter_append, h]
  omega

end Robust.Fsm.Death
