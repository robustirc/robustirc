import Robust.Props.C13
/-!
# C13 (addition) — a ban on a session host also bans the address, and nobody from it gets in

`MODE #c +b *!*@robust/0x<id>` stores two entries under the same mask: the pattern as written and
the pattern with the session host replaced by the remote address that session last used
(`banBoth`, cmd_mode.go).  The property's clause "a session becomes a member of an existing channel
only if no ban (+b) matches it" is about *matching*, which for these bans means matching the
address form `nick!user@addr` as well.  The theorems below say that the second entry is really
stored, is kept when further bans are added, and that any session — in particular a *new* session of
the banned user coming from the same address — whose address form matches it fails the admission
condition `joinAllowed`, whatever else holds (invitation, key).  Together with
`C13_join_member_only_if` (membership ⇒ `joinAllowed`) this closes the ban-evasion route.
-/
namespace Robust.Props.C13Ban
open Robust.Irc

theorem banOne_add {ch ch' : Channel} {m p : String} (h : banOne ch true m p = .ok ch') :
    ch'.bans = ch.bans ++ [⟨m, p⟩] ∧ (parseRe p.toList).isSome = true := by
  unfold banOne at h
  split at h
  · cases h
  · rename_i t ht
    simp only [↓reduceIte, Res.ok.injEq] at h
    subst h
    exact ⟨rfl, by simp [ht]⟩

/-- Setting a ban stores the entry for the pattern as written *and* the entry for the
address-resolved pattern, and keeps every ban that was there. -/
theorem C13_ban_stores_both {ch ch' : Channel} {m p pa : String}
    (h : banBoth ch true m p pa = .ok ch') :
    (⟨m, p⟩ : Ban) ∈ ch'.bans ∧ (⟨m, pa⟩ : Ban) ∈ ch'.bans ∧ (∀ b ∈ ch.bans, b ∈ ch'.bans) := by
  unfold banBoth at h
  obtain ⟨ch1, h1, h2⟩ := Res.bind_eq_ok.1 h
  obtain ⟨e1, _⟩ := banOne_add h1
  by_cases hp : pa = p
  · subst hp
    simp only [bne_self_eq_false, Bool.false_eq_true, ↓reduceIte] at h2
    cases h2
    rw [e1]
    exact ⟨by simp, by simp, fun b hb => by simp [hb]⟩
  · have : (pa != p) = true := by simpa using hp
    simp only [this, ↓reduceIte] at h2
    obtain ⟨e2, _⟩ := banOne_add h2
    rw [e2, e1]
    exact ⟨by simp, by simp, fun b hb => by simp [hb]⟩

/-- A stored ban whose regexp matches either form of the user is found by `banned`: the answer is
never "not banned" (it is "banned", or the model declines a regexp outside its fragment). -/
theorem isBanned_of_mem {bans : List Ban} {b : Ban} {toks : List Tok} {uh uha : String}
    (hb : b ∈ bans) (hp : parseRe b.re.toList = some toks)
    (hm : (reMatch toks uh || reMatch toks uha) = true) :
    isBanned bans uh uha ≠ .ok false := by
  induction bans with
  | nil => cases hb
  | cons x rest ih =>
    unfold isBanned
    rcases List.mem_cons.1 hb with rfl | hr
    · rw [hp]; simp only [hm, ↓reduceIte]; intro h; cases h
    · split
      · intro h; cases h
      · split
        · intro h; cases h
        · exact ih hr

theorem joinAllowed_false_of_ban {ch : Channel} {b : Ban} {toks : List Tok} (hb : b ∈ ch.bans)
    (hp : parseRe b.re.toList = some toks) (s : Session) (lc key : String)
    (hm : (reMatch toks s.ircPrefix.str || reMatch toks (s.nick ++ "!" ++ s.username ++ "@" ++ s.remoteAddr)) = true) :
    joinAllowed s ch lc key = false := by
  have hne := isBanned_of_mem hb hp hm
  unfold joinAllowed
  cases hres : isBanned ch.bans s.ircPrefix.str (s.nick ++ "!" ++ s.username ++ "@" ++ s.remoteAddr) with
  | ok b =>
    cases b with
    | false => exact absurd hres hne
    | true => simp
  | _ => simp

/-- **Ban evasion is closed.**  After `+b` with a mask that resolves to an address pattern `pa`,
any session whose address form `nick!user@remoteAddr` matches `pa` is refused admission to the
channel — whether or not it is the session that was named in the mask, and whatever invitation or
key it presents. -/
theorem C13_address_ban_blocks_join {ch ch' : Channel} {m p pa : String} {toks : List Tok}
    (h : banBoth ch true m p pa = .ok ch') (hp : parseRe pa.toList = some toks)
    (s : Session) (lc key : String)
    (hm : reMatch toks (s.nick ++ "!" ++ s.username ++ "@" ++ s.remoteAddr) = true) :
    joinAllowed s ch' lc key = false :=
  joinAllowed_false_of_ban (C13_ban_stores_both h).2.1 hp s lc key (by rw [hm, Bool.or_true])

/-- …and the same for the pattern as written against the session-host form (the prefix). -/
theorem C13_host_ban_blocks_join {ch ch' : Channel} {m p pa : String} {toks : List Tok}
    (h : banBoth ch true m p pa = .ok ch') (hp : parseRe p.toList = some toks)
    (s : Session) (lc key : String)
    (hm : reMatch toks s.ircPrefix.str = true) :
    joinAllowed s ch' lc key = false :=
  joinAllowed_false_of_ban (C13_ban_stores_both h).1 hp s lc key (by rw [hm, Bool.true_or])

/-- A later ban does not lift an earlier one: bans only accumulate under `+b`. -/
theorem C13_ban_monotone {ch ch' : Channel} {m p pa : String} {b : Ban}
    (h : banBoth ch true m p pa = .ok ch') (hb : b ∈ ch.bans) : b ∈ ch'.bans :=
  (C13_ban_stores_both h).2.2 b hb


/-! ## non-vacuity: the scenario end to end on a concrete state

bob (session 2) last spoke from 10.0.0.1; alice, channel operator of `#c`, types
`MODE #c +b *!*@robust/0x2`.  Both entries are in the ban list afterwards; `evil`, a brand-new session
(id 9) from 10.0.0.1 holding an invitation to the `+i` channel, fails the admission condition, and so does
bob himself through his session host; `carol` from elsewhere is not affected by the ban (she only lacks
the invitation). -/
namespace Ex
open Robust.Props.C13.Ex
def bobA : Session := { bob with remoteAddr := "10.0.0.1" }
def stA : St := { st0 with sessions := [(⟨1, 0⟩, alice), (⟨2, 0⟩, bobA), (⟨3, 0⟩, carol), (⟨4, 0⟩, dave)] }
def cA : Ctx := { st := stA, msgid := 7 }
def evil : Session := { id := ⟨9, 0⟩, nick := "evil", username := "e", loggedIn := true, invitedTo := ["#c"], ircPrefix := ⟨"evil", "e", "robust/0x9"⟩, remoteAddr := "10.0.0.1" }
def carolI : Session := { carol with invitedTo := ["#c"], remoteAddr := "10.0.0.2" }
def chanAfter : Option Channel :=
  match cmdMode cA aliceId ⟨none, "MODE", ["#c", "+b", "*!*@robust/0x2"]⟩ with
  | .ok c => AMap.get c.st.channels "#c"
  | _ => none
def pat : String := replaceAll (quoteMeta "*!*@robust/0x2") "\\*" ".*"
def resolved : Option String := match resolveSessionToRemoteAddr stA pat with | .ok x => some x | _ => none
def pHost : String := ".*!.*@robust/0x2"
def pAddr : String := ".*!.*@10.0.0.1"
def tHost : List Tok := [.star, .lit '!', .star, .lit '@', .lit 'r', .lit 'o', .lit 'b', .lit 'u', .lit 's', .lit 't', .lit '/', .lit '0', .lit 'x', .lit '2']
def tAddr : List Tok := [.star, .lit '!', .star, .lit '@', .lit '1', .lit '0', .any, .lit '0', .any, .lit '0', .any, .lit '1']
def chB : Channel := { chanC with bans := [⟨"*!*@robust/0x2", pHost⟩, ⟨"*!*@robust/0x2", pAddr⟩] }
def joinAllowed' : Bool × Bool := (joinAllowed evil chanC "#c" "", joinAllowed carolI chB "#c" "")
theorem hB : banBoth chanC true "*!*@robust/0x2" pHost pAddr = .ok chB := by rfl
theorem hHost : parseRe pHost.toList = some tHost := by decide +kernel
theorem hAddr : parseRe pAddr.toList = some tAddr := by decide +kernel
/-- what the model's `cmdMode` computes for alice's `MODE #c +b *!*@robust/0x2` on `stA` (the address is
substituted into the already quoted pattern, so its dots are regexp dots — as in the Go code) -/
theorem modeStoresBoth : (pat, resolved, chanAfter.map (·.bans)) = (pHost, some pAddr, some chB.bans) := by decide +kernel
end Ex
open Ex Robust.Props.C13.Ex in
example : joinAllowed evil chB "#c" "" = false ∧ joinAllowed bobA chB "#c" "" = false :=
  ⟨C13_address_ban_blocks_join hB hAddr evil "#c" "" (by decide +kernel),
   C13_host_ban_blocks_join hB hHost bobA "#c" "" (by decide +kernel)⟩
/-- the ban is what keeps `evil` out (let in before the ban), and it does not hit carol at 10.0.0.2 -/
example : Ex.joinAllowed' = (true, true) := by decide +kernel

end Robust.Props.C13Ban
