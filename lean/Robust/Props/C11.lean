import Robust.Api.Model
import Robust.Gen.Routes
/-!
# C11 — session routes need the session secret; admin routes the network password
-/
namespace Robust.Props.C11
open Robust Robust.Irc Robust.Api

/-- A request is authenticated as session σ only if it carries a non-empty secret equal to the
one stored for exactly that session, and σ is a client session (`Reply = 0`). -/
theorem C11_session_sound (st : St) (hdr : Option String) (idStr : String) (σ : Id)
    (h : session st hdr idStr = .ok σ) :
    ∃ s secret, AMap.get st.sessions σ = some s ∧ hdr = some secret ∧ secret ≠ "" ∧ secret = s.auth ∧ σ.reply = 0 := by
  unfold session at h
  cases hp : parseSessionId idStr with
  | none => simp [hp] at h
  | some id =>
    simp only [hp] at h
    split at h
    · cases h
    · rename_i hne
      cases hgs : getSession st ⟨id, 0⟩ with
      | error e => simp only [hgs] at h; cases h
      | ok s =>
        have hg : AMap.get st.sessions ⟨id, 0⟩ = some s := by
          unfold getSession at hgs
          cases hq : AMap.get st.sessions ⟨id, 0⟩ with
          | none => simp only [hq] at hgs; split at hgs <;> cases hgs
          | some s' => simp only [hq] at hgs; cases hgs; rfl
        simp only [hgs] at h
        split at h
        · rename_i heq
          cases h
          cases hdr with
          | none => simp at hne
          | some secret =>
            simp only [Option.getD_some] at hne heq
            exact ⟨s, secret, hg, rfl, hne, heq, rfl⟩
        · cases h

/-- a missing or empty header is always refused -/
theorem C11_no_secret_refused (st : St) (idStr : String) :
    (∀ σ, session st none idStr ≠ .ok σ) ∧ (∀ σ, session st (some "") idStr ≠ .ok σ) := by
  constructor <;> intro σ h <;> obtain ⟨s, secret, _, h2, h3, _, _⟩ := C11_session_sound _ _ _ _ h
  · cases h2
  · cases h2; exact h3 rfl

/-- another session's secret does not open this session (unless both secrets are equal, which
CreateSession's 128 random bytes exclude) -/
theorem C11_other_secret_refused (st : St) (idStr : String) (σ : Id) (s : Session) (secret : String)
    (hs : AMap.get st.sessions σ = some s) (hne : secret ≠ s.auth) : session st (some secret) idStr ≠ .ok σ := by
  intro h
  obtain ⟨s', sec, h1, h2, _, h4, _⟩ := C11_session_sound _ _ _ _ h
  cases h2
  rw [hs] at h1; cases h1
  exact hne h4

/-- services pseudo-clients (`Reply ≠ 0`, empty secret) cannot be named through the API at all -/
theorem C11_pseudo_clients_unreachable (st : St) (hdr : Option String) (idStr : String) (σ : Id) (hr : σ.reply ≠ 0) :
    session st hdr idStr ≠ .ok σ := by
  intro h
  obtain ⟨_, _, _, _, _, _, h5⟩ := C11_session_sound _ _ _ _ h
  exact hr h5

/-- a refused POST or DELETE proposes nothing: no effect on the replicated state -/
theorem C11_refusal_no_effect (st : St) (hdr : Option String) (idStr : String) (e : SessErr)
    (h : session st hdr idStr = .error e) (cmid : Nat) (data addr q : String) :
    handlePost st hdr idStr cmid data addr = ⟨404, none⟩ ∧ handleDelete st hdr idStr q = ⟨404, none⟩ ∧
    getStatus st hdr idStr ≠ 200 := by
  unfold handlePost handleDelete getStatus
  simp only [h, refuse, true_and]
  cases e <;> simp

/-- regenerated from DispatchPublic: every public route except session creation is dominated by
the session check -/
theorem C11_public_guarded :
    Gen.Routes.publicRoutes.all (fun r => r.1 == "handleCreateSession" || r.2.1 == "sessionOrProxy" || r.2.1 == "session(first statement)") = true ∧
    (Gen.Routes.publicRoutes.map (·.1)) = ["handleCreateSession", "handleDeleteSession", "handleGetMessages", "handlePostMessage"] :=
  ⟨by decide +kernel, rfl⟩

/-- regenerated from DispatchPrivate: the basic-auth test refuses (401, return) before anything
else runs, the route table is only reachable after it, and nobody else calls that table -/
theorem C11_private_guarded :
    Gen.Routes.privateAuthCond = "!param2.BasicAuth()[2] || \"robustirc\" != param2.BasicAuth()[0] || param2.BasicAuth()[1] != recv.networkPassword" ∧
    Gen.Routes.privateAuthRefusal = "return" ∧
    Gen.Routes.privateDispatchPlacement = ["after-auth"] ∧
    Gen.Routes.withoutAuthCallers = ["internal/api:HTTP.DispatchPrivate"] :=
  ⟨rfl, rfl, rfl, rfl⟩

/-! ## which handler the listening server reaches

`net/http.ServeMux` picks, among the registered patterns that match the request path (a pattern
ending in `/` matches every path it is a prefix of, any other pattern only itself), the longest
one.  `Gen.Routes.servedRoutes` is regenerated on every run: the registrations on the mux that
the `http.Server` literal of package main serves — when that literal has no `Handler` this is
`http.DefaultServeMux`, and then every package in the import closure of the binary that
registers handlers in its `init` (net/http/pprof, expvar) contributes routes. -/

/-- `strings.HasPrefix` on the characters -/
def isPfx (p s : String) : Bool := p.toList.isPrefixOf s.toList
def endsSlash (p : String) : Bool := p.toList.getLast? == some '/'

/-- `ServeMux` matching: patterns of `routes` that match `path` -/
def muxMatches (routes : List (String × String × String)) (path : String) : List (String × String × String) :=
  routes.filter fun r => (endsSlash r.1 && isPfx r.1 path) || r.1 == path

/-- `ServeMux` dispatch: the handler of the longest matching pattern -/
def muxPick (routes : List (String × String × String)) (path : String) : Option String :=
  ((muxMatches routes path).foldl (fun best r => match best with
    | none => some r
    | some b => if b.1.length < r.1.length then some r else some b) none).map (·.2.1)

/-- the server reaches exactly the two dispatchers: the public one below `/robustirc/v1/`, the
password-checking one for everything else (a server that serves `http.DefaultServeMux` fails this:
net/http/pprof and expvar register `/debug/pprof/…` and `/debug/vars` there, which are then answered
200 without the network password — the defect that /repo's "serve only the two dispatchers" repairs) -/
theorem C11_served_routes :
    Gen.Routes.servedRoutes.map (fun r => (r.1, r.2.1)) =
      [("/", "api.DispatchPrivate"), ("/robustirc/v1/", "api.DispatchPublic")] := rfl

/-- every request path is dispatched to `DispatchPrivate` — whose first action is the basic-auth
test (`C11_private_guarded`) — unless it lies below `/robustirc/v1/` -/
theorem C11_mux_dispatch (path : String) (h : isPfx "/" path = true) :
    muxPick [("/", "api.DispatchPrivate", "main"), ("/robustirc/v1/", "api.DispatchPublic", "main")] path =
      some (if isPfx "/robustirc/v1/" path then "api.DispatchPublic" else "api.DispatchPrivate") := by
  have e1 : endsSlash "/" = true := by decide
  have e2 : endsSlash "/robustirc/v1/" = true := by decide
  have l1 : ("/" : String).length = 1 := by decide
  have l2 : ("/robustirc/v1/" : String).length = 14 := by decide
  by_cases hv : isPfx "/robustirc/v1/" path = true
  · simp [muxPick, muxMatches, List.filter, e1, e2, h, hv, l1, l2]
  · have hne : ("/robustirc/v1/" == path) = false := by
      cases hq : ("/robustirc/v1/" == path)
      · rfl
      · exfalso; apply hv
        have : "/robustirc/v1/" = path := by simpa using hq
        rw [← this]; decide
    have hv' : isPfx "/robustirc/v1/" path = false := by simpa using hv
    simp [muxPick, muxMatches, List.filter, e1, e2, h, hv', hne]

/-- the served routes are what `C11_mux_dispatch` is about -/
theorem C11_served_dispatch (path : String) (h : isPfx "/" path = true) :
    muxPick (Gen.Routes.servedRoutes.map fun r => (r.1, r.2.1, "main")) path =
      some (if isPfx "/robustirc/v1/" path then "api.DispatchPublic" else "api.DispatchPrivate") := by
  have : (Gen.Routes.servedRoutes.map fun r => (r.1, r.2.1, "main")) =
      (Gen.Routes.servedRoutes.map fun r => (r.1, r.2.1)).map fun p => (p.1, p.2, "main") := by
    rw [List.map_map]; rfl
  rw [this, C11_served_routes]; exact C11_mux_dispatch path h

/-- what a request meets first, as far as credentials are concerned -/
inductive Gate where
  | sessionSecret     -- `DispatchPublic`: the session check of `C11_public_guarded` (creation excepted)
  | unauthorized      -- `DispatchPrivate` without the network password: 401, nothing else runs
  | privateTable      -- `DispatchPrivate` with the network password: the table of private routes
  deriving DecidableEq, Repr

/-- the listening server on a request: the mux over the regenerated routes, then `DispatchPrivate`'s
basic-auth test (`C11_private_guarded`: the test comes first and refuses with 401) -/
def gate (path : String) (passwordOk : Bool) : Option Gate :=
  match muxPick (Gen.Routes.servedRoutes.map fun r => (r.1, r.2.1, "main")) path with
  | some "api.DispatchPublic" => some .sessionSecret
  | some "api.DispatchPrivate" => some (if passwordOk then .privateTable else .unauthorized)
  | _ => none

/-- every path that is not below `/robustirc/v1/` answers 401 unless basic auth carries the network
password — whatever the path is (status, irclog, config, join/part/quit/kill, snapshot, raft transport,
`/debug/…`, anything else) -/
theorem C11_outside_v1_needs_password (path : String) (h : isPfx "/" path = true)
    (hv : isPfx "/robustirc/v1/" path = false) (passwordOk : Bool) :
    gate path passwordOk = some (if passwordOk then .privateTable else .unauthorized) := by
  unfold gate
  rw [C11_served_dispatch path h, hv]
  simp

/-- and every path below it is subject to the session check -/
theorem C11_v1_needs_session (path : String) (h : isPfx "/" path = true)
    (hv : isPfx "/robustirc/v1/" path = true) (passwordOk : Bool) :
    gate path passwordOk = some .sessionSecret := by
  unfold gate
  rw [C11_served_dispatch path h, hv]
  simp

example : gate "/debug/pprof/cmdline" false = some .unauthorized := by decide +kernel
example : gate "/status" true = some .privateTable := by decide +kernel
example : gate "/robustirc/v1/0x5/message" false = some .sessionSecret := by decide +kernel

/-- the mux model on concrete paths, with the routes of a `DefaultServeMux` on which net/http/pprof
has registered: the debug handlers win over the catch-all dispatcher -/
example : muxPick [("/", "api.DispatchPrivate", ""), ("/debug/pprof/", "Index", "net/http/pprof"),
    ("/robustirc/v1/", "api.DispatchPublic", "")] "/debug/pprof/goroutine" = some "Index" := by decide +kernel
example : muxPick [("/", "api.DispatchPrivate", ""), ("/robustirc/v1/", "api.DispatchPublic", "")]
    "/debug/pprof/goroutine" = some "api.DispatchPrivate" := by decide +kernel
example : muxPick [("/", "api.DispatchPrivate", ""), ("/robustirc/v1/", "api.DispatchPublic", "")]
    "/robustirc/v1/session" = some "api.DispatchPublic" := by decide +kernel

/-- non-vacuity: the correct secret is accepted -/
example : (match session { sessions := [(⟨5, 0⟩, { id := ⟨5, 0⟩, auth := "s3cret" })] } (some "s3cret") "0x5" with
    | .ok σ => σ == ⟨5, 0⟩ | .error _ => false) = true := by decide +kernel

end Robust.Props.C11
