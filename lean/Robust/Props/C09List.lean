import Robust.Props.C09
/-!
C09 (list view): under `WF`, the log half of the LevelDB store is a strictly increasing list of
indexes `logIndexes s` (computed from the keys of `s.kv`), and `StoreLogs`/`StoreLogProto`,
`DeleteRange`, `FirstIndex`/`LastIndex`, `GetBulkIterator` and `GetLog` act on it as sorted insert,
filter, head/last, filter and membership — the behaviour `Robust/Fsm/Model.lean` assumes of the node's
log copy (`irc`, manipulated with `insertSorted`, list filters, head/last).  Together with
`logView` (index ↦ entry, C09) this determines the list of entries.
-/
namespace Robust.Props.C09List
open Robust Robust.Bytes Robust.Codec Robust.Store Robust.Props.C09

-- the theorem statements carry `WF` / bound hypotheses uniformly, also where a proof does not need them
set_option linter.unusedVariables false

theorem C09_list_sorted (s : Store) (h : WF s) : (logIndexes s).Pairwise (· < ·) :=
  kvIndexes_sorted s.kv h.1 h.2

theorem C09_list_bound (s : Store) (h : WF s) (i : Nat) (hm : i ∈ logIndexes s) : i < 2^64 :=
  kvIndexes_lt s.kv h.2 i hm

theorem C09_list_mem (s : Store) (h : WF s) (i : Nat) (hi : i < 2^64) :
    i ∈ logIndexes s ↔ (logView s i).isSome := mem_logIndexes s h i hi

theorem C09_list_keys (s : Store) (h : WF s) :
    (s.kv.map (·.1)).filter (fun k => !isStable k) = (logIndexes s).map be64 := by
  rw [List.filter_map]
  exact logKeys_eq s.kv h.2

theorem C09_list_insertNat_mem (i x : Nat) (l : List Nat) : x ∈ insertNat i l ↔ x = i ∨ x ∈ l := by
  induction l with
  | nil => simp [insertNat]
  | cons y ys ih =>
    simp only [insertNat]
    split
    · simp
    · split
      · rename_i _ h; subst h; simp
      · simp only [List.mem_cons, ih]
        constructor
        · rintro (h | h | h)
          · exact Or.inr (Or.inl h)
          · exact Or.inl h
          · exact Or.inr (Or.inr h)
        · rintro (h | h | h)
          · exact Or.inr (Or.inl h)
          · exact Or.inl h
          · exact Or.inr (Or.inr h)

theorem C09_list_insertNat_sorted (i : Nat) (l : List Nat) (h : l.Pairwise (· < ·)) :
    (insertNat i l).Pairwise (· < ·) := by
  induction l with
  | nil => simp [insertNat]
  | cons y ys ih =>
    rw [List.pairwise_cons] at h
    simp only [insertNat]
    split
    · rename_i hlt
      refine List.pairwise_cons.2 ⟨fun z hz => ?_, List.pairwise_cons.2 h⟩
      rcases List.mem_cons.1 hz with rfl | hz
      · exact hlt
      · exact Nat.lt_trans hlt (h.1 z hz)
    · split
      · rename_i _ heq; subst heq
        exact List.pairwise_cons.2 h
      · rename_i h1 h2
        refine List.pairwise_cons.2 ⟨fun z hz => ?_, ih h.2⟩
        rcases (C09_list_insertNat_mem i z ys).1 hz with rfl | hz
        · omega
        · exact h.1 z hz

theorem C09_list_storeLogProto (s : Store) (e : LogEntry) (h : WF s) (hi : e.index < 2^64) :
    logIndexes (s.storeLogProto e) = insertNat e.index (logIndexes s) :=
  kvIndexes_kvPut_log s.kv _ e h.1 h.2 hi

theorem C09_list_storeLogs (s : Store) (es : List LogEntry) (h : WF s)
    (hi : ∀ e ∈ es, e.index < 2^64) :
    logIndexes (s.storeLogs es) = es.foldl (fun l e => insertNat e.index l) (logIndexes s) :=
  (foldl_put_log _ kvIndexes _ (fun m e => kvIndexes_kvPut_log m _ e) es s.kv h.1 h.2 hi).2.2

/-- exactly the indexes in `[a, b]` go, including `b = 2^64-1` -/
theorem C09_list_deleteRange (s : Store) (a b : Nat) (h : WF s) (ha : a < 2^64) (hb : b < 2^64) :
    logIndexes (s.deleteRange a b) = (logIndexes s).filter (fun i => !(a ≤ i && i ≤ b)) := by
  show kvIndexes (s.deleteRange a b).kv = _
  rw [deleteRange_kv]
  exact kvIndexes_filter s.kv h.2 (delKeep a b) _ (fun i hi => delKeep_be64 a b i ha hb hi)

theorem C09_list_firstIndex (s : Store) (h : WF s) :
    s.firstIndex = .ok ((logIndexes s).head?.getD 0) := firstIndex_eq s h.2

theorem C09_list_lastIndex (s : Store) (h : WF s) :
    s.lastIndex = .ok ((logIndexes s).getLast?.getD 0) := lastIndex_eq s h.2

theorem C09_list_bulk (s : Store) (a b : Nat) (h : WF s) (ha : a < 2^64) (hb : b < 2^64) :
    (s.bulkKeys a b).filter (fun k => !isStable k)
      = ((logIndexes s).filter (fun i => a ≤ i && i < b)).map be64 := by
  unfold Store.bulkKeys
  rw [List.filter_map]
  have h1 := logKeys_eq (s.kv.filter (fun e => inRange a (some b) e.1))
    (typed_filter s.kv _ h.2)
  rw [kvIndexes_filter s.kv h.2 (inRange a (some b)) _
    (fun i hi => inRange_be64 a i (some b) ha hi (fun l hl => Option.some.inj hl ▸ hb))] at h1
  exact h1

/-- `limit ≤ start` visits no log entry (it is not "no upper bound") -/
theorem C09_list_bulk_empty (s : Store) (a b : Nat) (h : WF s) (ha : a < 2^64) (hb : b < 2^64)
    (hba : b ≤ a) : (s.bulkKeys a b).filter (fun k => !isStable k) = [] := by
  rw [C09_list_bulk s a b h ha hb, List.map_eq_nil_iff, List.filter_eq_nil_iff]
  intro i _
  simp only [Bool.and_eq_true, decide_eq_true_eq]; omega

/-- a stable key is visited iff the range straddles `stableCut = 0x737461626c657374` ("stablest"):
`start ≤ stableCut < limit` — and then *every* stable key is visited -/
theorem C09_list_bulk_stable_mem (s : Store) (a b : Nat) (k : Bytes) (ha : a < 2^64) (hb : b < 2^64) :
    stablePrefix ++ k ∈ s.bulkKeys a b
      ↔ (∃ v, (stablePrefix ++ k, v) ∈ s.kv) ∧ a ≤ stableCut ∧ stableCut < b := by
  rw [mem_bulkKeys, inRange_stable a b k ha hb, Bool.and_eq_true, decide_eq_true_iff, decide_eq_true_iff]

/-- outside that case the iterator yields log keys only: exactly the indexes in `[a, b)` -/
theorem C09_list_bulk_no_stable (s : Store) (a b : Nat) (h : WF s) (ha : a < 2^64) (hb : b < 2^64)
    (hr : b ≤ stableCut ∨ stableCut < a) :
    s.bulkKeys a b = ((logIndexes s).filter (fun i => a ≤ i && i < b)).map be64 := by
  rw [← C09_list_bulk s a b h ha hb]
  refine (List.filter_eq_self.2 ?_).symm
  intro k hk
  cases hst : isStable k with
  | false => rfl
  | true =>
    obtain ⟨r, hr'⟩ := isPrefixOf_eq_append _ _ hst
    subst hr'
    have := ((C09_list_bulk_stable_mem s a b r ha hb).1 hk).2
    omega

/-- in particular for every limit up to `0x7374000000000000` (`"st"` followed by zero bytes) -/
theorem C09_list_bulk_below_prefix (s : Store) (a b : Nat) (h : WF s) (ha : a < 2^64)
    (hb : b ≤ 0x7374000000000000) :
    s.bulkKeys a b = ((logIndexes s).filter (fun i => a ≤ i && i < b)).map be64 :=
  C09_list_bulk_no_stable s a b h ha (by omega)
    (Or.inl (Nat.le_trans hb (by decide)))

theorem C09_list_getLog (s : Store) (i : Nat) (h : WF s) (hi : i < 2^64) :
    (∃ e, s.getLog i = .ok e) ↔ i ∈ logIndexes s := by
  rw [C09_list_mem s h i hi, C09_getLog s i h hi]
  cases logView s i with
  | none => simp
  | some e => simp

theorem C09_list_getLog_notFound (s : Store) (i : Nat) (h : WF s) (hi : i < 2^64)
    (hn : i ∉ logIndexes s) : s.getLog i = .error .notFound := by
  rw [C09_list_mem s h i hi] at hn
  rw [C09_getLog s i h hi]
  cases hv : logView s i with
  | none => rfl
  | some e => rw [hv] at hn; exact absurd rfl hn

/-! ### the entries themselves: `logEntries s` (the decoded log values in key order) is what
`Fsm.Model` keeps in `irc`; `insertEntry` is `Fsm.insertSorted` on store entries -/

theorem C09_list_entries_index (s : Store) (h : WF s) :
    (logEntries s).map (·.index) = logIndexes s := kvEntries_index s.kv h.2

theorem C09_list_entries_mem (s : Store) (h : WF s) (e : LogEntry) :
    e ∈ logEntries s ↔ logView s e.index = some e := by
  show e ∈ kvEntries s.kv ↔ _
  rw [mem_kvEntries]
  constructor
  · rintro ⟨k, f, hm⟩
    rcases h.2 _ _ hm with ⟨i, f', e', hi, hk, hv, he⟩ | ⟨_, _, _, hv⟩
    · cases hv; subst he hk
      exact logView_of_mem s h.1 _ f e hm
    · cases hv
  · intro hv
    obtain ⟨f, hm⟩ := logView_eq_some s _ e hv
    exact ⟨_, f, hm⟩

theorem C09_list_entries_storeLogProto (s : Store) (e : LogEntry) (h : WF s) (hi : e.index < 2^64) :
    logEntries (s.storeLogProto e) = insertEntry e (logEntries s) :=
  kvEntries_kvPut_log s.kv _ e h.1 h.2 hi

theorem C09_list_entries_storeLogs (s : Store) (es : List LogEntry) (h : WF s)
    (hi : ∀ e ∈ es, e.index < 2^64) :
    logEntries (s.storeLogs es) = es.foldl (fun l e => insertEntry e l) (logEntries s) :=
  (foldl_put_log _ kvEntries _ (fun m e => kvEntries_kvPut_log m _ e) es s.kv h.1 h.2 hi).2.2

theorem C09_list_entries_deleteRange (s : Store) (a b : Nat) (h : WF s) (ha : a < 2^64)
    (hb : b < 2^64) :
    logEntries (s.deleteRange a b)
      = (logEntries s).filter (fun e => !(a ≤ e.index && e.index ≤ b)) := by
  show kvEntries (s.deleteRange a b).kv = _
  rw [deleteRange_kv]
  exact kvEntries_filter s.kv h.2 (delKeep a b) (fun i => !(decide (a ≤ i) && decide (i ≤ b)))
    (fun i hi => delKeep_be64 a b i ha hb hi)

/-! ## non-vacuity: the store `Ex.s0` of C09 (log entries 5, 6, 7 — written out of order, 7 twice —
and the stable keys "CurrentTerm", "LastVoteCand") -/

namespace Ex
open Robust.Props.C09.Ex

example : s0.kv.length = 5 := by decide +kernel
example : logIndexes s0 = [5, 6, 7] := by decide +kernel
example : (logIndexes s0).Pairwise (· < ·) := C09_list_sorted s0 wf0
example : 7 < 2^64 := C09_list_bound s0 wf0 7 (by decide +kernel)
example : (logView s0 6).isSome := (C09_list_mem s0 wf0 6 (by decide +kernel)).1 (by decide +kernel)
example : 8 ∉ logIndexes s0 := fun hm => absurd ((C09_list_mem s0 wf0 8 (by decide +kernel)).1 hm) (by decide +kernel)
example : (s0.kv.map (·.1)).filter (fun k => !isStable k) = [be64 5, be64 6, be64 7] :=
  (C09_list_keys s0 wf0).trans (by decide +kernel)

/-! insert: at the end, at the front, in the middle, replacing -/

def e3 : LogEntry := ⟨3, 1, 0, .raw [], [], 1699999999, 0⟩

example : logIndexes (s0.storeLogProto e9) = [5, 6, 7, 9] :=
  (C09_list_storeLogProto s0 e9 wf0 (by decide +kernel)).trans (by decide +kernel)
example : logIndexes (s0.storeLogProto e3) = [3, 5, 6, 7] :=
  (C09_list_storeLogProto s0 e3 wf0 (by decide +kernel)).trans (by decide +kernel)
example : logIndexes (s0.storeLogProto e6) = [5, 6, 7] :=
  (C09_list_storeLogProto s0 e6 wf0 (by decide +kernel)).trans (by decide +kernel)
example : logIndexes ((s0.deleteRange 6 6).storeLogProto e6) = [5, 6, 7] :=
  (C09_list_storeLogProto _ e6 (C09_wf_deleteRange s0 6 6 wf0) (by decide +kernel)).trans (by decide +kernel)
/-- the model's list agrees with the database actually computed -/
example : (s0.storeLogProto e3).kv.map (·.1)
    = [be64 3, be64 5, be64 6, be64 7, stablePrefix ++ kTerm, stablePrefix ++ kCand] := by decide +kernel
example : logIndexes (s0.storeLogs [e9, e7, e3, e9]) = [3, 5, 6, 7, 9] :=
  (C09_list_storeLogs s0 _ wf0 (by decide +kernel)).trans (by decide +kernel)

example : logIndexes (s0.deleteRange 6 7) = [5] :=
  (C09_list_deleteRange s0 6 7 wf0 (by decide +kernel) (by decide +kernel)).trans (by decide +kernel)
example : logIndexes (s0.deleteRange 6 6) = [5, 7] :=
  (C09_list_deleteRange s0 6 6 wf0 (by decide +kernel) (by decide +kernel)).trans (by decide +kernel)
example : logIndexes (s0.deleteRange 6 18446744073709551615) = [5] :=
  (C09_list_deleteRange s0 6 18446744073709551615 wf0 (by decide +kernel) (by decide +kernel)).trans (by decide +kernel)
example : logIndexes (s0.deleteRange 0 18446744073709551615) = [] :=
  (C09_list_deleteRange s0 0 18446744073709551615 wf0 (by decide +kernel) (by decide +kernel)).trans (by decide +kernel)
/-- the stable keys stay -/
example : (s0.deleteRange 0 18446744073709551615).kv.length = 2 := by decide +kernel

example : s0.firstIndex = .ok 5 :=
  (C09_list_firstIndex s0 wf0).trans (congrArg Except.ok (by decide +kernel : (logIndexes s0).head?.getD 0 = 5))
example : s0.lastIndex = .ok 7 :=
  (C09_list_lastIndex s0 wf0).trans (congrArg Except.ok (by decide +kernel : (logIndexes s0).getLast?.getD 0 = 7))
example : sStable.firstIndex = .ok 0 ∧ logIndexes sStable = [] :=
  ⟨(C09_list_firstIndex sStable wfStable).trans
    (congrArg Except.ok (by decide +kernel : (logIndexes sStable).head?.getD 0 = 0)), by decide +kernel⟩
example : sStable.lastIndex = .ok 0 :=
  (C09_list_lastIndex sStable wfStable).trans
    (congrArg Except.ok (by decide +kernel : (logIndexes sStable).getLast?.getD 0 = 0))
example : (s0.deleteRange 5 5).firstIndex = .ok 6 :=
  (C09_list_firstIndex _ (C09_wf_deleteRange s0 5 5 wf0)).trans
    (congrArg Except.ok (by decide +kernel : (logIndexes (s0.deleteRange 5 5)).head?.getD 0 = 6))

example : (s0.bulkKeys 6 8).filter (fun k => !isStable k) = [be64 6, be64 7] :=
  (C09_list_bulk s0 6 8 wf0 (by decide +kernel) (by decide +kernel)).trans (by decide +kernel)
example : s0.bulkKeys 6 8 = [be64 6, be64 7] :=
  (C09_list_bulk_below_prefix s0 6 8 wf0 (by decide +kernel) (by decide +kernel)).trans (by decide +kernel)
example : s0.bulkKeys 0 6 = [be64 5] :=
  (C09_list_bulk_no_stable s0 0 6 wf0 (by decide +kernel) (by decide +kernel) (Or.inl (by decide +kernel))).trans (by decide +kernel)
example : (s0.bulkKeys 8 6).filter (fun k => !isStable k) = [] :=
  C09_list_bulk_empty s0 8 6 wf0 (by decide) (by decide) (by decide)
example : (s0.bulkKeys 7 7).filter (fun k => !isStable k) = [] :=
  C09_list_bulk_empty s0 7 7 wf0 (by decide) (by decide) (by decide)
/-- a range reaching past "stablest" visits the stable keys too … -/
example : stablePrefix ++ kTerm ∈ s0.bulkKeys 6 18446744073709551615 :=
  (C09_list_bulk_stable_mem s0 6 18446744073709551615 kTerm (by decide +kernel) (by decide +kernel)).2
    ⟨⟨.raw (be64 3), by decide +kernel⟩, by decide +kernel, by decide +kernel⟩
example : s0.bulkKeys 6 18446744073709551615
    = [be64 6, be64 7, stablePrefix ++ kTerm, stablePrefix ++ kCand] := by decide +kernel
/-- … one ending at the cut does not -/
example : stablePrefix ++ kTerm ∉ s0.bulkKeys 6 stableCut := fun hm =>
  absurd ((C09_list_bulk_stable_mem s0 6 stableCut kTerm (by decide) (by decide)).1 hm).2.2 (by decide)
example : lexLt (be64 stableCut) (stablePrefix ++ kTerm) = true ∧
    lexLt (stablePrefix ++ kTerm) (be64 (stableCut + 1)) = true := by decide

example : ∃ e, s0.getLog 6 = .ok e := (C09_list_getLog s0 6 wf0 (by decide +kernel)).2 (by decide +kernel)
example : 7 ∈ logIndexes s0 := (C09_list_getLog s0 7 wf0 (by decide)).1 ⟨e7b, rfl⟩
example : s0.getLog 8 = .error .notFound := C09_list_getLog_notFound s0 8 wf0 (by decide +kernel) (by decide +kernel)

example : logEntries s0 = [e5, e6, e7b] := by decide +kernel
example : (logEntries s0).map (·.index) = [5, 6, 7] := (C09_list_entries_index s0 wf0).trans (by decide +kernel)
example : e7b ∈ logEntries s0 := (C09_list_entries_mem s0 wf0 e7b).2 (by decide +kernel)
example : e7 ∉ logEntries s0 := fun hm => absurd ((C09_list_entries_mem s0 wf0 e7).1 hm) (by decide +kernel)
example : logEntries (s0.storeLogProto e7) = [e5, e6, e7] :=
  (C09_list_entries_storeLogProto s0 e7 wf0 (by decide +kernel)).trans (by decide +kernel)
example : logEntries (s0.storeLogs [e9, e7, e3]) = [e3, e5, e6, e7, e9] :=
  (C09_list_entries_storeLogs s0 _ wf0 (by decide +kernel)).trans (by decide +kernel)
example : logEntries (s0.deleteRange 6 6) = [e5, e7b] :=
  (C09_list_entries_deleteRange s0 6 6 wf0 (by decide +kernel) (by decide +kernel)).trans (by decide +kernel)

end Ex

end Robust.Props.C09List
