import Robust.Time.Model
/-!
# C19 — a node whose clock could be off by ≥ the election timeout refuses to join

Statements are about `Gen.Time.worstCaseDrift` and `Gen.Time.timeInSync`, which are
*regenerated from the Go source on every run*, and about the hand model `Time.synchronized`
(tied by a differential run).  Measurement model: the local clock reads `start` before the
request and `end_` after the response; the peer produced its answer at some local instant
`t` with `start ≤ t ≤ end_`, when its own clock read `result = t + δ`.  `δ` is the true
offset between the two clocks; the network delays `t - start` and `end_ - t` are arbitrary.
-/
namespace Robust.Props.C19
open Robust.I64 Robust.Gen.Time Robust.Time

/-- The election timeout the property talks about is 2 s. -/
theorem C19_election_timeout : electionTimeout = 2 * 1000000000 := by decide

/-- Soundness of the measurement: if the computed worst-case drift is below the election
timeout then the true clock offset is, whatever the delays were.  No bound on any of the
times: saturation of `time.Time.Sub` and int64 wrap-around are part of the generated
definition. -/
theorem C19_drift_sound (r : TimeResult) (t δ : Int)
    (h1 : r.start ≤ t) (h2 : t ≤ r.end_) (hr : r.result = t + δ)
    (h : worstCaseDrift r < electionTimeout) :
    -electionTimeout < δ ∧ δ < electionTimeout := by
  obtain ⟨s, e, res⟩ := r
  simp only at h1 h2 hr
  subst hr
  have hd := tsub_spec (t + δ) s
  have hrt := tsub_spec e s
  unfold worstCaseDrift at h
  simp only at h
  generalize tsub (t + δ) s = d at *
  generalize tsub e s = rtt at *
  unfold electionTimeout at *
  unfold minI maxI at hd hrt
  simp only [neg, add, sub, wrap] at h
  by_cases hd0 : d < 0
  · simp only [hd0, ↓reduceIte] at h
    split at h <;> omega
  · simp only [hd0, ↓reduceIte] at h
    split at h <;> omega

/-- A list of measurements accepted by `timeInSync` contains only peers whose true offset is
below the election timeout. -/
theorem C19_timeInSync_sound (rs : List TimeResult) (h : timeInSync rs = true)
    (r : TimeResult) (hm : r ∈ rs) (t δ : Int)
    (h1 : r.start ≤ t) (h2 : t ≤ r.end_) (hr : r.result = t + δ) :
    -electionTimeout < δ ∧ δ < electionTimeout := by
  unfold timeInSync at h
  rw [List.all_eq_true] at h
  have := h r hm
  simp only [Bool.not_eq_true', decide_eq_false_iff_not, Int.not_le] at this
  exact C19_drift_sound r t δ h1 h2 hr (by unfold electionTimeout; omega)

/-- **Main statement.**  With the safeguard enabled, the start-up check lets the node join
only if every peer that answered is provably within the election timeout. -/
theorem C19_join_only_if_in_sync (rs : List TimeResult)
    (h : synchronized false rs = .ok)
    (r : TimeResult) (hm : r ∈ rs) (ha : r.result ≠ zeroTime) (t δ : Int)
    (h1 : r.start ≤ t) (h2 : t ≤ r.end_) (hr : r.result = t + δ) :
    -electionTimeout < δ ∧ δ < electionTimeout := by
  unfold synchronized at h
  simp only at h
  split at h
  · rename_i hs
    refine C19_timeInSync_sound _ hs r ?_ t δ h1 h2 hr
    rw [List.mem_filter]; exact ⟨hm, by simp [answered, ha]⟩
  · simp at h

/-- The `-join` start-up path (`SynchronizedWithMasterAndNetwork`) decides on the measurements of the
remaining peers followed by the measurement of the node being joined (`results = append(results, result)`):
if it lets the node join, the node being joined — which must have answered, or the process has already
exited — is within the election timeout, and so is every other peer that answered.  (That the Go code
really passes `collected ++ [master]` is exercised end to end by the `join …` scenarios of the check.) -/
theorem C19_join_path (collected : List TimeResult) (master : TimeResult)
    (h : synchronized false (collected ++ [master]) = .ok)
    (r : TimeResult) (hm : r = master ∨ r ∈ collected) (ha : r.result ≠ zeroTime) (t δ : Int)
    (h1 : r.start ≤ t) (h2 : t ≤ r.end_) (hr : r.result = t + δ) :
    -electionTimeout < δ ∧ δ < electionTimeout := by
  refine C19_join_only_if_in_sync _ h r ?_ ha t δ h1 h2 hr
  rcases hm with rfl | hm
  · simp
  · simp [hm]

/-- non-vacuity: a join target 1 ns ahead, one peer that did not answer -/
example : synchronized false ([⟨0, 0, zeroTime⟩] ++ [⟨1432323893000000000, 1432323893500000000, 1432323893000000001⟩]) = .ok := by decide

/-- Otherwise it refuses and reports exactly the offending peers that answered. -/
theorem C19_refuses_and_reports (rs : List TimeResult)
    (hbad : ∃ r ∈ rs, r.result ≠ zeroTime ∧ worstCaseDrift r ≥ electionTimeout) :
    ∃ off, synchronized false rs = .refuse off ∧
      ∀ r, r ∈ off ↔ (r ∈ rs ∧ r.result ≠ zeroTime ∧ worstCaseDrift r ≥ electionTimeout) := by
  obtain ⟨b, hb, hbz, hbd⟩ := hbad
  have hns : timeInSync (rs.filter answered) = false := by
    unfold timeInSync
    rw [List.all_eq_false]
    refine ⟨b, ?_, ?_⟩
    · rw [List.mem_filter]; exact ⟨hb, by simp [answered, hbz]⟩
    · simp only [Bool.not_eq_true', decide_eq_false_iff_not]
      unfold electionTimeout at hbd; simpa using hbd
  refine ⟨(rs.filter answered).filter offending, ?_, ?_⟩
  · unfold synchronized; simp [hns]
  · intro r
    simp only [List.mem_filter, answered, offending, Bool.not_eq_true', decide_eq_false_iff_not,
      decide_eq_true_eq]
    constructor
    · rintro ⟨⟨a, b⟩, c⟩; exact ⟨a, b, c⟩
    · rintro ⟨a, b, c⟩; exact ⟨⟨a, b⟩, c⟩

/-- The explicit override: with `-disable_timesafeguard` the check never refuses. -/
theorem C19_disabled_never_refuses (rs : List TimeResult) : synchronized true rs = .ok := by
  unfold synchronized; simp only; split <;> rfl

/-- Peers that did not answer are ignored: they neither make the check pass nor fail. -/
theorem C19_unanswered_ignored (d : Bool) (rs : List TimeResult) :
    synchronized d rs = synchronized d (rs.filter answered) := by
  unfold synchronized; simp [List.filter_filter]

/-- …and in particular an unanswered measurement is never *trusted*: it cannot vouch for
itself, it is simply not part of the decision (inserting it anywhere changes nothing). -/
theorem C19_unanswered_insert (d : Bool) (xs ys : List TimeResult) (z : TimeResult)
    (hz : z.result = zeroTime) :
    synchronized d (xs ++ z :: ys) = synchronized d (xs ++ ys) := by
  rw [C19_unanswered_ignored d (xs ++ z :: ys), C19_unanswered_ignored d (xs ++ ys)]
  simp [List.filter_append, answered, hz]

/-- The check is not vacuous / not trivially refusing: an instantaneous measurement of a peer
whose offset is below the timeout is accepted. -/
theorem C19_accepts_exact (s δ : Int) (h : -electionTimeout < δ ∧ δ < electionTimeout) :
    worstCaseDrift ⟨s, s, s + δ⟩ < electionTimeout := by
  have hd := tsub_spec (s + δ) s
  have hrt := tsub_spec s s
  unfold worstCaseDrift
  simp only
  generalize tsub (s + δ) s = d at *
  generalize tsub s s = rtt at *
  unfold electionTimeout at *
  unfold minI maxI at hd hrt
  simp only [neg, add, sub, wrap]
  by_cases hd0 : d < 0
  · simp only [hd0, ↓reduceIte]
    split <;> omega
  · simp only [hd0, ↓reduceIte]
    split <;> simp only [false_or] at * <;> omega

/-- Regression for a defect repaired in /repo (int64 wrap-around accepted peers ≥ 292 years off):
a peer in the year 2400 while the local clock is in 2026. -/
example : timeInSync [⟨1790000000000000000, 1790000000500000000, 13569465600000000000⟩] = false := by decide
example : timeInSync [⟨1790000000000000000, 1790000000500000000, zeroTime + 5⟩] = false := by decide
/-- non-vacuity of the hypotheses of `C19_join_only_if_in_sync` -/
example : synchronized false [⟨1432323893000000000, 1432323893500000000, 1432323893000000001⟩,
    ⟨0, 0, zeroTime⟩] = .ok := by decide

end Robust.Props.C19

