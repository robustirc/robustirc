import Robust.Stream.Inv
import Robust.Gen.Locks
/-!
C08 — output stream next-message lookup: the invariant is preserved by every operation, `Get`
refines a plain map, `GetNext`'s two phases meet their specification, and the system-level
invariant holds over every interleaving of the lock regions.
-/
namespace Robust.Props.C08
open Robust Robust.Stream

theorem C08_inv_init : Inv OS.init := by
  have hget : ∀ k b, SMap.get OS.init.db k = some b → k = 0 ∧ b = sentinel := by
    intro k b hb
    simp only [OS.init, SMap.get] at hb
    split at hb
    · rename_i hk; cases hb; exact ⟨hk.symm, rfl⟩
    · cases hb
  refine ⟨?_, ?_, ?_, ?_, ?_⟩
  · simp [OS.init, SMap.Sorted, SMap.keys]
  · intro k b hb; obtain ⟨rfl, rfl⟩ := hget k b hb; exact ⟨rfl, by decide⟩
  · exact ⟨0, sentinel, rfl, rfl, rfl, rfl, rfl⟩
  · intro k b hb; obtain ⟨rfl, rfl⟩ := hget k b hb
    left; exact ⟨rfl, by simp [OS.init, SMap.keys]⟩
  · intro k c hc; simp [OS.init, SMap.get] at hc

theorem C08_inv_add (s s' : OS) (msgs : List Msg) (h : Inv s) (hok : AddOk s msgs)
    (ha : s.add msgs = some s') : Inv s' := by
  obtain ⟨m, lid, lb, ⟨hm, hlast, hlb, hlbm, hmax, hlt, hnn, hl', hc', hget, hkeys, hsorted⟩⟩ :=
    add_effect s s' msgs h hok ha
  have hlidmem : lid ∈ SMap.keys s.db := SMap.get_some_mem _ _ _ hlb
  have hnewid : (⟨msgs, noNext⟩ : Batch).id? = some m.id := by simp [Batch.id?, hm]
  -- the new key is the greatest; every other key is at most the old greatest key `lid`
  have hold : ∀ k' ∈ SMap.keys s'.db, k' = m.id ∨ k' ≤ lid := fun k' hk' => ((hkeys k').1 hk').imp id (hmax k')
  have hmax' : ∀ k' ∈ SMap.keys s'.db, k' ≤ m.id := fun k' hk' => by have := hold k' hk'; omega
  refine ⟨hsorted, ?_, ?_, ?_, ?_⟩
  · intro k b hb
    rw [hget] at hb
    split at hb
    · rename_i hk; subst hk; cases hb; exact ⟨hnewid, hnn⟩
    · split at hb
      · rename_i hk; subst hk; cases hb; exact ⟨hlast, (h.keyId k lb hlb).2⟩
      · exact h.keyId k b hb
  · refine ⟨m.id, ⟨msgs, noNext⟩, ?_, hl' ▸ hnewid, by rw [hl'], rfl, by rw [hl']⟩
    exact SMap.getLast_of_max _ hsorted _ _ (by rw [hget, if_pos rfl]) hmax'
  · intro k b hb
    rw [hget] at hb
    split at hb
    · rename_i hk; subst hk; cases hb
      exact Or.inl ⟨rfl, hmax'⟩
    · split at hb
      · rename_i hk; subst hk; cases hb
        exact Or.inr ⟨hlt, hnn, fun k' hk' hlt' => by have := hold k' hk'; show m.id ≤ k'; omega⟩
      · rename_i hk1 hk2
        have hkle := hmax k (SMap.get_some_mem _ _ _ hb)
        rcases h.link k b hb with ⟨_, h2⟩ | ⟨h1, h2, h3⟩
        · have := h2 lid hlidmem; omega
        · refine Or.inr ⟨h1, h2, fun k' hk' hlt' => ?_⟩
          rcases (hkeys k').1 hk' with rfl | hk'
          · have := h3 lid hlidmem (by omega); omega
          · exact h3 k' hk' hlt'
  · intro k c hc
    rw [hc', SMap.get_erase] at hc
    split at hc
    · cases hc
    · rename_i hk
      have hb := h.cacheOk k c hc
      have hkle := hmax k (SMap.get_some_mem _ _ _ hb)
      rw [hget, if_neg (by omega), if_neg hk]; exact hb

theorem C08_inv_delete (s s' : OS) (id : Nat) (h : Inv s) (hid : id ≠ 0)
    (h0 : 0 ∈ SMap.keys s.db) (hd : s.delete id = some s') : Inv s' ∧ 0 ∈ SMap.keys s'.db := by
  obtain ⟨nl, ob, e⟩ := delete_effect s s' id h hd
  have hnb := h.keyId nl ob e.old
  refine ⟨⟨e.sorted, fun k b hb => ?_, ?_, fun k b hb => ?_, e.cacheOk⟩, (e.keys 0).2 ⟨h0, Ne.symm hid⟩⟩
  · rw [e.get] at hb
    split at hb
    · cases hb
    · split at hb
      · rename_i hk; subst hk; cases hb; exact hnb
      · exact h.keyId k b hb
  · exact ⟨nl, _, SMap.getLast_of_max _ e.sorted _ _ (by rw [e.get, if_neg e.ne, if_pos rfl]) e.max,
      by rw [e.last]; exact hnb.1, by rw [e.last], rfl, by rw [e.last]⟩
  · -- the entries that stay keep their successor facts over fewer keys; the greatest key has none
    rw [e.get] at hb
    split at hb
    · cases hb
    · split at hb
      · rename_i hk; subst hk; cases hb; exact Or.inl ⟨rfl, e.max⟩
      · have hsub : ∀ k' ∈ SMap.keys s'.db, k' ∈ SMap.keys s.db := fun k' hk' => ((e.keys k').1 hk').1
        exact (h.link k b hb).imp (fun ⟨h1, h2⟩ => ⟨h1, fun k' hk' => h2 k' (hsub k' hk')⟩)
          fun ⟨h1, h2, h3⟩ => ⟨h1, h2, fun k' hk' => h3 k' (hsub k' hk')⟩

theorem C08_inv_get (s : OS) (id : Nat) (h : Inv s) :
    Inv (s.get id).1 ∧ (s.get id).1.db = s.db := by
  obtain ⟨c, e, i⟩ := getU_eq s id h
  show Inv (s.getU id).1 ∧ (s.getU id).1.db = s.db
  rw [e]; exact ⟨i, rfl⟩

/-- the abstract content of the stream: a plain map from batch id to messages -/
def contents (s : OS) : SMap (List Msg) := s.db.map (fun e => (e.1, e.2.msgs))

theorem contents_get (s : OS) (k : Nat) :
    SMap.get (contents s) k = (SMap.get s.db k).map (·.msgs) :=
  SMap.get_map (fun b : Batch => b.msgs) s.db k

/-- `Get` returns exactly what is stored under that id -/
theorem C08_get (s : OS) (id : Nat) (h : Inv s) : (s.get id).2 = SMap.get (contents s) id := by
  obtain ⟨c, e, _⟩ := getU_eq s id h
  show (s.getU id).2.map (·.msgs) = _
  rw [e, contents_get]

theorem C08_contents_add (s s' : OS) (msgs : List Msg) (m : Msg) (h : Inv s) (hok : AddOk s msgs)
    (hm : msgs.head? = some m) (ha : s.add msgs = some s') :
    ∀ k, SMap.get (contents s') k = if k = m.id then some msgs else SMap.get (contents s) k := by
  obtain ⟨m', lid, lb, e⟩ := add_effect s s' msgs h hok ha
  obtain rfl : m = m' := Option.some.inj (hm.symm.trans e.head)
  intro k
  rw [contents_get, contents_get, e.get]
  split
  · rfl
  · split
    · rename_i hk; subst hk; rw [e.lastGet]; simp [e.lastMsgs]
    · rfl

set_option linter.unusedVariables false in
theorem C08_contents_delete (s s' : OS) (id : Nat) (h : Inv s) (hid : id ≠ 0)
    (h0 : 0 ∈ SMap.keys s.db) (hd : s.delete id = some s') :
    ∀ k, SMap.get (contents s') k = if k = id then none else SMap.get (contents s) k := by
  obtain ⟨nl, ob, e⟩ := delete_effect s s' id h hd
  intro k
  rw [contents_get, contents_get, e.get]
  split
  · rfl
  · split
    · rename_i hk; subst hk; rw [e.old]; rfl
    · rfl

theorem C08_delete_no_panic (s : OS) (id : Nat) (h : Inv s) (hid : id ≠ 0)
    (h0 : 0 ∈ SMap.keys s.db) : ∃ s', s.delete id = some s' := by
  obtain ⟨lid, _, _, _, _, hcase⟩ := delete_cases s id h
  rcases hcase with ⟨_, hdel⟩ | ⟨_, _, _, _, _, _, hdel⟩ | ⟨rfl, hall, _⟩
  · exact ⟨_, hdel⟩
  · exact ⟨_, hdel⟩
  · -- the sentinel would be the only batch, and it is not the one deleted
    exact absurd (hall 0 h0).symm hid

/-- phase 1: returns the least stored batch above `x`, or decides to wait behind the greatest
key only when nothing above `x` is stored; never panics; `db` unchanged -/
theorem C08_p1 (s : OS) (x : Nat) (h : Inv s) :
    Inv (s.getNextP1 x).1 ∧ (s.getNextP1 x).1.db = s.db ∧
    match (s.getNextP1 x).2 with
    | .ret m => leastAbove s x m
    | .park cur => cur ∈ SMap.keys s.db ∧ cur ≤ x ∧ noneAbove s x
    | .panic => False := by
  obtain ⟨c, e, i, sp⟩ := p1_spec s x h
  rw [e]
  refine ⟨i, rfl, ?_⟩
  generalize (s.getNextP1 x).2 = r at sp
  cases r with
  | ret m => exact sp
  | park c => exact ⟨sp.1, sp.2.1, fun k hk => Nat.le_trans (sp.2.2 k hk) sp.2.1⟩
  | panic => exact sp

/-- one wait-loop stretch entered behind any `cur ≤ x` (which may have been deleted meanwhile):
returns the least stored batch above `x`; blocks only when nothing above `x` is stored; starts
over only if `cur` is gone or the chain from `cur` reaches, at or below `x`, a batch whose
successor was deleted; never panics -/
theorem C08_p2 (s : OS) (x cur : Nat) (h : Inv s) (hc : cur ≤ x) :
    Inv (s.getNextP2 x (s.db.length + 1) cur).1 ∧
    (s.getNextP2 x (s.db.length + 1) cur).1.db = s.db ∧
    match (s.getNextP2 x (s.db.length + 1) cur).2 with
    | .ret m => leastAbove s x m
    | .wait c => c ∈ SMap.keys s.db ∧ c ≤ x ∧ noneAbove s x
    | .restart => cur ∉ SMap.keys s.db ∨ ∃ c, cur ≤ c ∧ c ≤ x ∧ Dangling s c
    | .panic => False := by
  obtain ⟨c, e, i, sp⟩ := p2_spec s x cur h hc
  rw [e]
  refine ⟨i, rfl, ?_⟩
  generalize (s.getNextP2 x (s.db.length + 1) cur).2 = r at sp
  cases r <;> exact sp

/-- phase 1 followed immediately (no interference) by the wait-loop stretch blocks behind the
batch phase 1 chose -/
theorem C08_p1_then_p2_waits (s : OS) (x cur : Nat) (h : Inv s)
    (hp : (s.getNextP1 x).2 = .park cur) :
    ((s.getNextP1 x).1.getNextP2 x ((s.getNextP1 x).1.db.length + 1) cur).2 = .wait cur := by
  obtain ⟨c, e, i, sp⟩ := p1_spec s x h
  rw [hp] at sp
  rw [e]
  exact p2_of_max _ x _ cur i sp.1 sp.2.2

/-- … in particular it never restarts (or panics): a restart cannot loop without interference -/
theorem C08_p1_then_p2_no_restart (s : OS) (x cur : Nat) (h : Inv s)
    (hp : (s.getNextP1 x).2 = .park cur) :
    (∃ c, ((s.getNextP1 x).1.getNextP2 x ((s.getNextP1 x).1.db.length + 1) cur).2 = .wait c) ∨
    (∃ m, ((s.getNextP1 x).1.getNextP2 x ((s.getNextP1 x).1.db.length + 1) cur).2 = .ret m) :=
  Or.inl ⟨cur, C08_p1_then_p2_waits s x cur h hp⟩

def ThreadOk (os : OS) (t : RThread) : Prop :=
  (t.pc ≠ .crashed) ∧ (∀ c, t.pc = .ready (some c) → c ≤ t.x) ∧
  (∀ c, t.pc = .waiting c → c ≤ t.x ∧ noneAbove os t.x)

def SysInv (σ : Sys) : Prop :=
  Inv σ.os ∧ 0 ∈ SMap.keys σ.os.db ∧ ∀ t ∈ σ.rs, (t.pc ≠ .crashed) ∧
    (∀ c, t.pc = .ready (some c) → c ≤ t.x) ∧
    (∀ c, t.pc = .waiting c → c ≤ t.x ∧ noneAbove σ.os t.x)

theorem ThreadOk_signal (s s' : OS) (t : RThread) (ht : ThreadOk s t) : ThreadOk s' (signal t) := by
  unfold signal
  cases hpc : t.pc with
  | waiting c =>
    refine ⟨by simp, ?_, by simp⟩
    intro c' hc'
    simp only [PC.ready.injEq, Option.some.injEq] at hc'
    subst hc'
    exact (ht.2.2 c hpc).1
  | ready c =>
    refine ⟨ht.1, ht.2.1, ?_⟩
    intro c' hc'; rw [hpc] at hc'; cases hc'
  | returned m =>
    refine ⟨ht.1, ht.2.1, ?_⟩
    intro c' hc'; rw [hpc] at hc'; cases hc'
  | crashed => exact absurd hpc ht.1

theorem ThreadOk_delete (s s' : OS) (id : Nat) (h : Inv s)
    (hd : s.delete id = some s') (t : RThread) (ht : ThreadOk s t) : ThreadOk s' t := by
  obtain ⟨_, _, e⟩ := delete_effect s s' id h hd
  refine ⟨ht.1, ht.2.1, fun c hc => ?_⟩
  obtain ⟨hle, hw⟩ := ht.2.2 c hc
  exact ⟨hle, fun k hk => hw k ((e.keys k).1 hk).1⟩

theorem reader_spec (os : OS) (t : RThread) (c : Option Nat) (h : Inv os) (ht : ThreadOk os t)
    (hpc : t.pc = .ready c) :
    ∃ ca, (readerStep os t).1 = { os with cache := ca } ∧ Inv { os with cache := ca } ∧
      ThreadOk os (readerStep os t).2 ∧
      ∀ m, (readerStep os t).2.pc = .returned (some m) → leastAbove os t.x m := by
  unfold readerStep
  rw [hpc]
  cases c with
  | none =>
    simp only
    obtain ⟨ca, e, i, sp⟩ := p1_spec os t.x h
    generalize os.getNextP1 t.x = p at e sp ⊢
    obtain ⟨os1, r⟩ := p
    refine ⟨ca, ?_⟩
    cases r with
    | ret m => exact ⟨e, i, ⟨by simp, by simp, by simp⟩, fun m' hm' => by cases hm'; exact sp⟩
    | park c =>
      refine ⟨e, i, ⟨by simp, ?_, by simp⟩, nofun⟩
      intro c' hc'
      simp only [PC.ready.injEq, Option.some.injEq] at hc'
      subst hc'; exact sp.2.1
    | panic => exact absurd sp id
  | some c =>
    simp only
    obtain ⟨ca, e, i, sp⟩ := p2_spec os t.x c h (ht.2.1 c hpc)
    generalize os.getNextP2 t.x (os.db.length + 1) c = p at e sp ⊢
    obtain ⟨os1, r⟩ := p
    refine ⟨ca, ?_⟩
    cases r with
    | ret m => exact ⟨e, i, ⟨by simp, by simp, by simp⟩, fun m' hm' => by cases hm'; exact sp⟩
    | wait c' =>
      refine ⟨e, i, ?_⟩
      cases hcan : t.cancelled with
      | true => exact ⟨⟨by simp, by simp, by simp⟩, nofun⟩
      | false =>
        refine ⟨⟨by simp, by simp, ?_⟩, nofun⟩
        intro c'' hc''
        simp only [Bool.false_eq_true, ↓reduceIte, PC.waiting.injEq] at hc''
        subst hc''
        exact ⟨sp.2.1, sp.2.2⟩
    | restart => exact ⟨e, i, ⟨by simp, by simp, by simp⟩, nofun⟩
    | panic => exact absurd sp id

/-- the readers only look at `db` -/
theorem SysInv.withCache {σ : Sys} (h : SysInv σ) (c : SMap Batch) (i : Inv { σ.os with cache := c })
    (rs : List RThread)
    (hrs : ∀ t ∈ rs, ThreadOk σ.os t) : SysInv ⟨{ σ.os with cache := c }, rs⟩ :=
  ⟨i, h.2.1, hrs⟩

theorem C08_reach_inv (σ : Sys) (h : Reach σ) : SysInv σ := by
  induction h with
  | init => exact ⟨C08_inv_init, by simp [OS.init, SMap.keys], fun t ht => by simp at ht⟩
  | step σ σ' _ hs ih =>
    obtain ⟨hi, h0, hts⟩ := ih
    cases hs with
    | add msgs os' hok ha =>
      have hi' := C08_inv_add _ _ _ hi hok ha
      obtain ⟨_, _, _, e⟩ := add_effect _ _ _ hi hok ha
      refine ⟨hi', (e.keys 0).2 (Or.inr h0), fun t ht => ?_⟩
      obtain ⟨t0, ht0, rfl⟩ := List.mem_map.1 ht
      exact ThreadOk_signal _ _ _ (hts t0 ht0)
    | delete id os' hid hd =>
      obtain ⟨hi', h0'⟩ := C08_inv_delete _ _ _ hi hid h0 hd
      exact ⟨hi', h0', fun t ht => ThreadOk_delete _ _ _ hi hd t (hts t ht)⟩
    | get id =>
      obtain ⟨c, e, i⟩ := getU_eq σ.os id hi
      show SysInv ⟨(σ.os.getU id).1, σ.rs⟩
      rw [e]; exact SysInv.withCache ⟨hi, h0, hts⟩ c i _ hts
    | interrupt =>
      refine ⟨hi, h0, fun t ht => ?_⟩
      obtain ⟨t0, ht0, rfl⟩ := List.mem_map.1 ht
      exact ThreadOk_signal _ _ _ (hts t0 ht0)
    | call x =>
      refine ⟨hi, h0, fun t ht => ?_⟩
      rcases List.mem_append.1 ht with ht | ht
      · exact hts t ht
      · simp only [List.mem_singleton] at ht
        subst ht
        exact ⟨by simp, by simp, by simp⟩
    | cancel i t hi' =>
      refine ⟨hi, h0, fun t' ht' => ?_⟩
      rcases List.mem_or_eq_of_mem_set ht' with ht' | rfl
      · exact hts t' ht'
      · exact hts t (List.mem_of_getElem? hi')
    | reader i t c hi' hpc =>
      obtain ⟨ca, e, i1, tok, _⟩ := reader_spec σ.os t c hi (hts t (List.mem_of_getElem? hi')) hpc
      rw [e]
      refine SysInv.withCache ⟨hi, h0, hts⟩ ca i1 _ fun t' ht' => ?_
      rcases List.mem_or_eq_of_mem_set ht' with ht' | rfl
      · exact hts t' ht'
      · exact tok

/-- a reader never stays blocked although a successor exists -/
theorem C08_no_lost_wakeup (σ : Sys) (h : Reach σ) (t : RThread) (ht : t ∈ σ.rs) (c : Nat)
    (hw : t.pc = .waiting c) : noneAbove σ.os t.x :=
  (((C08_reach_inv σ h).2.2 t ht).2.2 c hw).2

theorem C08_never_panics (σ : Sys) (h : Reach σ) (t : RThread) (ht : t ∈ σ.rs) :
    t.pc ≠ .crashed :=
  ((C08_reach_inv σ h).2.2 t ht).1

/-- what a reader returns is the least stored batch above `x` at the instant of that step -/
theorem C08_returns_least (σ : Sys) (h : Reach σ) (i : Nat) (t : RThread) (c : Option Nat)
    (hi : σ.rs[i]? = some t) (hr : t.pc = .ready c) (m : List Msg)
    (hret : (readerStep σ.os t).2.pc = .returned (some m)) : leastAbove σ.os t.x m := by
  obtain ⟨hinv, _, hts⟩ := C08_reach_inv σ h
  obtain ⟨_, _, _, _, hleast⟩ := reader_spec σ.os t c hinv (hts t (List.mem_of_getElem? hi)) hr
  exact hleast m hret

-- AUDIT: not vacuous (instance in `Ex` below); `h` and `hi` are unused — the fact holds for every stream
-- and reader, reachable or not.
set_option linter.unusedVariables false in
/-- once cancelled and woken a reader does not block again -/
theorem C08_cancelled_returns (σ : Sys) (h : Reach σ) (i : Nat) (t : RThread) (c : Nat)
    (hi : σ.rs[i]? = some t) (hr : t.pc = .ready (some c)) (hcan : t.cancelled = true) :
    ∀ c', (readerStep σ.os t).2.pc ≠ .waiting c' := by
  intro c'
  unfold readerStep
  rw [hr]
  simp only
  generalize σ.os.getNextP2 t.x (σ.os.db.length + 1) c = p
  obtain ⟨os1, r⟩ := p
  cases r <;> simp [hcan]

-- AUDIT: not vacuous (instance in `Ex` below), but `σ`, `msgs`, `os'` and `ht` are unused: the statement
-- is a fact about `signal` alone; its link to `Add`/`InterruptGetNext` is that `Step.add`/`Step.interrupt` map
-- `signal` over the readers (see the last example of `Ex`, which takes the `Add` step of the system).
set_option linter.unusedVariables false in
/-- `Add`/`InterruptGetNext` make every waiter runnable -/
theorem C08_wakes_on_add (σ : Sys) (msgs : List Msg) (os' : OS) (t : RThread) (ht : t ∈ σ.rs)
    (c : Nat) (hw : t.pc = .waiting c) : (signal t).pc = .ready (some c) := by
  unfold signal; rw [hw]

/-! ### Regression: the former lost wake-up

Schedule: `GetNext(0)` parks behind the sentinel on the fresh stream; `Add 5`; `Add 7` (both
wake the reader, which does not run yet); `Delete 5`; now the reader runs its wait-loop
stretch: batch 0 has `next = 5`, 5 is gone.  The unrepaired loop blocked here although batch 7
is stored; the repaired loop starts over, and phase 1 returns batch 7. -/
namespace Regression

def msg (n : Nat) : List Msg := [⟨n, 0, [], []⟩]
def t0 : RThread := ⟨0, false, .ready none⟩
def t1 : RThread := ⟨0, false, .ready (some 0)⟩
def os2 : OS := ⟨[(0, sentinel)], sentinel, [(0, sentinel)]⟩
def os3 : OS := ⟨[(0, ⟨msg 0, 5⟩), (5, ⟨msg 5, noNext⟩)], ⟨msg 5, noNext⟩, []⟩
def os4 : OS := ⟨[(0, ⟨msg 0, 5⟩), (5, ⟨msg 5, 7⟩), (7, ⟨msg 7, noNext⟩)], ⟨msg 7, noNext⟩, []⟩
def os5 : OS := ⟨[(0, ⟨msg 0, 5⟩), (7, ⟨msg 7, noNext⟩)], ⟨msg 7, noNext⟩, []⟩
def os6 : OS := ⟨[(0, ⟨msg 0, 5⟩), (7, ⟨msg 7, noNext⟩)], ⟨msg 7, noNext⟩, [(0, ⟨msg 0, 5⟩)]⟩

theorem r1 : Reach ⟨OS.init, [t0]⟩ := Reach.step _ _ Reach.init (Step.call ⟨OS.init, []⟩ 0)
theorem r2 : Reach ⟨os2, [t1]⟩ := Reach.step _ _ r1 (Step.reader ⟨OS.init, [t0]⟩ 0 t0 none rfl rfl)
theorem r3 : Reach ⟨os3, [t1]⟩ :=
  Reach.step _ _ r2 (Step.add ⟨os2, [t1]⟩ (msg 5) os3 ⟨_, rfl, by decide, by decide⟩ rfl)
theorem r4 : Reach ⟨os4, [t1]⟩ :=
  Reach.step _ _ r3 (Step.add ⟨os3, [t1]⟩ (msg 7) os4 ⟨_, rfl, by decide, by decide⟩ rfl)
theorem r5 : Reach ⟨os5, [t1]⟩ :=
  Reach.step _ _ r4 (Step.delete ⟨os4, [t1]⟩ 5 os5 (by decide) rfl)

/-- the wait-loop stretch starts over … -/
example : readerStep os5 t1 = (os6, t0) := rfl
/-- … and phase 1 then returns batch 7 -/
example : (readerStep os6 t0).2.pc = .returned (some (msg 7)) := rfl

theorem r7 : Reach ⟨(readerStep os6 t0).1, [(readerStep os6 t0).2]⟩ :=
  Reach.step _ _ (Reach.step _ _ r5 (Step.reader ⟨os5, [t1]⟩ 0 t1 (some 0) rfl rfl))
    (Step.reader ⟨os6, [t0]⟩ 0 t0 none rfl rfl)

end Regression

/-- regenerated: the lock operations of every function of outputstream.go, in source order.  The atomic steps
of the transition system above are these lock regions (read off the code by hand); any change to the locking
structure of the file — a new fast path outside a region, a region split or merged — changes this table and
with it the justification of the model's step boundaries. -/
theorem C08_lock_regions : Robust.Gen.Locks.streamRegions = [
  ("internal/outputstream:OutputStream.Add", ["OutputStream.messagesMu.Lock", "defer OutputStream.messagesMu.Unlock"]),
  ("internal/outputstream:OutputStream.Delete", ["OutputStream.messagesMu.Lock", "defer OutputStream.messagesMu.Unlock"]),
  ("internal/outputstream:OutputStream.Get", ["OutputStream.messagesMu.RLock", "defer OutputStream.messagesMu.RUnlock"]),
  ("internal/outputstream:OutputStream.GetNext", ["OutputStream.messagesMu.RLock", "OutputStream.messagesMu.RUnlock", "OutputStream.messagesMu.RUnlock", "OutputStream.messagesMu.RUnlock", "OutputStream.messagesMu.Lock", "OutputStream.messagesMu.Unlock", "OutputStream.messagesMu.Unlock", "OutputStream.messagesMu.Unlock", "OutputStream.messagesMu.Unlock"]),
  ("internal/outputstream:OutputStream.InterruptGetNext", ["OutputStream.messagesMu.Lock", "defer OutputStream.messagesMu.Unlock"]),
  ("internal/outputstream:OutputStream.LastSeen", ["OutputStream.messagesMu.RLock", "defer OutputStream.messagesMu.RUnlock"]),
  ("internal/outputstream:OutputStream.reset", ["OutputStream.messagesMu.Lock", "defer OutputStream.messagesMu.Unlock"])
] := rfl

/-! ## non-vacuity

Every hypothesis set of the theorems above is instantiated on the populated streams of the regression
schedule (three batches, a deleted middle batch, a warm cache); the invariant of each stream is obtained
from `C08_reach_inv` along the run that produces it, not postulated. -/
namespace Ex
open Regression

theorem r6 : Reach ⟨os6, [t0]⟩ :=
  Reach.step _ _ r5 (Step.reader ⟨os5, [t1]⟩ 0 t1 (some 0) rfl rfl)

theorem inv4 : Inv os4 := (C08_reach_inv _ r4).1
theorem inv5 : Inv os5 := (C08_reach_inv _ r5).1
theorem inv6 : Inv os6 := (C08_reach_inv _ r6).1

/-- `os4` after `Add 9` -/
def os9 : OS := ⟨[(0, ⟨msg 0, 5⟩), (5, ⟨msg 5, 7⟩), (7, ⟨msg 7, 9⟩), (9, ⟨msg 9, noNext⟩)], ⟨msg 9, noNext⟩, []⟩

theorem addOk9 : AddOk os4 (msg 9) := ⟨_, rfl, by decide, by decide⟩

example : Inv os9 := C08_inv_add os4 os9 (msg 9) inv4 addOk9 rfl

/-- `Add` on the stream with a deleted middle batch and a warm cache (only the cached copy of the
last batch, 7, would be invalidated; the cached batch 0 survives) -/
example : Inv ((os6.add (msg 9)).getD os6) ∧ ((os6.add (msg 9)).getD os6).cache = [(0, ⟨msg 0, 5⟩)] :=
  ⟨C08_inv_add os6 _ (msg 9) inv6 ⟨_, rfl, by decide, by decide⟩ rfl, rfl⟩

/-- plain deletion of the middle batch -/
example : Inv os5 ∧ 0 ∈ SMap.keys os5.db := C08_inv_delete os4 os5 5 inv4 (by decide) (by decide) rfl

/-- deletion of the *last* batch: the predecessor is re-pointed and becomes `last` -/
def os4t : OS := ⟨[(0, ⟨msg 0, 5⟩), (5, ⟨msg 5, noNext⟩)], ⟨msg 5, noNext⟩, []⟩
example : Inv os4t ∧ 0 ∈ SMap.keys os4t.db := C08_inv_delete os4 os4t 7 inv4 (by decide) (by decide) rfl

/-- deletion of the last batch with a warm cache holding the predecessor: the stale cached copy
(`next = 5`) is dropped -/
def os6t : OS := ⟨[(0, ⟨msg 0, noNext⟩)], ⟨msg 0, noNext⟩, []⟩
example : Inv os6t ∧ 0 ∈ SMap.keys os6t.db := C08_inv_delete os6 os6t 7 inv6 (by decide) (by decide) rfl

example : Inv (os5.get 7).1 ∧ (os5.get 7).1.db = os5.db := C08_inv_get os5 7 inv5
/-- … and that `Get` did populate the cache -/
example : (os5.get 7).1.cache = [(7, ⟨msg 7, noNext⟩)] := rfl

example : (os4.get 5).2 = some (msg 5) := (C08_get os4 5 inv4).trans rfl
example : (os5.get 5).2 = none := (C08_get os5 5 inv5).trans rfl
/-- through the cache -/
example : (os6.get 0).2 = some (msg 0) := (C08_get os6 0 inv6).trans rfl

example : SMap.get (contents os9) 9 = some (msg 9) :=
  (C08_contents_add os4 os9 (msg 9) _ inv4 addOk9 rfl rfl 9).trans rfl
example : SMap.get (contents os9) 7 = some (msg 7) :=
  (C08_contents_add os4 os9 (msg 9) _ inv4 addOk9 rfl rfl 7).trans rfl

example : SMap.get (contents os5) 5 = none :=
  (C08_contents_delete os4 os5 5 inv4 (by decide) (by decide) rfl 5).trans rfl
example : SMap.get (contents os4t) 5 = some (msg 5) :=
  (C08_contents_delete os4 os4t 7 inv4 (by decide) (by decide) rfl 5).trans rfl

example : ∃ s', os4.delete 7 = some s' := C08_delete_no_panic os4 7 inv4 (by decide) (by decide)
/-- deleting an id that is not stored is fine too -/
example : ∃ s', os5.delete 5 = some s' := C08_delete_no_panic os5 5 inv5 (by decide) (by decide)

/-- phase 1 on the stream whose batch 0 points to the deleted batch 5: range search finds batch 7 -/
example : leastAbove os5 0 (msg 7) := (C08_p1 os5 0 inv5).2.2
/-- phase 1 through the chain -/
example : leastAbove os4 5 (msg 7) := (C08_p1 os4 5 inv4).2.2
/-- phase 1 behind the last batch: park -/
example : 7 ∈ SMap.keys os4.db ∧ 7 ≤ 7 ∧ noneAbove os4 7 := (C08_p1 os4 7 inv4).2.2
/-- phase 1 for an id that is not stored and above everything: park behind the greatest key -/
example : 7 ∈ SMap.keys os5.db ∧ 7 ≤ 8 ∧ noneAbove os5 8 := (C08_p1 os5 8 inv5).2.2

/-- wait-loop stretch: the chain 0 → 5 → 7 is followed, then the reader blocks behind 7 -/
example : (os4.getNextP2 7 (os4.db.length + 1) 0).2 = .wait 7 := rfl
example : 7 ∈ SMap.keys os4.db ∧ 7 ≤ 7 ∧ noneAbove os4 7 := (C08_p2 os4 7 0 inv4 (by decide)).2.2
/-- … returns the first batch above `x` -/
example : leastAbove os4 5 (msg 7) := (C08_p2 os4 5 0 inv4 (by decide)).2.2
/-- … starts over at a dangling link -/
example : 0 ∉ SMap.keys os5.db ∨ ∃ c, 0 ≤ c ∧ c ≤ 0 ∧ Dangling os5 c := (C08_p2 os5 0 0 inv5 (by decide)).2.2
/-- … starts over when the batch waited behind is gone -/
example : 5 ∉ SMap.keys os5.db ∨ ∃ c, 5 ≤ c ∧ c ≤ 6 ∧ Dangling os5 c := (C08_p2 os5 6 5 inv5 (by decide)).2.2

example : ((os4.getNextP1 7).1.getNextP2 7 ((os4.getNextP1 7).1.db.length + 1) 7).2 = .wait 7 :=
  C08_p1_then_p2_waits os4 7 7 inv4 rfl
example : (∃ c, ((os5.getNextP1 9).1.getNextP2 9 ((os5.getNextP1 9).1.db.length + 1) 7).2 = .wait c) ∨
    (∃ m, ((os5.getNextP1 9).1.getNextP2 9 ((os5.getNextP1 9).1.db.length + 1) 7).2 = .ret m) :=
  C08_p1_then_p2_no_restart os5 9 7 inv5 rfl

/-! ### the concurrent system: two readers, one of them blocked, then cancelled and woken -/

def u0 : RThread := ⟨7, false, .ready none⟩
def u1 : RThread := ⟨7, false, .ready (some 7)⟩
def uW : RThread := ⟨7, false, .waiting 7⟩
def uC : RThread := ⟨7, true, .ready (some 7)⟩
/-- `os4` with batch 7 cached by the second reader's phase 1 -/
def os4c : OS := { os4 with cache := [(7, ⟨msg 7, noNext⟩)] }

theorem q1 : Reach ⟨os4, [t1, u0]⟩ := Reach.step _ _ r4 (Step.call ⟨os4, [t1]⟩ 7)
theorem q2 : Reach ⟨os4c, [t1, u1]⟩ := Reach.step _ _ q1 (Step.reader ⟨os4, [t1, u0]⟩ 1 u0 none rfl rfl)
/-- the second reader blocks behind batch 7 while the first one is still runnable -/
theorem qW : Reach ⟨os4c, [t1, uW]⟩ := Reach.step _ _ q2 (Step.reader ⟨os4c, [t1, u1]⟩ 1 u1 (some 7) rfl rfl)
theorem q4 : Reach ⟨os4c, [t1, { uW with cancelled := true }]⟩ :=
  Reach.step _ _ qW (Step.cancel ⟨os4c, [t1, uW]⟩ 1 uW rfl)
theorem qC : Reach ⟨os4c, [t1, uC]⟩ :=
  Reach.step _ _ q4 (Step.interrupt ⟨os4c, [t1, { uW with cancelled := true }]⟩)

example : SysInv ⟨os4c, [t1, uW]⟩ := C08_reach_inv _ qW
example : SysInv ⟨(readerStep os6 t0).1, [(readerStep os6 t0).2]⟩ := C08_reach_inv _ r7

example : noneAbove os4c 7 := C08_no_lost_wakeup _ qW uW (by decide) 7 rfl
example : uW.pc ≠ .crashed := C08_never_panics _ qW uW (by decide)
example : t1.pc ≠ .crashed := C08_never_panics _ qW t1 (by decide)

/-- a return out of phase 1 (after the restart of the regression schedule) … -/
example : leastAbove os6 0 (msg 7) := C08_returns_least _ r6 0 t0 none rfl rfl (msg 7) rfl
/-- … and out of the wait loop (the first reader, woken by the two `Add`s, follows 0 → 5) -/
example : leastAbove os4c 0 (msg 5) := C08_returns_least _ qW 0 t1 (some 0) rfl rfl (msg 5) rfl

/-- the cancelled, woken reader returns `[]` instead of blocking again -/
example : ∀ c', (readerStep os4c uC).2.pc ≠ .waiting c' := C08_cancelled_returns _ qC 1 uC 7 rfl rfl rfl
example : (readerStep os4c uC).2.pc = .returned none := rfl
/-- the same reader, not cancelled, does block again: the hypothesis `cancelled = true` matters -/
example : (readerStep os4c u1).2.pc = .waiting 7 := rfl

example : (signal uW).pc = .ready (some 7) :=
  C08_wakes_on_add ⟨os4c, [t1, uW]⟩ (msg 9) os9 uW (by decide) 7 rfl
/-- … and this is what the `Add` step of the system does with the blocked reader -/
example : Reach ⟨{ os9 with cache := [] }, [t1, u1]⟩ :=
  Reach.step _ _ qW (Step.add ⟨os4c, [t1, uW]⟩ (msg 9) _ ⟨_, rfl, by decide, by decide⟩ rfl)

end Ex

end Robust.Props.C08
