import Robust.Irc.Proofs.PrivHistB
import Robust.Irc.Proofs.FlagOriginEntry
/-!
# C13 — privileged effects require the privilege

For every privileged command the *refusal frame*: if the acting session lacks the privilege, the
handler (when it returns normally) leaves the replicated state exactly as it was and addresses
every message it emits to the acting session only (`Refused c c' sid`:
`c'.st = c.st ∧ ∃ extra, c'.out = c.out ++ extra ∧ ∀ o ∈ extra, o.rcpt = [sid.id]`).

* channel operator (`chanOpOf st nick lc`): KICK, INVITE into `+i`, TOPIC on `+t`, MODE (also IRC operators);
* on the channel: TOPIC set/clear/query;
* IRC operator (`s.operator`): KILL, GLINE, PRIVMSG/NOTICE to `$…`;
* OPER sets the flag only for a `(name, password)` listed in `Config.IRC.Operators`;
  SERVER promotes the session only if `s.pass = "services=" ++ pw` for a configured `pw`
  (otherwise `ERROR :Invalid password`, the session stays open and unchanged);
  services handlers are dispatched only for sessions with `s.server = true`;
* JOIN of an existing channel: admission condition `joinAllowed`, one-shot invitations;
* history: chanop flags of an existing channel never appear through entries of sessions that are
  neither chanop of it, nor IRC operator, nor a services link (`C13_chanop_origin_partial`);
* history: a session's `operator` flag comes from an accepted `OPER` line of that session, or from the
  line that completes its registration when its PASS string has an `oper=<name> <password>` part
  (`maybeLogin` runs an automatic OPER) — in both cases with a pair listed in the configuration at
  that moment; a session's `server` flag comes from an accepted `SERVER` line of that session
  (`C13_oper_flag_history`, `C13_server_flag_history`; section 8).

Model notes.  The captcha path of JOIN (`+x` without invitation) is `.declined` in the model, so
for `+x` the theorems say "an invitation is required".  All theorems are conditional on the
handler returning `.ok` (C06 shows it never panics on invariant states).
Every theorem is followed by a non-vacuity example on the concrete state `Ex.st0`.
-/
namespace Robust.Props.C13
open Robust Robust.Irc

namespace Ex
def alice : Session := { id := ⟨1, 0⟩, nick := "alice", username := "a", loggedIn := true, channels := ["#c"], ircPrefix := ⟨"alice", "a", "robust/0x1"⟩ }
def bob : Session := { id := ⟨2, 0⟩, nick := "bob", username := "b", loggedIn := true, channels := ["#c"], ircPrefix := ⟨"bob", "b", "robust/0x2"⟩ }
/-- carol is not on `#c`; she gave `PASS services=wrong` -/
def carol : Session := { id := ⟨3, 0⟩, nick := "carol", username := "c", loggedIn := true, ircPrefix := ⟨"carol", "c", "robust/0x3"⟩, pass := "services=wrong" }
/-- dave has just connected and gave `PASS services=sekrit` -/
def dave : Session := { id := ⟨4, 0⟩, pass := "services=sekrit" }
/-- `#c` (`+nti`): alice is channel operator, bob a plain member -/
def chanC : Channel := { name := "#c", nicks := [("alice", { chanop := true }), ("bob", {})], modes := ['n', 't', 'i'] }
def cfg : Config := { operators := [("root", "pw")], services := ["sekrit"] }
def st0 : St := { sessions := [(⟨1, 0⟩, alice), (⟨2, 0⟩, bob), (⟨3, 0⟩, carol), (⟨4, 0⟩, dave)], nicks := [("alice", ⟨1, 0⟩), ("bob", ⟨2, 0⟩), ("carol", ⟨3, 0⟩)], channels := [("#c", chanC)], config := cfg }
def c0 : Ctx := { st := st0, msgid := 7 }
def aliceId : Id := ⟨1, 0⟩
def bobId : Id := ⟨2, 0⟩
def carolId : Id := ⟨3, 0⟩
def daveId : Id := ⟨4, 0⟩
def result (r : Res Ctx) : Option (St × List (List Nat)) :=
  match r with
  | .ok c => some (c.st, c.out.map Out.rcpt)
  | _ => none
def unchanged (r : Res Ctx) (who : Nat) : Bool :=
  match result r with
  | some (st, rc) => decide (st = st0) && rc.all (· == [who])
  | none => false
theorem ok_of_result {r : Res Ctx} {st : St} {rc : List (List Nat)} (h : result r = some (st, rc)) :
    ∃ c', r = .ok c' ∧ c'.st = st := by
  cases r with
  | ok c => simp only [result, Option.some.injEq, Prod.mk.injEq] at h; exact ⟨c, rfl, h.1⟩
  | panic x => simp [result] at h
  | declined x => simp [result] at h
/-- a handler call that returns (`h`, by evaluation) returns a context to which `k` applies -/
theorem ok_and {r : Res Ctx} {P : Ctx → Prop} (h : (result r).isSome = true) (k : ∀ c', r = .ok c' → P c') :
    ∃ c', r = .ok c' ∧ P c' := by
  cases r with
  | ok c => exact ⟨c, rfl, k c rfl⟩
  | panic x => cases h
  | declined x => cases h
/-- the same when `k` needs a fact `Q` of the state returned: `h` evaluates the call once for both -/
theorem ok_with {r : Res Ctx} {P : Ctx → Prop} {Q : St → Bool} (h : ((result r).map (·.1)).any Q = true)
    (k : ∀ c', r = .ok c' → Q c'.st = true → P c') : ∃ c', r = .ok c' ∧ P c' := by
  cases r with
  | ok c => exact ⟨c, rfl, k c rfl h⟩
  | panic x => cases h
  | declined x => cases h
example : invB st0 = true := by decide +kernel
end Ex
open Ex

/-! ## 1. channel operator: KICK, INVITE, TOPIC -/

/-- KICK by a session that is not a channel operator of that channel (no such channel, not a
member, or a member without the flag): nobody is removed, nothing else changes, the only output
is a numeric to the actor. -/
theorem C13_kick_requires_chanop {c c' : Ctx} {sid : Id} {m : IrcMsg} {s : Session} {chn : String}
    (hs : AMap.get c.st.sessions sid = some s) (hp0 : m.params[0]? = some chn)
    (hnop : chanOpOf c.st s.nick (chanToLower chn) = false)
    (hr : cmdKick c sid m = .ok c') : Refused c c' sid :=
  ((cmdKick_guard hs hp0).apply hr).resolve_left (Bool.eq_false_iff.1 hnop)

/-- bob (plain member) kicks alice: refused, state as before, only bob is told -/
example : ∃ c', cmdKick c0 bobId ⟨none, "KICK", ["#c", "alice"]⟩ = .ok c' ∧ Refused c0 c' bobId :=
  ok_and (by decide +kernel) fun _ hr => C13_kick_requires_chanop (s := bob) (chn := "#c") (by decide +kernel) (by decide +kernel) (by decide +kernel) hr
example : unchanged (cmdKick c0 bobId ⟨none, "KICK", ["#c", "alice"]⟩) 2 = true := by decide +kernel
/-- contrast: alice (chanop) kicks bob: bob is removed, both are told -/
example : (result (cmdKick c0 aliceId ⟨none, "KICK", ["#c", "bob"]⟩)).map (fun r => (memberOf r.1 "bob" "#c", r.2))
    = some (none, [[1, 2]]) := by decide +kernel

/-- INVITE into an invite-only (`+i`) channel by a member without the chanop flag: no invitation is
recorded (state unchanged), the invitee is not notified. -/
theorem C13_invite_requires_chanop {c c' : Ctx} {sid : Id} {m : IrcMsg} {s : Session} {chn : String} {ch : Channel}
    (hs : AMap.get c.st.sessions sid = some s) (hp1 : m.params[1]? = some chn)
    (hch : AMap.get c.st.channels (chanToLower chn) = some ch) (hi : ch.modes.contains 'i' = true)
    (hnop : chanOpOf c.st s.nick (chanToLower chn) = false)
    (hr : cmdInvite c sid m = .ok c') : Refused c c' sid := by
  refine ((cmdInvite_guard hs hp1).apply hr).resolve_left fun ⟨ch', mem, hch', hmem, himp⟩ => ?_
  rw [hch] at hch'
  cases hch'
  unfold chanOpOf at hnop
  rw [hmem] at hnop
  exact Bool.eq_false_iff.1 hnop (himp hi)

example : ∃ c', cmdInvite c0 bobId ⟨none, "INVITE", ["carol", "#c"]⟩ = .ok c' ∧ Refused c0 c' bobId :=
  ok_and (by decide +kernel) fun _ hr => C13_invite_requires_chanop (s := bob) (chn := "#c") (ch := chanC) (by decide +kernel) (by decide +kernel) (by decide +kernel)
    (by decide +kernel) (by decide +kernel) hr
/-- contrast: alice's INVITE records the invitation for carol -/
example : (result (cmdInvite c0 aliceId ⟨none, "INVITE", ["carol", "#c"]⟩)).map
    (fun r => (AMap.get r.1.sessions carolId).map (·.invitedTo)) = some (some ["#c"]) := by decide +kernel

/-- INVITE by a session that is not on the channel (whatever the channel modes): refused. -/
theorem C13_invite_requires_membership {c c' : Ctx} {sid : Id} {m : IrcMsg} {s : Session} {chn : String}
    (hs : AMap.get c.st.sessions sid = some s) (hp1 : m.params[1]? = some chn)
    (hnot : memberOf c.st s.nick (chanToLower chn) = none)
    (hr : cmdInvite c sid m = .ok c') : Refused c c' sid :=
  ((cmdInvite_guard hs hp1).apply hr).resolve_left fun ⟨_, _, _, hmem, _⟩ => by
    rw [hnot] at hmem
    cases hmem

example : ∃ c', cmdInvite c0 carolId ⟨none, "INVITE", ["carol", "#c"]⟩ = .ok c' ∧ Refused c0 c' carolId :=
  ok_and (by decide +kernel) fun _ hr => C13_invite_requires_membership (s := carol) (chn := "#c") (by decide +kernel) (by decide +kernel) (by decide +kernel) hr

/-- TOPIC (set, clear or query) by a session that does not list the channel: nothing changes.
(`cmdTopic` tests the session's channel list; `C13_topic_requires_membership'` is the same
statement on the channel's member map, for states satisfying the invariant.) -/
theorem C13_topic_requires_membership {c c' : Ctx} {sid : Id} {m : IrcMsg} {s : Session} {chn : String}
    (hs : AMap.get c.st.sessions sid = some s) (hp0 : m.params[0]? = some chn)
    (hnot : s.channels.contains (chanToLower chn) = false)
    (hr : cmdTopic c sid m = .ok c') : Refused c c' sid :=
  ((cmdTopic_guard hs hp0).apply hr).resolve_left fun h => Bool.eq_false_iff.1 hnot h.1

/-- carol is not on `#c`: neither setting nor clearing the topic has an effect -/
example : ∃ c', cmdTopic c0 carolId ⟨none, "TOPIC", ["#c", "x"]⟩ = .ok c' ∧ Refused c0 c' carolId :=
  ok_and (by decide +kernel) fun _ hr => C13_topic_requires_membership (s := carol) (chn := "#c") (by decide +kernel) (by decide +kernel) (by decide +kernel) hr
example : unchanged (cmdTopic c0 carolId ⟨none, "TOPIC", ["#c", ""]⟩) 3 = true := by decide +kernel

theorem C13_topic_requires_membership' {c c' : Ctx} {sid : Id} {m : IrcMsg} {s : Session} {chn : String}
    (hw : WInv c.st) (hs : AMap.get c.st.sessions sid = some s) (hl : s.deleted = false) (hn : s.nick ≠ "")
    (hp0 : m.params[0]? = some chn) (hnot : memberOf c.st s.nick (chanToLower chn) = none)
    (hr : cmdTopic c sid m = .ok c') : Refused c c' sid :=
  C13_topic_requires_membership hs hp0
    (Bool.eq_false_iff.2 fun hc => by
      obtain ⟨ch, mem, h1, h2⟩ := hw.listed_member hs hl hn (List.contains_iff_mem.1 hc)
      rw [memberOf_of_get h1, h2] at hnot
      cases hnot) hr

/-- TOPIC on a `+t` channel by a session without the chanop flag: the topic is neither set nor
cleared (a query is answered to the actor). -/
theorem C13_topic_requires_chanop_on_t {c c' : Ctx} {sid : Id} {m : IrcMsg} {s : Session} {chn : String} {ch : Channel}
    (hs : AMap.get c.st.sessions sid = some s) (hp0 : m.params[0]? = some chn)
    (hch : AMap.get c.st.channels (chanToLower chn) = some ch) (ht : ch.modes.contains 't' = true)
    (hnop : chanOpOf c.st s.nick (chanToLower chn) = false)
    (hr : cmdTopic c sid m = .ok c') : Refused c c' sid :=
  ((cmdTopic_guard hs hp0).apply hr).resolve_left fun ⟨_, ch', hch', himp⟩ => by
    rw [hch] at hch'
    cases hch'
    exact Bool.eq_false_iff.1 hnop (himp ht)

example : ∃ c', cmdTopic c0 bobId ⟨none, "TOPIC", ["#c", "new topic"]⟩ = .ok c' ∧ Refused c0 c' bobId :=
  ok_and (by decide +kernel) fun _ hr => C13_topic_requires_chanop_on_t (s := bob) (chn := "#c") (ch := chanC) (by decide +kernel) (by decide +kernel) (by decide +kernel)
    (by decide +kernel) (by decide +kernel) hr
example : unchanged (cmdTopic c0 bobId ⟨none, "TOPIC", ["#c", ""]⟩) 2 = true := by decide +kernel
/-- contrast: alice sets the topic -/
example : (result (cmdTopic c0 aliceId ⟨none, "TOPIC", ["#c", "new topic"]⟩)).map
    (fun r => (AMap.get r.1.channels "#c").map (·.topic)) = some (some "new topic") := by decide +kernel

/-! ## 2. MODE on a channel -/

/-- MODE on a channel the actor is on, the actor being neither channel operator there nor IRC
operator: the state is unchanged — modes, key, ban list, chanop flags — whatever the mode string
(every letter of a multi-letter string, with or without parameters, `+b`/`-b` with a mask); the
ban-list query (`+b` without mask) and the mode query are answered to the actor only. -/
theorem C13_mode_requires_chanop_or_oper {c c' : Ctx} {sid : Id} {m : IrcMsg} {s : Session} {chn : String}
    (hs : AMap.get c.st.sessions sid = some s) (hp0 : m.params[0]? = some chn)
    (hon : s.channels.contains (chanToLower chn) = true)
    (hnop : chanOpOf c.st s.nick (chanToLower chn) = false) (hno : s.operator = false)
    (hr : cmdMode c sid m = .ok c') : Refused c c' sid :=
  ((cmdMode_guard hs hp0 hon).apply hr).resolve_left fun h =>
    h.elim (Bool.eq_false_iff.1 hnop) (Bool.eq_false_iff.1 hno)

/-- bob tries `+o bob`, `-t`, a ban and a key in one mode string: nothing happens -/
example : ∃ c', cmdMode c0 bobId ⟨none, "MODE", ["#c", "+o-t+bk", "bob", "x!*@*", "key"]⟩ = .ok c' ∧ Refused c0 c' bobId :=
  ok_and (by decide +kernel) fun _ hr => C13_mode_requires_chanop_or_oper (s := bob) (chn := "#c") (by decide +kernel) (by decide +kernel) (by decide +kernel) (by decide +kernel)
    (by decide +kernel) hr
example : unchanged (cmdMode c0 bobId ⟨none, "MODE", ["#c", "-o+b", "alice", "alice!*@*"]⟩) 2 = true := by decide +kernel
/-- contrast: alice's `+o bob` makes bob a channel operator -/
example : (result (cmdMode c0 aliceId ⟨none, "MODE", ["#c", "+o", "bob"]⟩)).map (fun r => chanOpOf r.1 "bob" "#c")
    = some true := by decide +kernel

/-- … and whether or not the actor is on the channel: no channel changes at all (off the channel
the handler treats the target as a nickname; that branch never touches a channel). -/
theorem C13_mode_channels_unchanged {c c' : Ctx} {sid : Id} {m : IrcMsg} {s : Session} {chn : String}
    (hs : AMap.get c.st.sessions sid = some s) (hp0 : m.params[0]? = some chn)
    (hnop : chanOpOf c.st s.nick (chanToLower chn) = false) (hno : s.operator = false)
    (hr : cmdMode c sid m = .ok c') : c'.st.channels = c.st.channels := by
  cases hon : s.channels.contains (chanToLower chn) with
  | true => rw [(C13_mode_requires_chanop_or_oper hs hp0 hon hnop hno hr).st]
  | false => exact ((cmdMode_off hs hp0 hon).apply hr).1

theorem Ex.modeCarol_ok : (result (cmdMode c0 carolId ⟨none, "MODE", ["#c", "+o", "carol"]⟩)).isSome = true := by
  decide +kernel
/-- carol is not on `#c` -/
example : ∃ c', cmdMode c0 carolId ⟨none, "MODE", ["#c", "+o", "carol"]⟩ = .ok c' ∧ c'.st.channels = c0.st.channels :=
  ok_and modeCarol_ok fun _ hr => C13_mode_channels_unchanged (s := carol)
    (chn := "#c") (by decide +kernel) (by decide +kernel) (by decide +kernel) (by decide +kernel) hr

/-- MODE naming something the actor is not on and that is not its own nickname, by a non-operator:
nothing changes. -/
theorem C13_mode_off_channel_refused {c c' : Ctx} {sid : Id} {m : IrcMsg} {s : Session} {chn : String}
    (hs : AMap.get c.st.sessions sid = some s) (hp0 : m.params[0]? = some chn)
    (hon : s.channels.contains (chanToLower chn) = false)
    (hne : nickToLower chn ≠ nickToLower s.nick) (hno : s.operator = false)
    (hr : cmdMode c sid m = .ok c') : Refused c c' sid :=
  ((cmdMode_off hs hp0 hon).apply hr).2.resolve_left fun h => h.elim hne (Bool.eq_false_iff.1 hno)

example : ∃ c', cmdMode c0 carolId ⟨none, "MODE", ["#c", "+o", "carol"]⟩ = .ok c' ∧ Refused c0 c' carolId :=
  ok_and modeCarol_ok fun _ hr => C13_mode_off_channel_refused (s := carol) (chn := "#c") (by decide +kernel) (by decide +kernel) (by decide +kernel) (by decide +kernel)
    (by decide +kernel) hr

/-! ## 3. IRC operator: KILL, GLINE, network-wide notices -/

theorem C13_kill_requires_oper {c c' : Ctx} {sid : Id} {m : IrcMsg} {s : Session}
    (hs : AMap.get c.st.sessions sid = some s) (hno : s.operator = false)
    (hr : cmdKill c sid m = .ok c') : Refused c c' sid :=
  ((cmdKill_guard hs).apply hr).resolve_left (Bool.eq_false_iff.1 hno)

example : ∃ c', cmdKill c0 bobId ⟨none, "KILL", ["alice", "bye"]⟩ = .ok c' ∧ Refused c0 c' bobId :=
  ok_and (by decide +kernel) fun _ hr => C13_kill_requires_oper (s := bob) (by decide +kernel) (by decide +kernel) hr

theorem C13_gline_requires_oper {c c' : Ctx} {sid : Id} {m : IrcMsg} {s : Session}
    (hs : AMap.get c.st.sessions sid = some s) (hno : s.operator = false)
    (hr : cmdGline c sid m = .ok c') : Refused c c' sid :=
  ((cmdGline_guard hs).apply hr).resolve_left (Bool.eq_false_iff.1 hno)

example : ∃ c', cmdGline c0 bobId ⟨none, "GLINE", ["alice", "bye"]⟩ = .ok c' ∧ Refused c0 c' bobId :=
  ok_and (by decide +kernel) fun _ hr => C13_gline_requires_oper (s := bob) (by decide +kernel) (by decide +kernel) hr

/-- PRIVMSG / NOTICE to a `$…` target by a non-operator reaches nobody but the actor (numeric 481). -/
theorem C13_global_notice_requires_oper {c c' : Ctx} {sid : Id} {m : IrcMsg} {s : Session} {p0 : String}
    (hs : AMap.get c.st.sessions sid = some s) (hno : s.operator = false)
    (hp0 : m.params[0]? = some p0) (hh : hasPrefix p0 "#" = false) (hd : hasPrefix p0 "$" = true)
    (hr : cmdPrivmsg c sid m = .ok c') : Refused c c' sid :=
  ((cmdPrivmsg_dollar_guard hs hp0 hh hd).apply hr).resolve_left (Bool.eq_false_iff.1 hno)

example : ∃ c', cmdPrivmsg c0 bobId ⟨none, "NOTICE", ["$*", "hello all"]⟩ = .ok c' ∧ Refused c0 c' bobId :=
  ok_and (by decide +kernel) fun _ hr => C13_global_notice_requires_oper (s := bob) (p0 := "$*") (by decide +kernel) (by decide +kernel) (by decide +kernel) (by decide +kernel)
    (by decide +kernel) hr

/-! ## 4. OPER, SERVER, dispatch of services commands -/

/-- OPER with a `(name, password)` pair that is not configured: nothing changes. -/
theorem C13_oper_requires_configured_credentials {c c' : Ctx} {sid : Id} {m : IrcMsg} {s : Session}
    {name password : String}
    (hs : AMap.get c.st.sessions sid = some s) (hp0 : m.params[0]? = some name) (hp1 : m.params[1]? = some password)
    (hno : operListed c.st.config name password = false)
    (hr : cmdOper c sid m = .ok c') : Refused c c' sid :=
  ((cmdOper_cases hs hp0 hp1).apply hr).elim (fun h => absurd h.1 (Bool.eq_false_iff.1 hno)) fun h => h.2

example : ∃ c', cmdOper c0 bobId ⟨none, "OPER", ["root", "wrong"]⟩ = .ok c' ∧ Refused c0 c' bobId :=
  ok_and (by decide +kernel) fun _ hr => C13_oper_requires_configured_credentials (s := bob) (name := "root") (password := "wrong") (by decide +kernel)
    (by decide +kernel) (by decide +kernel) (by decide +kernel) hr
/-- contrast: the configured pair turns the flag on -/
example : (result (cmdOper c0 bobId ⟨none, "OPER", ["root", "pw"]⟩)).map
    (fun r => (AMap.get r.1.sessions bobId).map (·.operator)) = some (some true) := by decide +kernel

/-- if OPER turned the actor's operator flag on, the pair was configured -/
theorem C13_oper_flag_only_if_listed {c c' : Ctx} {sid : Id} {m : IrcMsg} {s s' : Session} {name password : String}
    (hs : AMap.get c.st.sessions sid = some s) (hp0 : m.params[0]? = some name) (hp1 : m.params[1]? = some password)
    (hr : cmdOper c sid m = .ok c') (hs' : AMap.get c'.st.sessions sid = some s')
    (hbefore : s.operator = false) (hafter : s'.operator = true) :
    operListed c.st.config name password = true := by
  rcases (cmdOper_cases hs hp0 hp1).apply hr with h | h
  · exact h.1
  · rw [h.2.st, hs] at hs'
    cases hs'
    rw [hbefore] at hafter
    cases hafter

/-- bob's successful OPER: the hypotheses hold with `s' = bob` plus the flag, the pair is the configured one -/
example : operListed cfg "root" "pw" = true :=
  C13_oper_flag_only_if_listed (c := c0) (sid := bobId) (m := ⟨none, "OPER", ["root", "pw"]⟩) (s := bob)
    (s' := { bob with operator := true, modes := ['o'] }) (c' := _) (by decide +kernel) (by decide +kernel) (by decide +kernel) rfl (by decide +kernel)
    (by decide +kernel) (by decide +kernel)

/-- SERVER from a session whose PASS is not `services=<configured password>`: `ERROR :Invalid
password` to the actor; the session is neither promoted to a services link nor closed. -/
theorem C13_server_requires_services_password {c c' : Ctx} {sid : Id} {m : IrcMsg} {s : Session}
    (hs : AMap.get c.st.sessions sid = some s) (hno : servicesAuth c.st.config s.pass = false)
    (hr : cmdServer c sid m = .ok c') : Refused c c' sid :=
  ((cmdServer_guard hs).apply hr).resolve_left (Bool.eq_false_iff.1 hno)

example : ∃ c', cmdServer c0 carolId ⟨none, "SERVER", ["services.x", "1"]⟩ = .ok c' ∧ Refused c0 c' carolId :=
  ok_and (by decide +kernel) fun _ hr => C13_server_requires_services_password (s := carol) (by decide +kernel) (by decide +kernel) hr

/-- if SERVER turned the actor's `server` flag on, the password was configured -/
theorem C13_server_flag_only_if_authenticated {c c' : Ctx} {sid : Id} {m : IrcMsg} {s s' : Session}
    (hs : AMap.get c.st.sessions sid = some s)
    (hr : cmdServer c sid m = .ok c') (hs' : AMap.get c'.st.sessions sid = some s')
    (hbefore : s.server = false) (hafter : s'.server = true) :
    servicesAuth c.st.config s.pass = true := by
  rcases (cmdServer_guard hs).apply hr with h | hR
  · exact h
  · rw [hR.st, hs] at hs'
    cases hs'
    rw [hbefore] at hafter
    cases hafter

/-- dave's SERVER after `PASS services=sekrit` promotes the session to a services link (on a state
without registered users, so that the burst is empty) -/
def Ex.cD : Ctx := { st := { sessions := [(⟨4, 0⟩, dave)], config := cfg }, msgid := 7 }
def Ex.daveS : Session := { dave with server := true, ircPrefix := ⟨"services.x", "", ""⟩ }
example : servicesAuth cfg dave.pass = true := by
  obtain ⟨c', hr, hst⟩ := ok_of_result (r := cmdServer cD daveId ⟨none, "SERVER", ["services.x", "1"]⟩)
    (st := { sessions := [(⟨4, 0⟩, daveS)], config := cfg, serverSessions := [4] }) (rc := [[4]]) (by decide +kernel)
  exact C13_server_flag_only_if_authenticated (c := cD) (sid := daveId) (s := dave) (s' := daveS) (by decide) hr
    (by rw [hst]; decide) (by decide) (by decide)

/-- the regenerated command table: services handlers (`cmdServerInvite … cmdServerTopic`) are
registered under `server_…` keys only -/
theorem C13_services_handlers_under_server_keys :
    Gen.Commands.commands.all (fun e =>
      (startsLowerS e.1 || !isServicesHandlerName e.2.1) && (startsLowerS e.1 == hasPrefix e.1 "server_")) = true :=
  table_services_keys

/-- the dispatch for a session that is not a services link: a numeric to the actor, or a handler
that is not a services handler (`ClientDispatched`) -/
theorem C13_dispatch_client {c c' : Ctx} {s : Session} {m : IrcMsg} {x : String}
    (hsv : s.server = false) (hr : dispatchStage c s m (toUpper x) = .ok c') :
    ClientDispatched c s m (toUpper x) c' :=
  dispatchStage_client hsv hr

/-- bob types `SVSMODE` (a services command): for a client session that is an unknown command -/
example : ∃ c', dispatchStage c0 bob ⟨none, "svsmode", ["alice", "+o"]⟩ (toUpper "svsmode") = .ok c' ∧
    ClientDispatched c0 bob ⟨none, "svsmode", ["alice", "+o"]⟩ (toUpper "svsmode") c' ∧ c'.st = st0 := by
  obtain ⟨c', hr, hst⟩ := ok_of_result (r := dispatchStage c0 bob ⟨none, "svsmode", ["alice", "+o"]⟩ (toUpper "svsmode"))
    (st := st0) (rc := [[2]]) (by decide +kernel)
  exact ⟨c', hr, C13_dispatch_client (by decide) hr, hst⟩

/-- `ProcessMessage` on a line of a session with `server = false` (on an invariant state): the
remote-address stage keeps the flag, and the line is then gated and dispatched as a client line
(`gateStage`, for which `gateStage_client` / `C13_dispatch_client` apply): no services handler runs. -/
theorem C13_services_commands_need_link {c c' : Ctx} {e : Entry} {m : IrcMsg} {s : Session}
    (hp : Pre c e.session) (hn : NI c.st) (hs : AMap.get c.st.sessions e.session = some s) (hsv : s.server = false)
    (hr : processMessage c e (some m) = .ok c') :
    ∃ c1 b, addrStage c e s = .ok (c1, b) ∧ (b = true → c' = c1) ∧
      (b = false → ∃ s1, AMap.get c1.st.sessions e.session = some s1 ∧ s1.server = false ∧
        (ClientDispatched c1 s1 m (toUpper m.command) c' ∨
          (s1.loggedIn = false ∧
            (c' = sendUser c1 s1.id (srv c1 "451" [toUpper m.command, "You have not registered"]) ∨
             deleteSession (sendUser (sendUser c1 s1.id (srv c1 "451" [toUpper m.command, "You have not registered"])) s1.id
               ⟨none, "ERROR", ["Closing Link: You have not registered within 10 minutes"]⟩) s1.id = .ok c')))) := by
  obtain ⟨c1, b, h1, h2, h3⟩ := processMessage_client hp hn hs hsv hr
  refine ⟨c1, b, h1, h2, fun hb => ?_⟩
  obtain ⟨s1, hs1, hsv1, hg⟩ := h3 hb
  exact ⟨s1, hs1, hsv1, gateStage_client hs1 hsv1 hg⟩

/-! ## 5. JOIN of an existing channel -/

/-- JOIN of an existing channel whose admission condition (`joinAllowed`: invitation on `+i` and on
`+x`, no matching ban, exact key on `+k`) fails: the session does not become a member, nothing
changes (in particular an invitation is not consumed). -/
theorem C13_join_refused {c c' : Ctx} {sid : Id} {s : Session} {chn key : String} {ch : Channel}
    (hs : AMap.get c.st.sessions sid = some s)
    (hch : AMap.get c.st.channels (chanToLower chn) = some ch)
    (hno : joinAllowed s ch (chanToLower chn) key = false)
    (hr : joinOne c sid chn key = .ok c') : Refused c c' sid := by
  refine Res.Sat.apply (P := fun c' => Refused c c' sid) ?_ hr
  rw [joinOne_eq]
  refine .bindEq (getS_of_get hs) (.ite (fun _ => .pure (.reply c sid _)) fun _ => ?_)
  refine (joinAdmit_existing hch).andThen fun r h => ?_
  rcases h with ⟨_, hmm, hR⟩ | ⟨h, _, _⟩
  · rw [hmm]
    exact .pure hR
  · rw [hno] at h
    cases h

/-- carol has no invitation for the `+i` channel `#c` -/
example : ∃ c', joinOne c0 carolId "#c" "" = .ok c' ∧ Refused c0 c' carolId :=
  ok_and (by decide +kernel) fun _ hr => C13_join_refused (chn := "#c") (key := "") (s := carol) (ch := chanC)
    (by decide +kernel) (by decide +kernel) (by decide +kernel) hr

/-- a session that was not a member of the existing channel and is one after the JOIN satisfied
the admission condition -/
theorem C13_join_member_only_if {c c' : Ctx} {sid : Id} {s : Session} {chn key : String} {ch : Channel}
    (hs : AMap.get c.st.sessions sid = some s)
    (hch : AMap.get c.st.channels (chanToLower chn) = some ch)
    (hbefore : memberOf c.st s.nick (chanToLower chn) = none)
    (hafter : memberOf c'.st s.nick (chanToLower chn) ≠ none)
    (hr : joinOne c sid chn key = .ok c') : joinAllowed s ch (chanToLower chn) key = true := by
  cases h : joinAllowed s ch (chanToLower chn) key with
  | true => rfl
  | false =>
    rw [(C13_join_refused hs hch h hr).st] at hafter
    exact absurd hbefore hafter

namespace Ex
/-- the context after alice's `INVITE carol #c` -/
def c1 : Ctx :=
  match cmdInvite c0 aliceId ⟨none, "INVITE", ["carol", "#c"]⟩ with
  | .ok c => c
  | _ => c0
def carol1 : Session := { carol with invitedTo := ["#c"] }
/-- what the examples use of `c1`: alice's INVITE is evaluated once -/
theorem c1B : AMap.get c1.st.sessions carolId = some carol1 ∧ AMap.get c1.st.channels "#c" = some chanC ∧
    memberOf c1.st "carol" "#c" = none := by decide +kernel
/-- on `c1`, carol's `joinOne` and her `JOIN` return, and she is a member afterwards -/
theorem joinOneC1 : ((result (joinOne c1 carolId "#c" "")).map (·.1)).any
    (fun st => memberOf st "carol" "#c" != none) = true := by decide +kernel
theorem cmdJoinC1 : ((result (cmdJoin c1 carolId ⟨none, "JOIN", ["#c"]⟩)).map (·.1)).any
    (fun st => memberOf st "carol" "#c" != none) = true := by decide +kernel
end Ex
/-- carol, invited, joins `#c`: not a member before, a member after, and the condition holds -/
example : ∃ c', joinOne c1 carolId "#c" "" = .ok c' ∧ joinAllowed carol1 chanC "#c" "" = true :=
  ok_with joinOneC1 fun _ hr hafter => C13_join_member_only_if (s := carol1) (chn := "#c") (key := "") (ch := chanC)
    c1B.1 c1B.2.1 c1B.2.2 (bne_iff_ne.1 hafter) hr

/-- the same for the command `JOIN <chn> [<key>]` with a single channel name -/
theorem C13_cmdJoin_member_only_if {c c' : Ctx} {sid : Id} {m : IrcMsg} {s : Session} {chn : String} {ch : Channel}
    (hs : AMap.get c.st.sessions sid = some s) (hp0 : m.params[0]? = some chn) (hc : ',' ∉ chn.toList)
    (hch : AMap.get c.st.channels (chanToLower chn) = some ch)
    (hbefore : memberOf c.st s.nick (chanToLower chn) = none)
    (hafter : memberOf c'.st s.nick (chanToLower chn) ≠ none)
    (hr : cmdJoin c sid m = .ok c') : joinAllowed s ch (chanToLower chn) (firstJoinKey m) = true :=
  C13_join_member_only_if hs hch hbefore hafter (cmdJoin_single_ok hp0 hc hr)

example : ∃ c', cmdJoin c1 carolId ⟨none, "JOIN", ["#c"]⟩ = .ok c' ∧
    joinAllowed carol1 chanC "#c" (firstJoinKey ⟨none, "JOIN", ["#c"]⟩) = true :=
  ok_with cmdJoinC1 fun _ hr hafter => C13_cmdJoin_member_only_if (s := carol1) (chn := "#c") (ch := chanC)
    c1B.1 (by decide) (by decide) c1B.2.1 c1B.2.2 (bne_iff_ne.1 hafter) hr

theorem C13_cmdJoin_refused {c c' : Ctx} {sid : Id} {m : IrcMsg} {s : Session} {chn : String} {ch : Channel}
    (hs : AMap.get c.st.sessions sid = some s) (hp0 : m.params[0]? = some chn) (hc : ',' ∉ chn.toList)
    (hch : AMap.get c.st.channels (chanToLower chn) = some ch)
    (hno : joinAllowed s ch (chanToLower chn) (firstJoinKey m) = false)
    (hr : cmdJoin c sid m = .ok c') : Refused c c' sid :=
  C13_join_refused hs hch hno (cmdJoin_single_ok hp0 hc hr)

example : ∃ c', cmdJoin c0 carolId ⟨none, "JOIN", ["#c"]⟩ = .ok c' ∧ Refused c0 c' carolId :=
  ok_and (by decide +kernel) fun _ hr => C13_cmdJoin_refused (s := carol) (chn := "#c") (ch := chanC) (by decide +kernel) (by decide +kernel) (by decide +kernel) (by decide +kernel)
    (by decide +kernel) hr

/-- invitations are valid once: an admitted JOIN of a `+i`/`+x` channel removes the invitation
(also when the session already was a member); operator and server flags are untouched. -/
theorem C13_join_consumes_invitation {c c' : Ctx} {sid : Id} {s : Session} {chn key : String} {ch : Channel}
    (hs : AMap.get c.st.sessions sid = some s) (hid : s.id = sid)
    (hv : isValidChannel chn = true)
    (hch : AMap.get c.st.channels (chanToLower chn) = some ch)
    (hyes : joinAllowed s ch (chanToLower chn) key = true)
    (hr : joinOne c sid chn key = .ok c') :
    ∃ s', AMap.get c'.st.sessions sid = some s' ∧
      s'.invitedTo = (if ch.modes.contains 'i' || ch.modes.contains 'x'
        then s.invitedTo.filter (· ≠ chanToLower chn) else s.invitedTo) ∧
      s'.operator = s.operator ∧ s'.server = s.server :=
  (joinOne_admitted hs hid hv hch hyes).apply hr

example : ∃ c' s', joinOne c1 carolId "#c" "" = .ok c' ∧ AMap.get c'.st.sessions carolId = some s' ∧ s'.invitedTo = [] := by
  obtain ⟨c', hr, s', h1, h2, _⟩ := ok_with joinOneC1 fun _ hr _ => C13_join_consumes_invitation (s := carol1)
    (chn := "#c") (key := "") (ch := chanC) c1B.1 (by decide) (by decide) c1B.2.1 (by decide) hr
  exact ⟨c', s', hr, h1, h2.trans (by decide)⟩

/-- after alice's INVITE carol may join once: she becomes a plain member and the invitation is gone -/
example : (match cmdInvite c0 aliceId ⟨none, "INVITE", ["carol", "#c"]⟩ with
    | .ok c1 => (result (cmdJoin c1 carolId ⟨none, "JOIN", ["#c"]⟩)).map
        (fun r => (memberOf r.1 "carol" "#c", (AMap.get r.1.sessions carolId).map (·.invitedTo)))
    | _ => none) = some (some { chanop := false }, some []) := by decide +kernel

/-! ## 6. history: where chanop flags come from -/

/-- One committed client entry (IRCFromClient) whose actor is not a services link, not an IRC
operator and not a channel operator of the existing channel `lc`: no member key of `lc` gains the
chanop flag (`OpsMono st st' lc`).  Hence, for clients, a chanop flag appears only through
`MODE +o` by a chanop of that channel or by an IRC operator, or through the JOIN that creates the
channel (a NICK change moves the flag with the nick).  Partial: flags are tracked by member key;
entries of services links are outside. -/
theorem C13_chanop_origin_partial {st st' : St} {e : Entry} {out : List Out} {s : Session} {lc : String}
    (ht : e.type = 2) (hs : AMap.get st.sessions e.session = some s) (hid : s.id = e.session)
    (hsv : s.server = false) (hno : s.operator = false)
    (hnop : chanOpOf st s.nick lc = false) (hex : (AMap.get st.channels lc).isSome = true)
    (hr : applyEntry st e = .ok (st', out)) : OpsMono st st' lc :=
  (applyEntry_opsMono (fun s' hs' => by rw [hs] at hs'; cases hs'; exact hid)
    fun _ s' hs' => by rw [hs] at hs'; cases hs'; exact ⟨hsv, hno, hnop, hex⟩).apply hr

/-- on states satisfying the invariant sessions are stored under their id (`hid` above) -/
theorem C13_chanop_origin_partial' {st st' : St} {e : Entry} {out : List Out} {s : Session} {lc : String}
    (hg : GInv st) (ht : e.type = 2) (hs : AMap.get st.sessions e.session = some s)
    (hsv : s.server = false) (hno : s.operator = false)
    (hnop : chanOpOf st s.nick lc = false) (hex : (AMap.get st.channels lc).isSome = true)
    (hr : applyEntry st e = .ok (st', out)) : OpsMono st st' lc :=
  C13_chanop_origin_partial ht hs (hg.inv.sessId _ _ hs).1 hsv hno hnop hex hr

/-- the committed entry "bob: MODE #c +o bob" on `st0` -/
def Ex.eMode : Entry :=
  { type := 2, id := 9, session := ⟨2, 0⟩, data := "MODE #c +o bob", unixNano := 0, cmid := 1, rev := 0,
    remoteAddr := "", cfg := none }
def Ex.entrySt (r : Res (St × List Out)) : Option St :=
  match r with
  | .ok p => some p.1
  | _ => none
theorem Ex.entrySt_some {r : Res (St × List Out)} (h : (entrySt r).isSome = true) : ∃ st' out, r = .ok (st', out) := by
  cases r with
  | ok p => exact ⟨p.1, p.2, rfl⟩
  | panic x => simp [entrySt] at h
  | declined x => simp [entrySt] at h
/-- bob's `MODE #c +o bob` applies and leaves him without the flag: one evaluation -/
theorem Ex.eModeB : (entrySt (applyEntry st0 eMode)).isSome = true ∧
    (entrySt (applyEntry st0 eMode)).map (fun st => chanOpOf st "bob" "#c") = some false := by decide +kernel
theorem Ex.eMode_ok : ∃ st' out, applyEntry st0 eMode = .ok (st', out) :=
  entrySt_some eModeB.1
example : ∃ st' out, applyEntry st0 eMode = .ok (st', out) ∧ OpsMono st0 st' "#c" := by
  obtain ⟨st', out, h⟩ := eMode_ok
  exact ⟨st', out, h, C13_chanop_origin_partial (s := bob) (by decide +kernel) (by decide +kernel) (by decide +kernel) (by decide +kernel) (by decide +kernel)
    (by decide +kernel) (by decide +kernel) h⟩
example : (entrySt (applyEntry st0 eMode)).map (fun st => chanOpOf st "bob" "#c") = some false := eModeB.2

/-- over histories: as long as only unprivileged sessions act (`UnprivHistory lc`), the chanop
flags of `lc` at the end are among those at the start -/
theorem C13_chanop_history_partial {lc : String} {st st' : St} {es : List Entry} (h : GInv st) (hw : WfHistory st es)
    (hu : UnprivHistory lc st es) (hr : runEntries st es = .ok st') : OpsMono st st' lc :=
  run_rel (R := fun a b => OpsMono a b lc) (OpsMono.refl · lc) OpsMono.trans
    (fun h he hap => applyEntry_preserves _ _ _ _ h he.1.1 hap)
    (fun h he hap => (applyEntry_opsMono (fun s hs => (h.inv.sessId _ s hs).1) he.2).apply hap)
    h ((wfHistory_iff.1 hw).and (unprivHistory_iff.1 hu)) hr

namespace Ex
def mk (ty id : Nat) (sess : Id) (data : String) : Entry :=
  { type := ty, id := id, session := sess, data := data, unixNano := 0, cmid := id, rev := 0, remoteAddr := "", cfg := none }
/-- alice creates `#c` (and so is its operator), bob joins it, carol registers but stays outside -/
def es0 : List Entry := [
  mk 0 1 ⟨0, 0⟩ "auth1", mk 2 2 ⟨1, 0⟩ "NICK alice", mk 2 3 ⟨1, 0⟩ "USER a 0 * :Alice", mk 2 4 ⟨1, 0⟩ "JOIN #c",
  mk 0 5 ⟨0, 0⟩ "auth2", mk 2 6 ⟨5, 0⟩ "NICK bob", mk 2 7 ⟨5, 0⟩ "USER b 0 * :Bob", mk 2 8 ⟨5, 0⟩ "JOIN #c",
  mk 0 9 ⟨0, 0⟩ "auth3", mk 2 10 ⟨9, 0⟩ "NICK carol", mk 2 11 ⟨9, 0⟩ "USER c 0 * :Carol"]
def aliceR : Session := { id := ⟨1, 0⟩, auth := "auth1", loggedIn := true, nick := "alice", username := "a", realname := "Alice", channels := ["#c"], lastActivity := 4, lastNonPing := 4, created := 1, svid := "0", lastClientMessageId := 4, ircPrefix := ⟨"alice", "a", "robust/0x1"⟩ }
def bobR : Session := { id := ⟨5, 0⟩, auth := "auth2", loggedIn := true, nick := "bob", username := "b", realname := "Bob", channels := ["#c"], lastActivity := 8, lastNonPing := 8, created := 5, svid := "0", lastClientMessageId := 8, ircPrefix := ⟨"bob", "b", "robust/0x5"⟩ }
def carolR : Session := { id := ⟨9, 0⟩, auth := "auth3", loggedIn := true, nick := "carol", username := "c", realname := "Carol", lastActivity := 11, lastNonPing := 11, created := 9, svid := "0", lastClientMessageId := 11, ircPrefix := ⟨"carol", "c", "robust/0x9"⟩ }
/-- the state reached from the initial state by `es0` (`run0` below) -/
def stR : St := { sessions := [(⟨1, 0⟩, aliceR), (⟨5, 0⟩, bobR), (⟨9, 0⟩, carolR)], nicks := [("alice", ⟨1, 0⟩), ("bob", ⟨5, 0⟩), ("carol", ⟨9, 0⟩)], channels := [("#c", { name := "#c", nicks := [("alice", { chanop := true }), ("bob", {})], modes := ['n', 't'] })], lastProcessed := ⟨9, 0⟩ }
/-- bob tries to get at the operator status: MODE +o, KICK, NICK change, TOPIC, PART and re-JOIN -/
def es1 : List Entry := [
  mk 2 12 ⟨5, 0⟩ "MODE #c +o bob", mk 2 13 ⟨5, 0⟩ "KICK #c alice", mk 2 14 ⟨5, 0⟩ "NICK robert",
  mk 2 15 ⟨5, 0⟩ "TOPIC #c :mine", mk 2 16 ⟨5, 0⟩ "PART #c", mk 2 17 ⟨5, 0⟩ "JOIN #c"]
def stEnd : St := (runOk stR es1).getD {}
/-- What is used of a concrete run is stated together and evaluated once: within one evaluation the
kernel reduces each `applyEntry st e` a single time. -/
theorem run0 : runOk {} es0 = some stR ∧ histB none {} es0 = true := by decide +kernel
theorem end1 : runOk stR es1 = some stEnd ∧ histB (some "#c") stR es1 = true ∧
    (AMap.get stEnd.channels "#c").map (fun ch => ch.nicks) =
      some [("alice", { chanop := true }), ("robert", { chanop := false })] := by decide +kernel
theorem run1 : runOk stR es1 = some stEnd := end1.1
theorem unpriv1 : histB (some "#c") stR es1 = true := end1.2.1
/-- `stR` is reachable, hence satisfies the full invariant -/
theorem ginvR : GInv stR := run_preserves GInv_init (wf_of_histB run0.2) (runOk_some run0.1)
end Ex

/-- the hypotheses of `C13_chanop_history_partial` hold for bob's six attempts on the reachable state `stR` … -/
example : OpsMono stR stEnd "#c" :=
  C13_chanop_history_partial ginvR (wf_of_histB unpriv1) (unpriv_of_histB unpriv1) (runOk_some run1)
/-- … and indeed alice is still the only operator at the end (bob, now "robert", re-joined as a plain member) -/
example : (AMap.get stEnd.channels "#c").map (fun ch => ch.nicks) =
    some [("alice", { chanop := true }), ("robert", { chanop := false })] := end1.2.2

/-- NICK: a key that carries the flag afterwards carried it before, or it is the actor's new key
and the actor's old key carried it (the flag moves with the nick) -/
theorem C13_nick_moves_chanop_partial {c c' : Ctx} {sid : Id} {m : IrcMsg} {s : Session} {lc : String}
    (hs : AMap.get c.st.sessions sid = some s) (hr : cmdNick c sid m = .ok c') :
    ∀ n, opFlagC c'.st.channels lc n = true →
      opFlagC c.st.channels lc n = true ∨
      (n = nickToLower (m.params.head?.getD "") ∧ opFlagC c.st.channels lc (nickToLower s.nick) = true) :=
  (cmdNick_nickLe hs).apply hr

/-- alice (chanop of `#c`) changes her nick: the flag is now under "alicia" -/
example : (result (cmdNick c0 aliceId ⟨none, "NICK", ["alicia"]⟩)).map
    (fun r => (chanOpOf r.1 "alicia" "#c", memberOf r.1 "alice" "#c")) = some (true, none) := by decide +kernel

/-- KICK, PART, QUIT, KILL, GLINE, TOPIC, INVITE, AWAY, OPER, USER, PASS, SERVER never set a chanop
flag, whoever runs them -/
theorem C13_removal_commands_set_no_chanop :
    OpsAll cmdKick ∧ OpsAll cmdPart ∧ OpsAll cmdQuit ∧ OpsAll cmdKill ∧ OpsAll cmdGline ∧ OpsAll cmdTopic ∧
    OpsAll cmdInvite ∧ OpsAll cmdAway ∧ OpsAll cmdOper ∧ OpsAll cmdUser ∧ OpsAll cmdPass ∧ OpsAll cmdServer :=
  ⟨handler_opsAll (fname := "cmdKick") rfl (by decide), handler_opsAll (fname := "cmdPart") rfl (by decide),
    handler_opsAll (fname := "cmdQuit") rfl (by decide), handler_opsAll (fname := "cmdKill") rfl (by decide),
    handler_opsAll (fname := "cmdGline") rfl (by decide), handler_opsAll (fname := "cmdTopic") rfl (by decide),
    handler_opsAll (fname := "cmdInvite") rfl (by decide), handler_opsAll (fname := "cmdAway") rfl (by decide),
    handler_opsAll (fname := "cmdOper") rfl (by decide), handler_opsAll (fname := "cmdUser") rfl (by decide),
    handler_opsAll (fname := "cmdPass") rfl (by decide), handler_opsAll (fname := "cmdServer") rfl (by decide)⟩

/-! ## 7. examples on a reachable state (for the theorems that assume the invariant) -/

namespace Ex
theorem bobR_stored : AMap.get stR.sessions ⟨5, 0⟩ = some bobR := by decide +kernel
def cR : Ctx := { st := stR, msgid := 20 }
def eSvs : Entry := mk 2 20 ⟨5, 0⟩ "SVSMODE bob +o"
def mSvs : IrcMsg := ⟨none, "SVSMODE", ["bob", "+o"]⟩
example : parseMessage eSvs.data = some mSvs := by decide +kernel
end Ex

/-- bob, a client session of the reachable state, sends the services command `SVSMODE bob +o`:
`ProcessMessage` treats it as a client line (421 Unknown command), nothing changes -/
example : ∃ c', processMessage cR eSvs (some mSvs) = .ok c' ∧ c'.st = stR ∧
    ∃ c1 b, addrStage cR eSvs bobR = .ok (c1, b) ∧ (b = false → ∃ s1, AMap.get c1.st.sessions eSvs.session = some s1 ∧
      s1.server = false) := by
  obtain ⟨c', hr, hst⟩ := ok_of_result (r := processMessage cR eSvs (some mSvs)) (st := stR) (rc := [[5]]) (by decide +kernel)
  obtain ⟨c1, b, h1, _, h3⟩ := C13_services_commands_need_link (c := cR) (e := eSvs) (s := bobR)
    (ginvR.pre bobR_stored rfl) ginvR.ni bobR_stored (by decide) hr
  exact ⟨c', hr, hst, c1, b, h1, fun hb => by obtain ⟨s1, hs1, hsv1, _⟩ := h3 hb; exact ⟨s1, hs1, hsv1⟩⟩

/-- carol is not a member of `#c` in the reachable state: her TOPIC is refused (member-map form) -/
example : ∃ c', cmdTopic cR ⟨9, 0⟩ ⟨none, "TOPIC", ["#c", "x"]⟩ = .ok c' ∧ Refused cR c' ⟨9, 0⟩ :=
  ok_and (by decide +kernel) fun _ hr => C13_topic_requires_membership' (s := carolR)
    (chn := "#c") ginvR.inv.toWInv (by decide +kernel) (by decide +kernel) (by decide +kernel) (by decide +kernel) (by decide +kernel) hr

/-- `C13_chanop_origin_partial'` on the reachable state: bob's `MODE #c +o bob` as a committed entry -/
example : ∀ st' out, applyEntry stR (mk 2 12 ⟨5, 0⟩ "MODE #c +o bob") = .ok (st', out) → OpsMono stR st' "#c" :=
  fun _ _ h => C13_chanop_origin_partial' ginvR rfl bobR_stored (by decide +kernel) (by decide +kernel) (by decide +kernel) (by decide +kernel) h

/-! ## 8. history: where operator and server flags come from

Proofs in `Robust/Irc/Proofs/FlagOrigin*.lean`.  The model has exactly three ways to set
`Session.operator` and one to set `Session.server`, all on the acting session of a client line
(IRCFromClient entry) and all checked against the configuration of the state before the entry:

* `operByOper cfg s m`: `OPER <name> <password>` of a registered client session, pair listed;
* `operByLogin cfg s m`: the `NICK` / `USER` / `PASS` line that completes the registration of a
  client session whose PASS string (for `PASS`: the one this line stores, `passAfter`) has an
  `oper=<name> <password>` part with a listed pair — `maybeLogin` then runs `cmdOper` itself
  (`commands.go`, `maybeLogin`: `extractPassword(s.Pass, "oper")`);
* `serverBySERVER cfg s m`: `SERVER …` of a client session whose stored PASS string is
  `services=<configured services password>`.

Nothing else sets a flag: no services handler does (the pseudo-clients a services `NICK` creates
have `server = false`, `operator = false`), CreateSession stores a session without flags,
DeleteSession / MessageOfDeath / Config entries keep the flags of every stored session. -/

/-- per handler (every handler of `handlerByName`, clients' and services'): a session that carries
the operator flag after the handler carried it before under the same id, or it is the actor and
`OperVia` holds (`cmdOper` with a listed pair; `cmdNick`/`cmdUser`/`cmdPass` registering a session
whose PASS string has an `oper=` part with a listed pair); the same for `server` and `ServerVia`
(`cmdServer` with a configured services password in the stored PASS string) -/
theorem C13_flag_origin_handler {fname : String} {h : Handler} (hh : handlerByName fname = some h)
    {c c' : Ctx} {sid : Id} {m : IrcMsg} (hw : SessWf c.st) (hr : h c sid m = .ok c') :
    (∀ id s', AMap.get c'.st.sessions id = some s' → s'.operator = true →
      (∃ s, AMap.get c.st.sessions id = some s ∧ s.operator = true) ∨ (id = sid ∧ OperVia fname c.st sid m)) ∧
    (∀ id s', AMap.get c'.st.sessions id = some s' → s'.server = true →
      (∃ s, AMap.get c.st.sessions id = some s ∧ s.server = true) ∨ (id = sid ∧ ServerVia fname c.st sid)) := by
  have f := handler_flg hh (O := fun id => id = sid ∧ OperVia fname c.st sid m)
    (S := fun id => id = sid ∧ ServerVia fname c.st sid) (Flg.refl hw) (fun hv => ⟨rfl, hv⟩) (fun hv => ⟨rfl, hv⟩) hr
  exact ⟨f.oper, f.server⟩

/-- on states satisfying the invariant `SessWf` holds -/
theorem C13_sessWf_of_ginv {st : St} (hg : GInv st) : SessWf st := hg.sessWf

/-- one committed entry of any type: a session that is an IRC operator afterwards was one before
(same id), or the entry is a client line of that very session with an operator origin evaluated on
the session and the configuration stored *before* the entry -/
theorem C13_oper_flag_origin {st st' : St} {e : Entry} {out : List Out} (hg : GInv st)
    (hr : applyEntry st e = .ok (st', out)) {sid : Id} {s' : Session}
    (hs' : AMap.get st'.sessions sid = some s') (hop : s'.operator = true) :
    (∃ s, AMap.get st.sessions sid = some s ∧ s.operator = true) ∨
    (e.type = 2 ∧ e.session = sid ∧ ∃ s m, AMap.get st.sessions sid = some s ∧ parseMessage e.data = some m ∧
      (operByOper st.config s m = true ∨ operByLogin st.config s m = true)) :=
  (applyEntry_flags (C13_sessWf_of_ginv hg) hr).oper sid s' hs' hop

/-- the same for the `server` flag: the only origin is an accepted `SERVER` line of that session -/
theorem C13_server_flag_origin {st st' : St} {e : Entry} {out : List Out} (hg : GInv st)
    (hr : applyEntry st e = .ok (st', out)) {sid : Id} {s' : Session}
    (hs' : AMap.get st'.sessions sid = some s') (hsv : s'.server = true) :
    (∃ s, AMap.get st.sessions sid = some s ∧ s.server = true) ∨
    (e.type = 2 ∧ e.session = sid ∧ ∃ s m, AMap.get st.sessions sid = some s ∧ parseMessage e.data = some m ∧
      serverBySERVER st.config s m = true) :=
  (applyEntry_flags (C13_sessWf_of_ginv hg) hr).server sid s' hs' hsv

/-- what the three origins say -/
theorem C13_operByOper_iff {cfg : Config} {s : Session} {m : IrcMsg} :
    operByOper cfg s m = true ↔ s.server = false ∧ s.loggedIn = true ∧ toUpper m.command = "OPER" ∧
      ∃ name password, m.params[0]? = some name ∧ m.params[1]? = some password ∧ operListed cfg name password = true :=
  operByOper_iff

theorem C13_operByLogin_iff {cfg : Config} {s : Session} {m : IrcMsg} :
    operByLogin cfg s m = true ↔ s.server = false ∧ s.loggedIn = false ∧
      (((toUpper m.command = "NICK" ∨ toUpper m.command = "USER") ∧ loginOperCreds cfg s.pass = true) ∨
       (toUpper m.command = "PASS" ∧ loginOperCreds cfg (passAfter m s.pass) = true)) :=
  operByLogin_iff

theorem C13_loginOperCreds_iff {cfg : Config} {pass : String} :
    loginOperCreds cfg pass = true ↔
      ∃ parsed name password, parseMessage ("OPER " ++ extractPassword pass "oper") = some parsed ∧
        parsed.params[0]? = some name ∧ parsed.params[1]? = some password ∧ operListed cfg name password = true := by
  rw [loginOperCreds_iff]
  constructor
  · rintro ⟨parsed, hp, hc⟩
    obtain ⟨name, pw, h0, h1, h2⟩ := operCreds_iff.1 hc
    exact ⟨parsed, name, pw, hp, h0, h1, h2⟩
  · rintro ⟨parsed, name, pw, hp, h0, h1, h2⟩
    exact ⟨parsed, hp, operCreds_iff.2 ⟨name, pw, h0, h1, h2⟩⟩

theorem C13_serverBySERVER_iff {cfg : Config} {s : Session} {m : IrcMsg} :
    serverBySERVER cfg s m = true ↔ s.server = false ∧ toUpper m.command = "SERVER" ∧ servicesAuth cfg s.pass = true :=
  serverBySERVER_iff

/-- over histories (any list of entries that runs to `.ok`; nothing is required of the entries): a
session that is an IRC operator at the end was one at the start (same id), or the history splits
`es = pre ++ e :: post` at a client line `e` of that session which has an operator origin on the
state `mid` reached by `pre` — stored session and configuration of `mid` -/
theorem C13_oper_flag_history {st st' : St} {es : List Entry} (hg : GInv st) (hr : runEntries st es = .ok st')
    {sid : Id} {s' : Session} (hs' : AMap.get st'.sessions sid = some s') (hop : s'.operator = true) :
    (∃ s, AMap.get st.sessions sid = some s ∧ s.operator = true) ∨
    ∃ pre e post mid, es = pre ++ e :: post ∧ runEntries st pre = .ok mid ∧
      e.type = 2 ∧ e.session = sid ∧ ∃ s m, AMap.get mid.sessions sid = some s ∧ parseMessage e.data = some m ∧
        (operByOper mid.config s m = true ∨ operByLogin mid.config s m = true) :=
  run_oper_origin (C13_sessWf_of_ginv hg) hr hs' hop

theorem C13_server_flag_history {st st' : St} {es : List Entry} (hg : GInv st) (hr : runEntries st es = .ok st')
    {sid : Id} {s' : Session} (hs' : AMap.get st'.sessions sid = some s') (hsv : s'.server = true) :
    (∃ s, AMap.get st.sessions sid = some s ∧ s.server = true) ∨
    ∃ pre e post mid, es = pre ++ e :: post ∧ runEntries st pre = .ok mid ∧
      e.type = 2 ∧ e.session = sid ∧ ∃ s m, AMap.get mid.sessions sid = some s ∧ parseMessage e.data = some m ∧
        serverBySERVER mid.config s m = true :=
  run_server_origin (C13_sessWf_of_ginv hg) hr hs' hsv

/-- from the initial state: an operator flag in any reachable state is backed by an accepted line of
that session in the history (OPER with a listed pair, or the registration of a session whose PASS
string carries a listed `oper=` pair) -/
theorem C13_oper_flag_reachable {st' : St} {es : List Entry} (hr : runEntries {} es = .ok st')
    {sid : Id} {s' : Session} (hs' : AMap.get st'.sessions sid = some s') (hop : s'.operator = true) :
    ∃ pre e post mid, es = pre ++ e :: post ∧ runEntries {} pre = .ok mid ∧
      e.type = 2 ∧ e.session = sid ∧ ∃ s m, AMap.get mid.sessions sid = some s ∧ parseMessage e.data = some m ∧
        (operByOper mid.config s m = true ∨ operByLogin mid.config s m = true) := by
  rcases run_oper_origin SessWf_init hr hs' hop with ⟨s, hs, _⟩ | h
  · cases hs
  · exact h

theorem C13_server_flag_reachable {st' : St} {es : List Entry} (hr : runEntries {} es = .ok st')
    {sid : Id} {s' : Session} (hs' : AMap.get st'.sessions sid = some s') (hsv : s'.server = true) :
    ∃ pre e post mid, es = pre ++ e :: post ∧ runEntries {} pre = .ok mid ∧
      e.type = 2 ∧ e.session = sid ∧ ∃ s m, AMap.get mid.sessions sid = some s ∧ parseMessage e.data = some m ∧
        serverBySERVER mid.config s m = true := by
  rcases run_server_origin SessWf_init hr hs' hsv with ⟨s, hs, _⟩ | h
  · cases hs
  · exact h

namespace Ex
/-- a Config entry that installs `cfg` (operator `root`/`pw`, services password `sekrit`) -/
def eCfg : Entry :=
  { type := 6, id := 1, session := ⟨0, 0⟩, data := "", unixNano := 0, cmid := 0, rev := 1, remoteAddr := "", cfg := some cfg }
/-- after the configuration: oscar registers and types `OPER root pw`; mallory registers and types
`OPER root wrong`; eve gives `PASS oper=root pw` and registers -/
def esP : List Entry := [
  eCfg,
  mk 0 2 ⟨0, 0⟩ "auth-o", mk 2 3 ⟨2, 0⟩ "NICK oscar", mk 2 4 ⟨2, 0⟩ "USER o 0 * :Oscar", mk 2 5 ⟨2, 0⟩ "OPER root pw",
  mk 0 6 ⟨0, 0⟩ "auth-m", mk 2 7 ⟨6, 0⟩ "NICK mallory", mk 2 8 ⟨6, 0⟩ "USER m 0 * :Mallory", mk 2 9 ⟨6, 0⟩ "OPER root wrong",
  mk 0 10 ⟨0, 0⟩ "auth-e", mk 2 11 ⟨10, 0⟩ "PASS oper=root pw", mk 2 12 ⟨10, 0⟩ "NICK eve", mk 2 13 ⟨10, 0⟩ "USER e 0 * :Eve"]
/-- after the configuration: a services link gives `PASS services=sekrit` and `SERVER`; trudy gives
`PASS services=wrong` and `SERVER` (nobody has registered yet, so the burst is empty) -/
def esS : List Entry := [
  eCfg,
  mk 0 2 ⟨0, 0⟩ "auth-s", mk 2 3 ⟨2, 0⟩ "PASS services=sekrit", mk 2 4 ⟨2, 0⟩ "SERVER services.x 1",
  mk 0 5 ⟨0, 0⟩ "auth-t", mk 2 6 ⟨5, 0⟩ "PASS services=wrong", mk 2 7 ⟨5, 0⟩ "SERVER services.y 1"]
def stP : St := (runOk {} esP).getD {}
def stS : St := (runOk {} esS).getD {}
/-- (operator, server) of a stored session -/
def flags (st : St) (sid : Id) : Option (Bool × Bool) := (AMap.get st.sessions sid).map fun s => (s.operator, s.server)
theorem stored_of_flags {st : St} {sid : Id} {a b : Bool} (h : flags st sid = some (a, b)) :
    ∃ s, AMap.get st.sessions sid = some s ∧ s.operator = a ∧ s.server = b := by
  unfold flags at h
  cases hg : AMap.get st.sessions sid with
  | none => rw [hg] at h; cases h
  | some s =>
    rw [hg] at h
    simp only [Option.map_some, Option.some.injEq, Prod.mk.injEq] at h
    exact ⟨s, rfl, h.1, h.2⟩
/-- the states just before oscar's OPER, mallory's OPER, eve's USER, the link's SERVER, trudy's SERVER (in `esS`) -/
def midO : St := (runOk {} (esP.take 4)).getD {}
def midM : St := (runOk {} (esP.take 8)).getD {}
def midE : St := (runOk {} (esP.take 12)).getD {}
def midS : St := (runOk {} (esS.take 3)).getD {}
def midT : St := (runOk {} (esS.take 6)).getD {}
def originAt (mid : St) (sid : Id) (line : String) (f : Config → Session → IrcMsg → Bool) : Option Bool :=
  match AMap.get mid.sessions sid, parseMessage line with
  | some s, some m => some (f mid.config s m)
  | _, _ => none
/-- `midO`, `midM`, `midE` are reached by prefixes of `esP`: the one evaluation of the run yields them as well -/
theorem factsP : runOk {} esP = some stP ∧
    [flags stP ⟨2, 0⟩, flags stP ⟨6, 0⟩, flags stP ⟨10, 0⟩] =
      [some (true, false), some (false, false), some (true, false)] ∧
    originAt midO ⟨2, 0⟩ "OPER root pw" operByOper = some true ∧
    originAt midM ⟨6, 0⟩ "OPER root wrong" operByOper = some false ∧
    originAt midM ⟨6, 0⟩ "OPER root wrong" operByLogin = some false ∧
    originAt midE ⟨10, 0⟩ "USER e 0 * :Eve" operByLogin = some true ∧
    originAt midE ⟨10, 0⟩ "USER e 0 * :Eve" operByOper = some false := by decide +kernel
theorem factsS : runOk {} esS = some stS ∧
    [flags stS ⟨2, 0⟩, flags stS ⟨5, 0⟩] = [some (false, true), some (false, false)] ∧
    originAt midS ⟨2, 0⟩ "SERVER services.x 1" serverBySERVER = some true ∧
    originAt midT ⟨5, 0⟩ "SERVER services.y 1" serverBySERVER = some false := by decide +kernel
theorem runP : runOk {} esP = some stP := factsP.1
theorem runS : runOk {} esS = some stS := factsS.1
/-- oscar and eve are IRC operators, mallory is not -/
theorem flagsP : [flags stP ⟨2, 0⟩, flags stP ⟨6, 0⟩, flags stP ⟨10, 0⟩] =
    [some (true, false), some (false, false), some (true, false)] := factsP.2.1
/-- session 2 is a services link, trudy's session is not -/
theorem flagsS : [flags stS ⟨2, 0⟩, flags stS ⟨5, 0⟩] = [some (false, true), some (false, false)] := factsS.2.1
end Ex

/-- the hypotheses of `C13_oper_flag_reachable` hold for oscar in the reachable state `stP` … -/
example : ∃ pre e post mid, esP = pre ++ e :: post ∧ runEntries {} pre = .ok mid ∧
    e.type = 2 ∧ e.session = ⟨2, 0⟩ ∧ ∃ s m, AMap.get mid.sessions ⟨2, 0⟩ = some s ∧ parseMessage e.data = some m ∧
      (operByOper mid.config s m = true ∨ operByLogin mid.config s m = true) := by
  obtain ⟨s', hs', hop, _⟩ := stored_of_flags (Option.some.inj (congrArg (·[0]?) flagsP))
  exact C13_oper_flag_reachable (runOk_some runP) hs' hop
/-- … for eve (who never typed OPER) … -/
example : ∃ pre e post mid, esP = pre ++ e :: post ∧ runEntries {} pre = .ok mid ∧
    e.type = 2 ∧ e.session = ⟨10, 0⟩ ∧ ∃ s m, AMap.get mid.sessions ⟨10, 0⟩ = some s ∧ parseMessage e.data = some m ∧
      (operByOper mid.config s m = true ∨ operByLogin mid.config s m = true) := by
  obtain ⟨s', hs', hop, _⟩ := stored_of_flags (Option.some.inj (congrArg (·[2]?) flagsP))
  exact C13_oper_flag_reachable (runOk_some runP) hs' hop
/-- … and those of `C13_server_flag_reachable` for the services link -/
example : ∃ pre e post mid, esS = pre ++ e :: post ∧ runEntries {} pre = .ok mid ∧
    e.type = 2 ∧ e.session = ⟨2, 0⟩ ∧ ∃ s m, AMap.get mid.sessions ⟨2, 0⟩ = some s ∧ parseMessage e.data = some m ∧
      serverBySERVER mid.config s m = true := by
  obtain ⟨s', hs', _, hsv⟩ := stored_of_flags (Option.some.inj (congrArg (·[0]?) flagsS))
  exact C13_server_flag_reachable (runOk_some runS) hs' hsv
/-- the history-level theorem from a reachable state other than the initial one (`stR`, section 6,
followed by bob's six attempts `es1`): the hypotheses `GInv stR` and `runEntries stR es1 = .ok stEnd` hold -/
example : ∀ sid s', AMap.get stEnd.sessions sid = some s' → s'.operator = true →
    (∃ s, AMap.get stR.sessions sid = some s ∧ s.operator = true) ∨ OperHist stR es1 sid :=
  fun _ _ hs' hop => C13_oper_flag_history ginvR (runOk_some run1) hs' hop

/-- the origins, evaluated on the states just before the lines in question: oscar's `OPER root pw` is
an `operByOper` origin, mallory's `OPER root wrong` is none; eve's `USER` is an `operByLogin` origin
(her PASS string has `oper=root pw`), oscar's `USER` was none; the link's `SERVER` is a
`serverBySERVER` origin, trudy's is none -/
example : originAt midO ⟨2, 0⟩ "OPER root pw" operByOper = some true := factsP.2.2.1
example : originAt midM ⟨6, 0⟩ "OPER root wrong" operByOper = some false := factsP.2.2.2.1
example : originAt midM ⟨6, 0⟩ "OPER root wrong" operByLogin = some false := factsP.2.2.2.2.1
example : originAt midE ⟨10, 0⟩ "USER e 0 * :Eve" operByLogin = some true := factsP.2.2.2.2.2.1
example : originAt midE ⟨10, 0⟩ "USER e 0 * :Eve" operByOper = some false := factsP.2.2.2.2.2.2
example : originAt midS ⟨2, 0⟩ "SERVER services.x 1" serverBySERVER = some true := factsS.2.2.1
example : originAt midT ⟨5, 0⟩ "SERVER services.y 1" serverBySERVER = some false := factsS.2.2.2

/-- the per-entry theorem on a reachable state: bob types `OPER root pw` on `stR`, whose configuration
lists no operator — the entry runs, and bob is not an operator afterwards (by the theorem: he was
none before and the line has no origin) -/
example : ∀ st' out, applyEntry stR (mk 2 12 ⟨5, 0⟩ "OPER root pw") = .ok (st', out) →
    ∀ s', AMap.get st'.sessions ⟨5, 0⟩ = some s' → s'.operator = false := by
  intro st' out hr s' hs'
  cases hop : s'.operator with
  | false => rfl
  | true =>
    rcases C13_oper_flag_origin ginvR hr hs' hop with ⟨s, hs, ho⟩ | ⟨_, _, s, m, hs, hm, hv⟩
    · rw [bobR_stored] at hs; cases hs; exact absurd ho (by decide)
    · rw [bobR_stored] at hs; cases hs
      have hm' : parseMessage "OPER root pw" = some m := hm
      have e1 : operByOper stR.config bobR ⟨none, "OPER", ["root", "pw"]⟩ = false := by decide +kernel
      have e2 : operByLogin stR.config bobR ⟨none, "OPER", ["root", "pw"]⟩ = false := by decide +kernel
      have hp : parseMessage "OPER root pw" = some ⟨none, "OPER", ["root", "pw"]⟩ := by decide +kernel
      rw [hp] at hm'; cases hm'
      rcases hv with hv | hv
      · rw [e1] at hv; cases hv
      · rw [e2] at hv; cases hv


/-- the per-handler theorem, instantiated for `cmdOper` run by bob on the reachable state `stR`
(`handlerByName "cmdOper" = some cmdOper`, `SessWf stR` from the invariant) -/
example : ∀ c', cmdOper cR ⟨5, 0⟩ ⟨none, "OPER", ["root", "pw"]⟩ = .ok c' →
    ∀ id s', AMap.get c'.st.sessions id = some s' → s'.operator = true →
      (∃ s, AMap.get stR.sessions id = some s ∧ s.operator = true) ∨
      (id = ⟨5, 0⟩ ∧ OperVia "cmdOper" stR ⟨5, 0⟩ ⟨none, "OPER", ["root", "pw"]⟩) :=
  fun _ hr => (C13_flag_origin_handler (fname := "cmdOper") rfl ginvR.sessWf hr).1

end Robust.Props.C13
