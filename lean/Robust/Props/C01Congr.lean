import Robust.Irc.Proofs.PermEntry
import Robust.Irc.Proofs.PrivHistB
import Robust.Props.C14
/-!
# C01 — replica determinism, the congruence theorem

The model keeps Go's hash maps as association lists; the list order stands for Go's unspecified
iteration order, which differs between replicas.  This file states, at the level of the property,
that **the behaviour of the model does not depend on the order of its maps**:

* `St.Equiv` (`st ≈ st'`): same scalars (`lastProcessed`, `serverName`, the network configuration),
  and every map a *permutation* of the other — `sessions` and `channels` up to the equivalence of
  their values (a session's `channels` / `invitedTo` lists, a channel's member map, are again
  permutations), `nicks`, `svsholds`, `serverSessions` plain permutations;
* `OutEq` (`o ≈ o'`): same `id`, `reply`, `data`, the recipient list a permutation (Go's
  `InterestingFor` is a set); output *lists* are compared in order (`OutsEq`), because reply ids
  are assigned in emission order;
* `C01_replicas_agree`: one committed entry applied to equivalent states gives the same kind of
  result (`ok` / `panic` / `declined`), equivalent states and equivalent output batches;
* `C01_history`: two replicas that start equivalent and apply the same log stay equivalent and
  emit, entry by entry, the same outputs up to recipient order.

The hypotheses are `GInv st` (the invariant of `NInv.lean`; only `Inv` is used) and `HoldsNodup st`:
the keys of `svsholds` are duplicate-free.  The latter is not part of `GInv`, is preserved by every
entry (`C01_replicas_agree_ok`) and is needed: with a duplicated key `get` returns the first
match, and two permutations of `[("bob", h₁), ("bob", h₂)]` answer `NICK bob` with different texts.

The network configuration is compared with equality: it is replaced wholesale by a config entry
(the same value on all replicas), only read through `get` and only changed through `set` (GLINE).

Handler level (`Robust/Irc/Proofs/PermH1 … PermH7`): all 41 handlers of `handlerByName` are
congruent — 39 without any invariant (`HCongr`), `cmdServerQuit` and `cmdServerKill` (`HCongrU`)
given that a non-empty nickname has a single owner (`UniqNick`, from `Inv`) and that the prefix of
the line has a non-empty name (`MsgPfxOK`, true of every parsed line).
-/
namespace Robust.Props.C01Congr
open Robust Robust.Irc

theorem C01_equiv_equivalence : Equivalence (fun (a b : St) => a ≈ b) := St.equiv_equivalence

theorem C01_out_equiv_equivalence : Equivalence (fun (a b : Out) => a ≈ b) := Out.equiv_equivalence

theorem C01_outs_equivalence : Equivalence OutsEq := ⟨OutsEq.refl, OutsEq.symm, OutsEq.trans⟩

/-- permuting the maps of a state gives an equivalent state -/
theorem C01_perm_equiv (st : St) (ss : AMap Id Session) (ns : AMap String Id) (cs : AMap String Channel)
    (hs : AMap String SvsHold) (sv : List Nat) (h1 : st.sessions.Perm ss) (h2 : st.nicks.Perm ns)
    (h3 : st.channels.Perm cs) (h4 : st.svsholds.Perm hs) (h5 : st.serverSessions.Perm sv) :
    st ≈ { st with sessions := ss, nicks := ns, channels := cs, svsholds := hs, serverSessions := sv } :=
  ⟨PermR.of_perm (EntryRel.refl SessEq.refl) h1, h2, PermR.of_perm (EntryRel.refl Channel.Equiv.refl) h3, h4, h5,
   rfl, rfl, rfl⟩

/-- on duplicate-free maps `≈` is extensional equality of the lookups: the sessions -/
theorem C01_equiv_get_sessions {st st' : St} (hI : Inv st) (hS : HoldsNodup st) (h : st ≈ st') (id : Id) :
    ORel SessEq (AMap.get st.sessions id) (AMap.get st'.sessions id) :=
  (St.Equiv.toStEq h hI.toWInvCore hS).sessions.rel id

/-- … the nick index, the holds -/
theorem C01_equiv_get_nicks {st st' : St} (hI : Inv st) (hS : HoldsNodup st) (h : st ≈ st') (lc : String) :
    AMap.get st'.nicks lc = AMap.get st.nicks lc ∧ AMap.get st'.svsholds lc = AMap.get st.svsholds lc :=
  ⟨(St.Equiv.toStEq h hI.toWInvCore hS).get_nicks lc, (St.Equiv.toStEq h hI.toWInvCore hS).get_svsholds lc⟩

theorem C01_inv_transfer {st st' : St} (hI : Inv st) (hS : HoldsNodup st) (h : st ≈ st') :
    Inv st' ∧ HoldsNodup st' :=
  ⟨hI.of_stEq (St.Equiv.toStEq h hI.toWInvCore hS), (St.Equiv.toStEq h hI.toWInvCore hS).svsholds.nd'⟩

theorem C01_ginv_transfer {st st' : St} (hG : GInv st) (hS : HoldsNodup st) (h : st ≈ st') : GInv st' :=
  hG.of_stEq (St.Equiv.toStEq h hG.inv.toWInvCore hS)

/-- every handler of the command table is congruent: on equivalent contexts (equivalent states,
same `msgid` / `replyid`, equivalent outputs so far) it gives the same kind of result and, when
it returns, equivalent contexts -/
theorem C01_handlers_congr (fname : String) (h : Handler) (hh : handlerByName fname = some h)
    (c c' : Ctx) (sid : Id) (m : IrcMsg) (hu : UniqNick c.st) (hm : MsgPfxOK m) (hc : CEq c c') :
    RRel CEq (h c sid m) (h c' sid m) :=
  allHandlersCongr hh c c' sid m hu hm hc

/-- the handlers that need no side condition at all (39 of the 41) -/
theorem C01_handlers_congr_plain :
    HCongr cmdAway ∧ HCongr cmdServiceAlias ∧ HCongr cmdGline ∧ HCongr cmdInvite ∧ HCongr cmdIson ∧
    HCongr cmdJoin ∧ HCongr cmdKick ∧ HCongr cmdKill ∧ HCongr cmdKnock ∧ HCongr cmdList ∧ HCongr cmdMode ∧
    HCongr cmdMotd ∧ HCongr cmdNames ∧ HCongr cmdNick ∧ HCongr cmdOper ∧ HCongr cmdPart ∧ HCongr cmdPass ∧
    HCongr cmdPing ∧ HCongr cmdPrivmsg ∧ HCongr cmdQuit ∧ HCongr cmdServer ∧ HCongr cmdTopic ∧ HCongr cmdUser ∧
    HCongr cmdUserhost ∧ HCongr cmdWho ∧ HCongr cmdWhois ∧
    HCongr cmdServerInvite ∧ HCongr cmdServerJoin ∧ HCongr cmdServerKick ∧ HCongr cmdServerMode ∧
    HCongr cmdServerNick ∧ HCongr cmdServerPrivmsg ∧ HCongr cmdServerPart ∧ HCongr cmdServerSvshold ∧
    HCongr cmdServerSvsjoin ∧ HCongr cmdServerSvsmode ∧ HCongr cmdServerSvsnick ∧ HCongr cmdServerSvspart ∧
    HCongr cmdServerTopic :=
  ⟨cmdAway_congr, cmdServiceAlias_congr, cmdGline_congr, cmdInvite_congr, cmdIson_congr, cmdJoin_congr,
   cmdKick_congr, cmdKill_congr, cmdKnock_congr, cmdList_congr, cmdMode_congr, cmdMotd_congr, cmdNames_congr,
   cmdNick_congr, cmdOper_congr, cmdPart_congr, cmdPass_congr, cmdPing_congr, cmdPrivmsg_congr, cmdQuit_congr,
   cmdServer_congr, cmdTopic_congr, cmdUser_congr, cmdUserhost_congr, cmdWho_congr, cmdWhois_congr,
   cmdServerInvite_congr, cmdServerJoin_congr, cmdServerKick_congr, cmdServerMode_congr, cmdServerNick_congr,
   cmdServerPrivmsg_congr, cmdServerPart_congr, cmdServerSvshold_congr, cmdServerSvsjoin_congr,
   cmdServerSvsmode_congr, cmdServerSvsnick_congr, cmdServerSvspart_congr, cmdServerTopic_congr⟩

/-- … and the two that search the sessions with an early exit -/
theorem C01_handlers_congr_uniq : HCongrU cmdServerQuit ∧ HCongrU cmdServerKill :=
  ⟨cmdServerQuit_congr, cmdServerKill_congr⟩

/-- results of `applyEntry` up to the order of the maps and of the recipients -/
def EntryResEquiv (r r' : St × List Out) : Prop := r.1 ≈ r'.1 ∧ OutsEq r.2 r'.2

/-- `C01_replicas_agree` from the part of its hypotheses that the proof uses: `Inv` instead of `GInv` -/
theorem C01_replicas_agree_inv (st st' : St) (e : Entry) (hI : Inv st) (hS : HoldsNodup st) (h : st ≈ st') :
    RRel EntryResEquiv (applyEntry st e) (applyEntry st' e) :=
  (applyEntry_congr hI (St.Equiv.toStEq h hI.toWInvCore hS) e).mono
    (fun _ _ hr => ⟨hr.1.toEquiv, hr.2⟩)

/-- **replicas agree**: one committed entry, applied to equivalent states, gives the same kind of
result, equivalent states, and the same output batch (ids, bytes, order) up to recipient order -/
theorem C01_replicas_agree (st st' : St) (e : Entry) (hG : GInv st) (hS : HoldsNodup st) (h : st ≈ st') :
    RRel EntryResEquiv (applyEntry st e) (applyEntry st' e) :=
  C01_replicas_agree_inv st st' e hG.inv hS h

/-- the `ok` case spelled out; the side condition on the holds is preserved -/
theorem C01_replicas_agree_ok (st st' st1 : St) (e : Entry) (out : List Out) (hG : GInv st) (hS : HoldsNodup st)
    (h : st ≈ st') (hr : applyEntry st e = .ok (st1, out)) :
    ∃ st1' out', applyEntry st' e = .ok (st1', out') ∧ st1 ≈ st1' ∧ OutsEq out out' ∧
      HoldsNodup st1 ∧ HoldsNodup st1' := by
  have ha := applyEntry_congr hG.inv (St.Equiv.toStEq h hG.inv.toWInvCore hS) e
  rw [hr] at ha
  obtain ⟨r', hr', hs, ho⟩ := ha.of_ok
  exact ⟨r'.1, r'.2, hr', hs.toEquiv, ho, hs.svsholds.nd, hs.svsholds.nd'⟩

/-- the two replicas panic together (with possibly different sites) and decline together -/
theorem C01_replicas_agree_fail (st st' : St) (e : Entry) (hG : GInv st) (hS : HoldsNodup st) (h : st ≈ st') :
    ((∃ s, applyEntry st e = .panic s) ↔ ∃ s, applyEntry st' e = .panic s) ∧
    ((∃ s, applyEntry st e = .declined s) ↔ ∃ s, applyEntry st' e = .declined s) := by
  have ha := C01_replicas_agree st st' e hG hS h
  generalize applyEntry st e = x at ha
  generalize applyEntry st' e = y at ha
  cases ha <;> simp

/-- results of a history up to the order of the maps and of the recipients -/
def RunResEquiv (r r' : St × List (List Out)) : Prop := r.1 ≈ r'.1 ∧ All2 OutsEq r.2 r'.2

/-- **history version**: two replicas that start in equivalent states and apply the same log
(`runOut`: `runEntries` keeping the output batch of every entry) stay equivalent and emit, entry by
entry, the same output lists up to recipient order; they also fail together.
`OkHistory`: every entry is one the system can produce (`EntryOk`, as in `applyEntry_preserves`). -/
theorem C01_history (st st' : St) (es : List Entry) (hG : GInv st) (hS : HoldsNodup st) (h : st ≈ st')
    (hw : OkHistory st es) : RRel RunResEquiv (runOut st es) (runOut st' es) :=
  (runOut_congr hG (St.Equiv.toStEq h hG.inv.toWInvCore hS) es hw).mono
    (fun _ _ hr => ⟨hr.1.toEquiv, hr.2⟩)

/-- the same for the well-formed histories of `Entry.lean` -/
theorem C01_history_wf (st st' : St) (es : List Entry) (hG : GInv st) (hS : HoldsNodup st) (h : st ≈ st')
    (hw : WfHistory st es) : RRel RunResEquiv (runOut st es) (runOut st' es) :=
  C01_history st st' es hG hS h hw.ok

theorem C01_runOut_runEntries (st : St) (es : List Entry) :
    RRel (fun (r : St × List (List Out)) (s : St) => r.1 = s) (runOut st es) (runEntries st es) :=
  runOut_fst st es

/-- the final states of the two replicas (`runEntries`) are equivalent -/
theorem C01_history_states (st st' st1 : St) (es : List Entry) (hG : GInv st) (hS : HoldsNodup st) (h : st ≈ st')
    (hw : OkHistory st es) (hr : runEntries st es = .ok st1) : ∃ st1', runEntries st' es = .ok st1' ∧ st1 ≈ st1' := by
  have h1 := runOut_fst st es
  have h2 := runOut_fst st' es
  have h3 := C01_history st st' es hG hS h hw
  rw [hr] at h1
  obtain ⟨r, hr1, e1⟩ := h1.of_ok'
  rw [hr1] at h3
  obtain ⟨r', hr2, hrr⟩ := h3.of_ok
  rw [hr2] at h2
  obtain ⟨s2, hs2, e2⟩ := h2.of_ok
  exact ⟨s2, hs2, by rw [← e1, ← e2]; exact hrr.1⟩

/-- the initial state satisfies the hypotheses -/
theorem C01_init : GInv ({} : St) ∧ HoldsNodup ({} : St) := ⟨GInv_init, List.nodup_nil⟩

/-! ## non-vacuity

Every theorem above that has hypotheses is instantiated on concrete data on which all its hypotheses hold together.

* `Ex.stR` is the state reached from the initial state by the history `C14.Ex.es0` (the history and state of the examples
  of C14, run there: `C14.Ex.run0`, by evaluation): a Config
  entry, a services link (session 2) with the pseudo-client `ChanServ`, the registered clients alice (chanop of `#c`
  and `#d`) and bob, `ChanServ` on `#c` as well, and a connection (16) that has not chosen a nickname; `GInv` from
  `run_preserves` (`Ex.ginvR`).
* `Ex.stH` is `stR` with two SVSHOLDs (so that `HoldsNodup` says something): the line `SVSHOLD nick 60 :reason` itself
  goes through `String.toNat?`, which the kernel does not evaluate, and `svsholds` is not mentioned by `GInv`
  (`Ex.GInv_svsholds`).
* `Ex.stH'` is the other replica: *every* map of `stH` in reverse order, the inner ones (a session's channels, a
  channel's members) included; `stH ≠ stH'` as terms, `stH ≈ stH'` (`Ex.equivH`, using `C01_perm_equiv`). -/
namespace Ex
local instance (cmd : String) (n : Nat) : Decidable (ParamsOK cmd n) := by unfold ParamsOK; exact inferInstance

/-- `Conforming` as a Boolean, the lines of services links included -/
def confB (st : St) (e : Entry) : Bool :=
  !(e.type == 2) || (match AMap.get st.sessions e.session with
    | some s => !s.server || (match parseMessage e.data with
        | some m => m.pfx.isSome && decide (ParamsOK (toUpper m.command) m.params.length)
        | none => true)
    | none => true)

theorem conf_of_B {st : St} {e : Entry} (h : confB st e = true) : Conforming st e := by
  intro ht s m hs hsv hm
  unfold confB at h
  simpa [ht, hs, hsv, hm] using h

def wfB (st : St) : List Entry → Bool
  | [] => true
  | e :: es => entryOkB st e && confB st e && (match applyEntry st e with
    | .ok (st', _) => wfB st' es
    | _ => true)

theorem wf_of_B {es : List Entry} {st : St} (h : wfB st es = true) : WfHistory st es :=
  wf_of_check (b := wfB) (fun h => by
    unfold wfB at h
    simp only [Bool.and_eq_true] at h
    exact ⟨⟨entryOk_of_B h.1.1, conf_of_B h.1.2⟩, fun st' out hap => by have h3 := h.2; rwa [hap] at h3⟩) h

def entrySt (r : Res (St × List Out)) : St :=
  match r with
  | .ok p => p.1
  | _ => {}
def entryOut (r : Res (St × List Out)) : List Out :=
  match r with
  | .ok p => p.2
  | _ => []
theorem eq_of_entryOk {r : Res (St × List Out)} (h : C14.Ex.entryOk r = true) : r = .ok (entrySt r, entryOut r) := by
  cases r with
  | ok p => rfl
  | panic x => cases h
  | declined x => cases h
def declinedWhy {α : Type} (r : Res α) : Option String :=
  match r with
  | .declined w => some w
  | _ => none
theorem declined_of {α : Type} {r : Res α} {w : String} (h : declinedWhy r = some w) : r = .declined w := by
  cases r with
  | declined x => simp only [declinedWhy, Option.some.injEq] at h; rw [h]
  | ok p => cases h
  | panic x => cases h
def rcpts (r : Res Ctx) : Option (List (List Nat)) :=
  match r with
  | .ok c => some (c.out.map Out.rcpt)
  | _ => none

def mk (ty id : Nat) (sess : Id) (data : String) : Entry :=
  { type := ty, id := id, session := sess, data := data, unixNano := 0, cmid := id, rev := 0, remoteAddr := "", cfg := none }
def cfg : Config := { services := ["sekrit"], maxChannels := 2, maxSessions := 6 }
/-- the pseudo-client's id: the link's id and the FNV hash of the nick -/
def csId : Id := ⟨2, 893999252474884769⟩
def linkS : Session := { id := ⟨2, 0⟩, auth := "auth-s", lastActivity := 14, lastNonPing := 14, created := 2, svid := "0", pass := "services=sekrit", server := true, lastClientMessageId := 14, ircPrefix := ⟨"services.x", "", ""⟩ }
def chanServS : Session := { id := csId, nick := "ChanServ", username := "services", realname := "Channel Services", channels := ["#c"], lastActivity := 5, lastNonPing := 5, created := 5, svid := "0", ircPrefix := ⟨"ChanServ", "services", "robust/0x2"⟩ }
def aliceS : Session := { id := ⟨6, 0⟩, auth := "auth-a", loggedIn := true, nick := "alice", username := "a", realname := "Alice", channels := ["#c", "#d"], lastActivity := 15, lastNonPing := 15, created := 6, svid := "0", lastClientMessageId := 15, ircPrefix := ⟨"alice", "a", "robust/0x6"⟩ }
def bobS : Session := { id := ⟨10, 0⟩, auth := "auth-b", loggedIn := true, nick := "bob", username := "b", realname := "Bob", channels := ["#c"], lastActivity := 13, lastNonPing := 13, created := 10, svid := "0", lastClientMessageId := 13, ircPrefix := ⟨"bob", "b", "robust/0xa"⟩ }
def daveS : Session := { id := ⟨16, 0⟩, auth := "auth-d", lastActivity := 16, lastNonPing := 16, created := 16, svid := "0" }
/-- the state reached from the initial state by `C14.Ex.es0` (`ginvR` below) -/
def stR : St :=
  { sessions := [(⟨2, 0⟩, linkS), (csId, chanServS), (⟨6, 0⟩, aliceS), (⟨10, 0⟩, bobS), (⟨16, 0⟩, daveS)]
    nicks := [("chanserv", csId), ("alice", ⟨6, 0⟩), ("bob", ⟨10, 0⟩)]
    channels := [("#c", { name := "#c", nicks := [("alice", { chanop := true }), ("bob", {}), ("chanserv", {})], modes := ['n', 't'] }),
                 ("#d", { name := "#d", nicks := [("alice", { chanop := true })], modes := ['n', 't'] })]
    serverSessions := [2]
    lastProcessed := ⟨6, 0⟩
    config := { cfg with revision := 1 } }
/-- `stR` is reachable, hence satisfies the full invariant: it is the state of the examples of C14, where the history
`C14.Ex.es0` is run (`C14.Ex.run0`) -/
theorem ginvR : GInv stR := C14.Ex.ginvR

theorem GInv_svsholds {st : St} (x : AMap String SvsHold) (h : GInv st) : GInv { st with svsholds := x } :=
  ⟨(Inv_svsholds _ x).2 h.inv, h.linv, h.ninv, h.vinv⟩
/-- `stR` after `SVSHOLD mallory 60 :held` and `SVSHOLD eve 0 :gone` of the services link -/
def stH : St := { stR with svsholds := [("mallory", ⟨15, 60000000000, "held"⟩), ("eve", ⟨15, 0, "gone"⟩)] }
theorem ginvH : GInv stH := GInv_svsholds _ ginvR
theorem holdsH : HoldsNodup stH := by unfold HoldsNodup; decide +kernel

theorem all2_map {α : Type} {R : α → α → Prop} {f : α → α} (hf : ∀ a, R a (f a)) : ∀ l : List α, All2 R l (l.map f)
  | [] => .nil
  | a :: l => .cons (hf a) (all2_map hf l)

def revS (s : Session) : Session := { s with channels := s.channels.reverse, invitedTo := s.invitedTo.reverse }
def revC (c : Channel) : Channel := { c with nicks := c.nicks.reverse }
/-- the inner maps reversed: every session's channel list, every channel's member map -/
def stI : St :=
  { stH with sessions := stH.sessions.map (fun e => (e.1, revS e.2)), channels := stH.channels.map (fun e => (e.1, revC e.2)) }
theorem equivI : stH ≈ stI :=
  ⟨PermR.of_all2 (all2_map (f := fun e => (e.1, revS e.2))
      (fun _ => ⟨rfl, ⟨rfl, (List.reverse_perm _).symm, (List.reverse_perm _).symm⟩⟩) stH.sessions),
   List.Perm.refl _,
   PermR.of_all2 (all2_map (f := fun e => (e.1, revC e.2)) (fun _ => ⟨rfl, ⟨rfl, (List.reverse_perm _).symm⟩⟩) stH.channels),
   List.Perm.refl _, List.Perm.refl _, rfl, rfl, rfl⟩
/-- … and the five outer maps reversed as well: the other replica -/
def stH' : St :=
  { stI with sessions := stI.sessions.reverse, nicks := stI.nicks.reverse, channels := stI.channels.reverse,
             svsholds := stI.svsholds.reverse, serverSessions := stI.serverSessions.reverse }
/-- `C01_perm_equiv` on the five reversed maps (composed with the reversal of the inner maps) -/
theorem equivH : stH ≈ stH' :=
  C01_equiv_equivalence.trans equivI
    (C01_perm_equiv stI _ _ _ _ _ (List.reverse_perm _).symm (List.reverse_perm _).symm (List.reverse_perm _).symm
      (List.reverse_perm _).symm (List.reverse_perm _).symm)

def cH : Ctx := { st := stH, msgid := 20 }
def cH' : Ctx := { st := stH', msgid := 20 }
theorem ceqH : CEq cH cH' := ⟨St.Equiv.toStEq equivH ginvH.inv.toWInvCore holdsH, rfl, rfl, .nil⟩
/-- bob to `#c` -/
def mPriv : IrcMsg := ⟨none, "PRIVMSG", ["#c", "hello"]⟩
/-- `:ChanServ QUIT :bye` of the services link: the early-exit search for the owner of the nick -/
def mSQuit : IrcMsg := ⟨some ⟨"ChanServ", "", ""⟩, "QUIT", ["bye"]⟩
def ePriv : Entry := mk 2 21 ⟨10, 0⟩ "PRIVMSG #c :hello"
/-- a services line that the model declines to follow -/
def eDecl : Entry := mk 2 21 ⟨2, 0⟩ ":services.x SVSHOLD eve soon"
def stP : St := entrySt (applyEntry stH ePriv)
def outP : List Out := entryOut (applyEntry stH ePriv)
/-- bob talks; the new connection tries the held nick `mallory` (refused, the text comes from the hold) and then `eve`
(the hold has expired and is removed); alice renames herself (re-keying `#c` and `#d`); bob leaves `#c`; `ChanServ`
talks to bob; alice's session is deleted (which deletes `#d`) -/
def es1 : List Entry := [
  ePriv, mk 2 22 ⟨16, 0⟩ "NICK mallory", mk 2 23 ⟨16, 0⟩ "NICK eve", mk 2 24 ⟨6, 0⟩ "NICK alicia", mk 2 25 ⟨10, 0⟩ "PART #c",
  mk 2 26 ⟨2, 0⟩ ":ChanServ PRIVMSG bob :registered", mk 1 27 ⟨6, 0⟩ "gone"]
def stEnd : St := (runOk stH es1).getD {}
/-- What is used of the run of `es1` on `stH` (whose first entry is `ePriv`) is stated together and evaluated once:
within one evaluation the kernel reduces each `applyEntry st e` a single time. -/
theorem run1B : runOk stH es1 = some stEnd ∧ wfB stH es1 = true ∧ C14.Ex.entryOk (applyEntry stH ePriv) = true ∧
    (entryOut (applyEntry stH ePriv)).map Out.rcpt = [[6, 2]] := by decide +kernel
theorem run1 : runOk stH es1 = some stEnd := run1B.1
theorem wf1 : wfB stH es1 = true := run1B.2.1
theorem applyP : applyEntry stH ePriv = .ok (stP, outP) := eq_of_entryOk run1B.2.2.1
/-- the same on the other replica -/
theorem run1B' : (entryOut (applyEntry stH' ePriv)).map Out.rcpt = [[2, 6]] ∧
    (runOk stH' es1).map (fun st => (AMap.keys st.nicks, AMap.keys st.channels, AMap.keys st.svsholds)) =
      some (["bob", "chanserv", "eve"], ["#c"], ["mallory"]) := by decide +kernel
attribute [irreducible] stP outP stEnd
end Ex
open Ex

/-- the two replicas are different terms … -/
example : stH ≠ stH' := by decide +kernel
/-- … `C01_equiv_get_sessions`: alice's session is the same up to the order of her channel list -/
example : ORel SessEq (AMap.get stH.sessions ⟨6, 0⟩) (AMap.get stH'.sessions ⟨6, 0⟩) :=
  C01_equiv_get_sessions ginvH.inv holdsH equivH ⟨6, 0⟩
example : (AMap.get stH.sessions ⟨6, 0⟩).map (·.channels) = some ["#c", "#d"] ∧
    (AMap.get stH'.sessions ⟨6, 0⟩).map (·.channels) = some ["#d", "#c"] := by decide +kernel
/-- `C01_equiv_get_nicks` on an indexed nick and on a held one -/
example : AMap.get stH'.nicks "bob" = AMap.get stH.nicks "bob" ∧ AMap.get stH'.svsholds "bob" = AMap.get stH.svsholds "bob" :=
  C01_equiv_get_nicks ginvH.inv holdsH equivH "bob"
example : AMap.get stH'.svsholds "mallory" = AMap.get stH.svsholds "mallory" :=
  (C01_equiv_get_nicks ginvH.inv holdsH equivH "mallory").2
example : AMap.get stH'.nicks "bob" = some ⟨10, 0⟩ ∧ (AMap.get stH'.svsholds "mallory").map (·.reason) = some "held" := by
  decide +kernel
/-- `C01_inv_transfer`, `C01_ginv_transfer` -/
example : Inv stH' ∧ HoldsNodup stH' := C01_inv_transfer ginvH.inv holdsH equivH
example : GInv stH' := C01_ginv_transfer ginvH holdsH equivH

/-- `C01_handlers_congr` on a handler without side condition: bob's PRIVMSG to `#c` returns on both replicas, the
recipients (alice, the link of `ChanServ`) come in the two orders -/
example : RRel CEq (cmdPrivmsg cH ⟨10, 0⟩ mPriv) (cmdPrivmsg cH' ⟨10, 0⟩ mPriv) :=
  C01_handlers_congr "cmdPrivmsg" cmdPrivmsg rfl cH cH' ⟨10, 0⟩ mPriv (UniqNick.of_inv ginvH.inv) (fun _ h => by cases h) ceqH
example : rcpts (cmdPrivmsg cH ⟨10, 0⟩ mPriv) = some [[6, 2]] ∧ rcpts (cmdPrivmsg cH' ⟨10, 0⟩ mPriv) = some [[2, 6]] := by
  decide +kernel
/-- … and on one of the two handlers that need `UniqNick` and `MsgPfxOK` (a present prefix with a non-empty name):
the services `QUIT` of `ChanServ` finds the same owner in both iteration orders of the sessions -/
example : RRel CEq (cmdServerQuit cH ⟨2, 0⟩ mSQuit) (cmdServerQuit cH' ⟨2, 0⟩ mSQuit) :=
  C01_handlers_congr "cmdServerQuit" cmdServerQuit rfl cH cH' ⟨2, 0⟩ mSQuit (UniqNick.of_inv ginvH.inv)
    (fun p h => by cases h; decide) ceqH
example : rcpts (cmdServerQuit cH ⟨2, 0⟩ mSQuit) = some [[6, 10, 2]] ∧
    rcpts (cmdServerQuit cH' ⟨2, 0⟩ mSQuit) = some [[2, 10, 6]] := by decide +kernel

/-- `C01_replicas_agree`, `C01_replicas_agree_inv`, `C01_replicas_agree_ok` on bob's committed PRIVMSG: it applies
(`Ex.applyP`), and the one output message is addressed to `[6, 2]` on one replica and to `[2, 6]` on the other -/
example : RRel EntryResEquiv (applyEntry stH ePriv) (applyEntry stH' ePriv) :=
  C01_replicas_agree stH stH' ePriv ginvH holdsH equivH
example : RRel EntryResEquiv (applyEntry stH ePriv) (applyEntry stH' ePriv) :=
  C01_replicas_agree_inv stH stH' ePriv ginvH.inv holdsH equivH
example : ∃ st1' out', applyEntry stH' ePriv = .ok (st1', out') ∧ stP ≈ st1' ∧ OutsEq outP out' ∧
    HoldsNodup stP ∧ HoldsNodup st1' :=
  C01_replicas_agree_ok stH stH' stP ePriv outP ginvH holdsH equivH applyP
example : (entryOut (applyEntry stH ePriv)).map Out.rcpt = [[6, 2]] ∧
    (entryOut (applyEntry stH' ePriv)).map Out.rcpt = [[2, 6]] := ⟨run1B.2.2.2, run1B'.1⟩
/-- `C01_replicas_agree_fail`: a line that is declined on one replica (by evaluation) is declined on the other -/
example : ∃ s, applyEntry stH' eDecl = .declined s :=
  (C01_replicas_agree_fail stH stH' eDecl ginvH holdsH equivH).2.1
    ⟨_, declined_of (w := "time.ParseDuration on a non-decimal input") (by decide +kernel)⟩

/-- `C01_history`, `C01_history_wf`, `C01_history_states` on the seven entries of `Ex.es1`, which run through
(`Ex.run1`) and are well-formed (`Ex.wf1`) -/
example : RRel RunResEquiv (runOut stH es1) (runOut stH' es1) :=
  C01_history stH stH' es1 ginvH holdsH equivH (wf_of_B wf1).ok
example : RRel RunResEquiv (runOut stH es1) (runOut stH' es1) :=
  C01_history_wf stH stH' es1 ginvH holdsH equivH (wf_of_B wf1)
example : ∃ st1', runEntries stH' es1 = .ok st1' ∧ stEnd ≈ st1' :=
  C01_history_states stH stH' stEnd es1 ginvH holdsH equivH (wf_of_B wf1).ok (runOk_some run1)
/-- the other replica at the end: alice and `#d` are gone, the new connection is `eve`, the expired hold was consumed -/
example : (runOk stH' es1).map (fun st => (AMap.keys st.nicks, AMap.keys st.channels, AMap.keys st.svsholds)) =
    some (["bob", "chanserv", "eve"], ["#c"], ["mallory"]) := run1B'.2

end Robust.Props.C01Congr
