import Robust.Fsm.Lemmas
/-!
# C02 — compaction is invisible

For any log and any schedule of snapshots, failed snapshot writes, restores from the latest snapshot
and process restarts, a node ends in the same state as a node that applied the whole log without ever
snapshotting; every persisted snapshot is complete; the node's log copy and output store hold exactly
the un-folded commands; and a snapshot step compacts only inputs older than the horizon.

The model is `Robust.Fsm` (`Model.lean`), the inductive invariant is `Robust.Fsm.Inv` (`Lemmas.lean`).
-/
namespace Robust.Props.C02
open Robust.Fsm

def commits : List Op → List LogEntry
  | [] => []
  | .commit e :: r => e :: commits r
  | _ :: r => commits r

/-- the committed entries have strictly increasing indexes ≥ 1 (raft assigns them) -/
def WfOps (ops : List Op) : Prop :=
  ((commits ops).map (·.idx)).Pairwise (· < ·) ∧ ∀ e ∈ commits ops, 1 ≤ e.idx

/-- what a node that never snapshots holds after applying the committed log -/
def replayLive (log : List LogEntry) : List Nat := (log.filter (·.isCmd)).map (·.idx)

def replayExp (log : List LogEntry) : Int :=
  (log.filter (·.isCmd)).foldl (fun ex e => match e.setsExp with | some d => d | none => ex) 600000000000

/-! ## glue to the vocabulary of `Lemmas.lean` -/

theorem replayLive_eq (L : List LogEntry) : replayLive L = idxs (cmds L) := rfl

theorem replayExp_eq (L : List LogEntry) : replayExp L = expOf (cmds L) defaultExp := by
  unfold replayExp expOf cmds defaultExp
  congr 1

theorem inv_step {n : Node} {b : Nat} (I : Inv n b) (op : Op)
    (hop : ∀ e, op = .commit e → (∀ x ∈ n.raftlog, x.idx < e.idx) ∧ 1 ≤ e.idx) :
    ∃ b', Inv (n.step op) b' ∧ (n.step op).raftlog = n.raftlog ++ commits [op] := by
  have nil : ∀ {n' : Node}, n'.raftlog = n.raftlog → n'.raftlog = n.raftlog ++ [] :=
    fun h => h.trans (List.append_nil _).symm
  cases op with
  | commit e => exact ⟨b, inv_commit I (hop e rfl).1 (hop e rfl).2⟩
  | snapshot now =>
    show ∃ b', Inv ((n.snapshot now).getD n) b' ∧ ((n.snapshot now).getD n).raftlog = _
    cases h : n.snapshot now with
    | none => exact ⟨b, I, nil rfl⟩
    | some n' => obtain ⟨b', I', hr⟩ := inv_snapshot I h; exact ⟨b', I', nil hr⟩
  | persist => exact ⟨b, (inv_persist I).1, nil (inv_persist I).2⟩
  | persistFail => exact ⟨b, inv_persistFail I, nil rfl⟩
  | restoreLatest => obtain ⟨b', I', hr⟩ := inv_restoreLatest I; exact ⟨b', I', nil hr⟩
  | restart => obtain ⟨b', I', hr⟩ := inv_restart I; exact ⟨b', I', nil hr⟩

theorem commits_cons (op : Op) (ops : List Op) : commits (op :: ops) = commits [op] ++ commits ops := by
  cases op <;> rfl

theorem inv_run : ∀ (ops : List Op) {n : Node} {b : Nat}, Inv n b →
    Sorted (n.raftlog ++ commits ops) → (∀ e ∈ commits ops, 1 ≤ e.idx) →
    (n.run ops).raftlog = n.raftlog ++ commits ops ∧ ∃ b', Inv (n.run ops) b'
  | [], n, b, I, _, _ => ⟨(List.append_nil _).symm, b, I⟩
  | op :: ops, n, b, I, hs, hp => by
    have hop : ∀ e, op = .commit e → (∀ x ∈ n.raftlog, x.idx < e.idx) ∧ 1 ≤ e.idx := by
      intro e he
      subst he
      exact ⟨fun x hx => (List.pairwise_append.1 hs).2.2 x hx e (List.mem_cons_self ..),
        hp e (List.mem_cons_self ..)⟩
    obtain ⟨b1, I1, hr⟩ := inv_step I op hop
    rw [commits_cons, ← List.append_assoc, ← hr] at hs ⊢
    exact inv_run ops I1 hs fun e he => hp e (by rw [commits_cons]; exact List.mem_append_right _ he)

theorem reachable_inv (ops : List Op) (h : WfOps ops) :
    (({} : Node).run ops).raftlog = commits ops ∧ ∃ b, Inv (({} : Node).run ops) b :=
  inv_run ops inv_init (List.pairwise_map.1 h.1) h.2

/-! ## (1) same state as plain replay, for every schedule -/

theorem C02_state_eq_replay (ops : List Op) (h : WfOps ops) :
    let n := ({} : Node).run ops
    n.raftlog = commits ops ∧ n.live = replayLive (commits ops) ∧ n.exp = replayExp (commits ops) := by
  obtain ⟨hl, b, I⟩ := reachable_inv ops h
  refine ⟨hl, ?_, ?_⟩
  · rw [replayLive_eq, ← hl]; exact I.live
  · rw [replayExp_eq, ← hl]; exact I.exp

/-! ## (2) every persisted snapshot is complete -/

theorem C02_snapshot_complete (ops : List Op) (h : WfOps ops) (s : Snap)
    (hs : s ∈ (({} : Node).run ops).persisted) :
    s.state ++ replayLive s.retained = replayLive ((commits ops).filter (fun e => e.idx ≤ s.index)) := by
  obtain ⟨hl, b, I⟩ := reachable_inv ops h
  have g := I.pers s hs
  rw [← hl, replayLive_eq, replayLive_eq, g.retained, cmds_between, g.good.st, ← idxs_append,
    upto_between (sorted_cmds I.sorted) g.le]
  congr 1
  exact (cmds_filter_comm _ _).symm

/-- the same for the session expiration carried by the snapshot -/
theorem C02_snapshot_complete_exp (ops : List Op) (h : WfOps ops) (s : Snap)
    (hs : s ∈ (({} : Node).run ops).persisted) :
    expOf s.retained s.stateExp = replayExp ((commits ops).filter (fun e => e.idx ≤ s.index)) ∧
    s.stateIdx ≤ s.index ∧
    s.retained = (commits ops).filter (fun e => e.isCmd && decide (s.stateIdx < e.idx ∧ e.idx ≤ s.index)) := by
  obtain ⟨hl, b, I⟩ := reachable_inv ops h
  have g := I.pers s hs
  refine ⟨?_, g.le, ?_⟩
  · rw [← hl, replayExp_eq, g.retained, g.good.ex, ← expOf_append,
      upto_between (sorted_cmds I.sorted) g.le]
    congr 1
    exact (cmds_filter_comm _ _).symm
  · rw [← hl, g.retained]
    simp only [between, cmds, List.filter_filter]
    apply List.filter_congr; intro x _; exact Bool.and_comm _ _

/-! ## (3) the log copy and the output store hold exactly the un-folded commands -/

theorem C02_unfolded_kept (ops : List Op) (h : WfOps ops) :
    let n := ({} : Node).run ops
    (∀ i, i ∈ n.out ↔ i ∈ n.irc.map (·.idx)) ∧
    ∃ folded, folded ++ n.irc.map (·.idx) = n.live ∧ (n.irc = [] ∨ ∀ i ∈ folded, ∀ e ∈ n.irc, i < e.idx) := by
  obtain ⟨_, b, I⟩ := reachable_inv ops h
  refine ⟨I.out, idxs (upto b (cmds (({} : Node).run ops).raftlog)), ?_, Or.inr ?_⟩
  · show idxs _ ++ idxs _ = _
    rw [I.live, I.irc, ← idxs_append, sorted_split (sorted_cmds I.sorted)]
  · intro i hi e he
    obtain ⟨x, hx, rfl⟩ := List.mem_map.1 hi
    rw [I.irc] at he
    have h1 : x.idx ≤ b := by simpa using (List.mem_filter.1 hx).2
    have h2 : b < e.idx := by simpa using (List.mem_filter.1 he).2
    omega

/-- sharper form of (3): there is a boundary `b` such that the log copy is *exactly* the list of
committed commands with index `> b` (identical entries, in order), and the folded part is exactly the
commands with index `≤ b` -/
theorem C02_unfolded_exact (ops : List Op) (h : WfOps ops) :
    let n := ({} : Node).run ops
    ∃ b, n.irc = (commits ops).filter (fun e => e.isCmd && decide (b < e.idx)) ∧
         replayLive ((commits ops).filter (fun e => e.idx ≤ b)) ++ n.irc.map (·.idx) = n.live := by
  obtain ⟨hl, b, I⟩ := reachable_inv ops h
  refine ⟨b, ?_, ?_⟩
  · rw [← hl, I.irc]
    simp only [after, cmds, List.filter_filter]
    apply List.filter_congr; intro x _; exact Bool.and_comm _ _
  · rw [← hl, replayLive_eq, cmds_filter_comm]
    show idxs (upto b _) ++ idxs _ = _
    rw [I.live, I.irc, ← idxs_append, sorted_split (sorted_cmds I.sorted)]

/-! ## (4) only inputs older than the horizon are compacted by one snapshot step -/

/-- one snapshot step folds a prefix `F` of the log copy, all of it older than the horizon, and deletes exactly
the output of `F` -/
theorem snapshot_split {n n' : Node} {now : Int} (hs : n.snapshot now = some n') :
    ∃ F, n.irc = F ++ n'.irc ∧
      (∀ e ∈ F, e.ts ≤ now - ((if n.exp = 0 then 600000000000 else n.exp) + expireSessionsInterval)) ∧
      n'.out = n.out.filter (fun i => !(F.any (·.idx == i))) := by
  obtain ⟨f, l, _, _, _, hn'⟩ := snapshot_some hs
  obtain ⟨hsplit, hold, _⟩ := foldOld_spec (horizonOf n now) n.irc
  exact ⟨_, by rw [hn']; exact hsplit, hold, by rw [hn']; rfl⟩

theorem C02_horizon (n n' : Node) (now : Int) (hs : n.snapshot now = some n') (e : LogEntry)
    (he : e ∈ n.irc) (hne : e ∉ n'.irc) :
    e.ts ≤ now - ((if n.exp = 0 then 600000000000 else n.exp) + expireSessionsInterval) := by
  obtain ⟨F, hsplit, hold, _⟩ := snapshot_split hs
  rw [hsplit] at he
  exact (List.mem_append.1 he).elim (hold e) (fun he => absurd he hne)

/-! ## (5) an input newer than the horizon is still served after the snapshot -/

/-- the log-copy half of (5) holds for every node -/
theorem C02_recent_kept_irc (n n' : Node) (now : Int) (hs : n.snapshot now = some n') (e : LogEntry)
    (he : e ∈ n.irc)
    (hnew : e.ts > now - ((if n.exp = 0 then 600000000000 else n.exp) + expireSessionsInterval)) :
    e ∈ n'.irc := by
  obtain ⟨F, hsplit, hold, _⟩ := snapshot_split hs
  rw [hsplit] at he
  exact (List.mem_append.1 he).elim (fun h => absurd (hold e h) (by omega)) id

/-- (5), with the one hypothesis it needs: the indexes in the node's log copy are
distinct (the store is keyed by index; true for every reachable node, see `C02_recent_kept_reachable`).
Without it the statement is false, see `C02_recent_kept_needs_distinct`. -/
theorem C02_recent_kept (n n' : Node) (now : Int) (hs : n.snapshot now = some n') (e : LogEntry)
    (he : e ∈ n.irc)
    (hnew : e.ts > now - ((if n.exp = 0 then 600000000000 else n.exp) + expireSessionsInterval))
    (hd : (n.irc.map (·.idx)).Nodup) :
    e ∈ n'.irc ∧ (e.idx ∈ n.out → e.idx ∈ n'.out) := by
  have hirc := C02_recent_kept_irc n n' now hs e he hnew
  obtain ⟨F, hsplit, _, hout⟩ := snapshot_split hs
  refine ⟨hirc, fun ho => ?_⟩
  rw [hout]
  -- no folded entry has the index of `e`: the indexes of `F ++ n'.irc` are distinct
  rw [hsplit, List.map_append] at hd
  exact mem_filter_not_any.2 ⟨ho, fun h =>
    (List.pairwise_append.1 hd).2.2 e.idx h e.idx (List.mem_map.2 ⟨e, hirc, rfl⟩) rfl⟩

/-- (5) unconditionally for every node reachable by a well-formed schedule -/
theorem C02_recent_kept_reachable (ops : List Op) (h : WfOps ops) (n' : Node) (now : Int)
    (hs : (({} : Node).run ops).snapshot now = some n') (e : LogEntry)
    (he : e ∈ (({} : Node).run ops).irc)
    (hnew : e.ts > now - ((if (({} : Node).run ops).exp = 0 then 600000000000 else (({} : Node).run ops).exp)
              + expireSessionsInterval)) :
    e ∈ n'.irc ∧ (e.idx ∈ (({} : Node).run ops).out → e.idx ∈ n'.out) := by
  obtain ⟨_, b, I⟩ := reachable_inv ops h
  apply C02_recent_kept _ n' now hs e he hnew
  have hs : Sorted (({} : Node).run ops).irc := by rw [I.irc]; exact (sorted_cmds I.sorted).filter _
  have : ((({} : Node).run ops).irc.map (·.idx)).Pairwise (· < ·) := List.pairwise_map.2 hs
  exact this.imp (fun h => Nat.ne_of_lt h)

/-- counterexample to (5) for an *unreachable* node whose log copy holds two entries with the same
index: the old one is folded, its id is deleted from the output store, the new one stays in the log
copy without output -/
theorem C02_recent_kept_needs_distinct :
    ∃ (n n' : Node) (now : Int) (e : LogEntry), n.snapshot now = some n' ∧ e ∈ n.irc ∧
      e.ts > now - ((if n.exp = 0 then 600000000000 else n.exp) + expireSessionsInterval) ∧
      e.idx ∈ n.out ∧ e.idx ∉ n'.out := by
  refine ⟨{ irc := [⟨1, 0, true, none⟩, ⟨1, 100, true, none⟩], out := [1] }, _, 610000000050,
    ⟨1, 100, true, none⟩, rfl, ?_⟩
  decide

def cmd (i : Nat) (ts : Int) : Op := .commit ⟨i, ts, true, none⟩

/-- a schedule with an index gap (entry 6 is raft-internal) and an "everything is old" snapshot -/
def sched : List Op :=
  [cmd 1 10, cmd 2 20, cmd 3 30, cmd 4 40, cmd 5 50,
   .snapshot 1000000000000000, .persist,
   .commit ⟨6, 60, false, none⟩, cmd 7 70,
   .snapshot 1000000000000000, .persist, .restart]

example : (({} : Node).run sched).live = [1, 2, 3, 4, 5, 7] := by decide +kernel
example : (({} : Node).run sched).live = replayLive (commits sched) := by decide +kernel
example : (({} : Node).run sched).irc = [] ∧ (({} : Node).run sched).out = [] := by decide +kernel
example : (({} : Node).run sched).persisted.map (fun s => (s.index, s.stateIdx, s.state, s.retained)) =
    [(7, 7, [1, 2, 3, 4, 5, 7], []), (5, 5, [1, 2, 3, 4, 5], [])] := by decide +kernel
/-- after the first "everything is old" snapshot the log copy is empty and the next snapshot finds the
state under key 5 although the next stored index is 7 -/
example : (({} : Node).run (sched.take 9)).irc.map (·.idx) = [7] ∧
    (({} : Node).run (sched.take 9)).lss = [(5, [1, 2, 3, 4, 5], 600000000000)] := by decide +kernel
/-- a snapshot that folds only the old half, a failed write, and a restore of the older snapshot -/
example : (({} : Node).run
    [cmd 1 10, cmd 2 20, .snapshot 620000000015, .persist, cmd 3 30, .snapshot 620000000025,
     .persistFail, .restoreLatest, cmd 4 40, .snapshot 620000000035, .persist, .restart]).live = [1, 2, 3, 4] := by
  decide +kernel

namespace Ex

/-- a schedule exercising every kind of step, with timestamps in ns: entry 3 lowers the session
expiration to 300 s (so the horizon is `now − 310 s`), entry 5 is raft-internal; the first snapshot
folds 1–3 and retains 4; the second one is computed but its write fails; the node then installs the
first snapshot again, snapshots a third time (folding 4 and 6, retaining 7), persists, restarts, and
commits entry 8 -/
def sched2 : List Op :=
  [cmd 1 10000000000, cmd 2 20000000000, .commit ⟨3, 25000000000, true, some 300000000000⟩,
   cmd 4 400000000000,
   .snapshot 420000000000, .persist,
   .commit ⟨5, 450000000000, false, none⟩, cmd 6 500000000000,
   .snapshot 720000000000, .persistFail, .restoreLatest,
   cmd 7 600000000000,
   .snapshot 830000000000, .persist, .restart,
   cmd 8 700000000000]

theorem wf2 : WfOps sched2 := ⟨by decide +kernel, by decide +kernel⟩

/-- the end state is populated: a non-empty log copy and output store, two persisted snapshots with
non-empty state and retained entries, and a non-default expiration -/
example : (({} : Node).run sched2).live = [1, 2, 3, 4, 6, 7, 8] ∧
    (({} : Node).run sched2).irc.map (·.idx) = [7, 8] ∧ (({} : Node).run sched2).out = [7, 8] ∧
    (({} : Node).run sched2).exp = 300000000000 ∧
    (({} : Node).run sched2).persisted.map (fun s => (s.index, s.stateIdx, s.state, s.stateExp, s.retained.map (·.idx))) =
      [(7, 6, [1, 2, 3, 4, 6], 300000000000, [7]), (4, 3, [1, 2, 3], 300000000000, [4])] := by decide +kernel

example : (({} : Node).run sched2).raftlog = commits sched2 ∧
    (({} : Node).run sched2).live = replayLive (commits sched2) ∧
    (({} : Node).run sched2).exp = replayExp (commits sched2) := C02_state_eq_replay sched2 wf2

/-- the older persisted snapshot: state `[1,2,3]`, retained entry 4 -/
def snapA : Snap := ⟨4, 3, [1, 2, 3], 300000000000, [⟨4, 400000000000, true, none⟩]⟩
/-- the newer one: state `[1,2,3,4,6]` (entry 5 is not a command), retained entry 7 -/
def snapB : Snap := ⟨7, 6, [1, 2, 3, 4, 6], 300000000000, [⟨7, 600000000000, true, none⟩]⟩

theorem memA : snapA ∈ (({} : Node).run sched2).persisted := by decide +kernel
theorem memB : snapB ∈ (({} : Node).run sched2).persisted := by decide +kernel

example : snapA.state ++ replayLive snapA.retained = replayLive ((commits sched2).filter (fun e => e.idx ≤ snapA.index)) :=
  C02_snapshot_complete sched2 wf2 snapA memA
example : snapB.state ++ replayLive snapB.retained = [1, 2, 3, 4, 6, 7] :=
  (C02_snapshot_complete sched2 wf2 snapB memB).trans (by decide)

example : expOf snapB.retained snapB.stateExp = replayExp ((commits sched2).filter (fun e => e.idx ≤ snapB.index)) ∧
    snapB.stateIdx ≤ snapB.index ∧
    snapB.retained = (commits sched2).filter (fun e => e.isCmd && decide (snapB.stateIdx < e.idx ∧ e.idx ≤ snapB.index)) :=
  C02_snapshot_complete_exp sched2 wf2 snapB memB
/-- … and the expiration it carries is the non-default one set by entry 3 -/
example : replayExp ((commits sched2).filter (fun e => e.idx ≤ snapB.index)) = 300000000000 := by decide

example : (∀ i, i ∈ (({} : Node).run sched2).out ↔ i ∈ (({} : Node).run sched2).irc.map (·.idx)) ∧
    ∃ folded, folded ++ (({} : Node).run sched2).irc.map (·.idx) = (({} : Node).run sched2).live ∧
      ((({} : Node).run sched2).irc = [] ∨ ∀ i ∈ folded, ∀ e ∈ (({} : Node).run sched2).irc, i < e.idx) :=
  C02_unfolded_kept sched2 wf2

example : ∃ b, (({} : Node).run sched2).irc = (commits sched2).filter (fun e => e.isCmd && decide (b < e.idx)) ∧
    replayLive ((commits sched2).filter (fun e => e.idx ≤ b)) ++ (({} : Node).run sched2).irc.map (·.idx) =
      (({} : Node).run sched2).live :=
  C02_unfolded_exact sched2 wf2
/-- the boundary is 6 here -/
example : (({} : Node).run sched2).irc = (commits sched2).filter (fun e => e.isCmd && decide (6 < e.idx)) ∧
    replayLive ((commits sched2).filter (fun e => e.idx ≤ 6)) = [1, 2, 3, 4, 6] := by decide +kernel

/-! one snapshot step: the node after the first four commits (log copy 1–4, expiration 300 s),
snapshotting at `now = 420 s`: horizon 110 s, entries 1–3 are folded, entry 4 stays -/

def nA : Node := ({} : Node).run (sched2.take 4)
def nowA : Int := 420000000000
def nA' : Node := (nA.snapshot nowA).getD nA
def e2 : LogEntry := ⟨2, 20000000000, true, none⟩
def e4 : LogEntry := ⟨4, 400000000000, true, none⟩

theorem snapA_some : nA.snapshot nowA = some nA' := rfl

example : nA.irc.map (·.idx) = [1, 2, 3, 4] ∧ nA.out = [1, 2, 3, 4] ∧ nA.exp = 300000000000 ∧
    nA'.irc.map (·.idx) = [4] ∧ nA'.out = [4] := by decide +kernel

example : e2.ts ≤ nowA - ((if nA.exp = 0 then 600000000000 else nA.exp) + expireSessionsInterval) :=
  C02_horizon nA nA' nowA snapA_some e2 (by decide) (by decide)

example : e4 ∈ nA'.irc :=
  C02_recent_kept_irc nA nA' nowA snapA_some e4 (by decide) (by decide)

example : e4 ∈ nA'.irc ∧ (e4.idx ∈ nA.out → e4.idx ∈ nA'.out) :=
  C02_recent_kept nA nA' nowA snapA_some e4 (by decide) (by decide) (by decide)

/-- the premise of the inner implication holds too -/
example : e4.idx ∈ nA.out := by decide

example : e4 ∈ nA'.irc ∧ (e4.idx ∈ (({} : Node).run (sched2.take 4)).out → e4.idx ∈ nA'.out) :=
  C02_recent_kept_reachable (sched2.take 4) ⟨by decide +kernel, by decide +kernel⟩ nA' nowA snapA_some e4
    (by decide +kernel) (by decide +kernel)

end Ex

end Robust.Props.C02
