import Robust.Irc.Proofs.PermMap
import Robust.Gen.Ranges
/-!
# C01 — replica determinism: same committed log, byte-identical output everywhere

The model's `applyEntry` is a function of the state and the entry (no clock, no randomness, ids
are `entry.id` and a reply counter), so two nodes can only differ through Go's unspecified map
iteration order.  The theorems below (a) pin, by facts regenerated from the source on every run,
every `range` over a map on the replicated path to a body shape, (b) prove for each shape the
general reason why it is insensitive to iteration order, and (c) pin every use of the clock /
environment / goroutines to functions outside the apply path.  The per-handler permutation
congruence of the model itself is proved in `Props/C01Congr.lean`; it is also exercised by running the
model with all maps reordered after every entry (driver `ircperm`), and the real code twice, on the
same histories.
-/
namespace Robust.Props.C01
open Robust Robust.Irc

/-- expected classification of every map `range`: (what is ranged over, body shape), derived by reading the
code once.  What is ranged over is named by the field and its type (independent of variable names and of the
function the loop sits in, so that renaming or moving a loop into a helper changes nothing); a new site, a
different ranged map or a changed body shape makes `C01_sites` fail.  Shapes: `collect+sort` = the very slice
the body appended to is sorted after the loop; `carry(T)` = the body writes a variable of type `T` that lives
across iterations, other than by `x = append(x, …)`; `mapwrite` = writes under the loop's own keys; `emit` =
sends output; `exit` = leaves the loop early; `calls(f)` = calls a function of the package that itself has
effects (callees that only compute are not listed). -/
def expectedSites : List (String × String) := [
  ("ircserver.IRCServer.channels", "collect+mapwrite"),                  -- Marshal: written into a proto map
  ("ircserver.IRCServer.channels", "collect+sort"),                      -- LIST
  ("ircserver.IRCServer.channels", "delete+calls(maybeDeleteChannelLocked)"),  -- deleteSessionLocked: each, independent per channel
  ("ircserver.IRCServer.channels", "mapwrite+delete"),                   -- NICK: re-key one member per channel
  ("ircserver.IRCServer.channels", "mapwrite+delete"),                   -- SVSNICK: the same
  ("ircserver.IRCServer.nicks", "collect+sort"),                         -- netburst
  ("ircserver.IRCServer.nicks", "mapwrite"),                             -- set: recipients (sendAllUsers)
  ("ircserver.IRCServer.sessions", "collect+sort"),                      -- server QUIT
  ("ircserver.IRCServer.sessions", "collect"),                           -- ExpireSessions: not on the apply path, proposal order only
  ("ircserver.IRCServer.sessions", "collect"),                           -- Marshal: repeated field; Unmarshal inserts under distinct keys
  ("ircserver.IRCServer.sessions", "delete"),                            -- MaybeDeleteSession: each
  ("ircserver.IRCServer.sessions", "delete"),                            -- maybeDeleteChannelLocked: each
  ("ircserver.IRCServer.sessions", "emit+exit+calls(deleteSessionLocked)"),  -- server QUIT, uniq: at most one owner of the prefix nick
  ("ircserver.IRCServer.sessions", "exit+carry(*irc.Prefix)"),           -- server KILL, uniq: at most one pseudo-client owns the nick
  ("ircserver.IRCServer.sessions", "mapwrite"),                          -- GetSessions: status page copy (not on the apply path)
  ("ircserver.IRCServer.svsholds", "mapwrite"),                          -- Marshal
  ("ircserver.Session.Channels", "collect+sort"),                        -- netburst
  ("ircserver.Session.Channels", "collect+sort"),                        -- WHOIS
  ("ircserver.Session.Channels", "collect"),                             -- Marshal
  ("ircserver.Session.Channels", "exit+carry(bool)"),                    -- PRIVMSG, any: existence test (the flag is only ever set to true)
  ("ircserver.Session.Channels", "mapwrite"),                            -- GetSessions: copies into a fresh map
  ("ircserver.Session.Channels", "mapwrite"),                            -- set: recipients (sendCommonChannels)
  ("ircserver.Session.invitedTo", "collect"),                            -- Marshal
  ("ircserver.Session.invitedTo", "mapwrite"),                           -- GetSessions
  ("ircserver.channel.nicks", "collect+mapwrite"),                       -- Marshal
  ("ircserver.channel.nicks", "collect+sort"),                           -- NAMES
  ("ircserver.channel.nicks", "collect+sort"),                           -- WHO
  ("ircserver.channel.nicks", "mapwrite"),                               -- set: recipients (sendChannel)
  ("ircserver.channel.nicks", "mapwrite"),                               -- set: recipients (sendChannelButOne)
  ("ircserver.channel.nicks", "mapwrite"),                               -- set: recipients (sendCommonChannels)
  ("local:map[string]string", "emit+exit"),                              -- service aliases, uniq: distinct literal keys
  ("main.FSM.lastSnapshotState", "carry(bool,uint64)"),                  -- maximum of the keys below the horizon
  ("main.FSM.lastSnapshotState", "delete"),
  ("make(map[string]bool)", "collect+sort"),                             -- MODE: mode letters seen
  ("outputstream.Message.InterestingFor", "carry(int)"),                 -- byte order of a set (C18); the int is the write offset
  ("outputstream.OutputStream.messagesCache", "exit+delete"),            -- cache eviction: node-local
  ("proto.Snapshot.Svsholds", "exit+mapwrite"),                          -- Unmarshal; exit only on a corrupt snapshot
  ("proto.Snapshot_Channel.Nicks", "mapwrite")                           -- Unmarshal
]

/-- regenerated: the map `range` sites of the source are exactly the classified ones -/
theorem C01_sites : Gen.Ranges.mapRanges.map (fun s => (s.2.1, s.2.2)) = expectedSites := by decide +kernel

/-- no site on the apply path emits output inside a map iteration, except the two early-exit
lookups whose match is unique -/
theorem C01_no_emit_in_range :
    (Gen.Ranges.mapRanges.filter (fun s => hasPrefix s.2.2 "emit")).map (·.2.1) =
      ["ircserver.IRCServer.sessions", "local:map[string]string"] := by decide +kernel

/-- regenerated: the clock, the environment, goroutines and `select` are used only outside the
apply path: the expiry sweep and throttling (API side), the PANIC test switch at start-up, the
blocking reader of the output stream, and snapshot/restore timing (compaction time, metrics, and
the server-creation time — the tolerated `003`) -/
theorem C01_impure : Gen.Ranges.impureCalls = [
    ("internal/ircserver:IRCServer.ExpireSessions", "time.Since"),
    ("internal/ircserver:IRCServer.ThrottleUntil", "time.Since"),
    ("internal/ircserver:init", "os.Getenv"),
    ("internal/outputstream:OutputStream.GetNext", "select"),
    ("main:FSM.Restore", "time.Now"),
    ("main:FSM.Snapshot", "time.Now"),
    ("main:FSM.decodeJson", "time.Now"), ("main:FSM.decodeJson", "time.Since"),
    ("main:FSM.decodeProtobuf", "time.Now"), ("main:FSM.decodeProtobuf", "time.Since"),
    ("main:robustSnapshot.Persist", "time.Now"), ("main:robustSnapshot.Persist", "time.Since"),
    ("main:robustSnapshot.persistJSON", "time.Now"), ("main:robustSnapshot.persistJSON", "time.Since")] := by decide +kernel

/-! ## why each shape is insensitive to the iteration order -/

/-- collect + sort: sorting two permutations of the same strings gives the same list -/
theorem C01_sort_perm (l₁ l₂ : List String) (h : l₁.Perm l₂) :
    l₁.mergeSort (fun a b => a ≤ b) = l₂.mergeSort (fun a b => a ≤ b) :=
  sortStr_eq_of_perm h

/-- set (recipient maps): the set of recipients does not depend on the order of insertion -/
theorem C01_set_perm (l₁ l₂ : List Nat) (h : l₁.Perm l₂) (x : Nat) : x ∈ l₁ ↔ x ∈ l₂ := h.mem_iff

/-- any / uniq: an early-exit search gives the same answer on every permutation when at most
one element matches -/
theorem C01_find_unique {α : Type} (p : α → Bool) (l₁ l₂ : List α) (h : l₁.Perm l₂)
    (huniq : ∀ a ∈ l₁, ∀ b ∈ l₁, p a = true → p b = true → a = b) : l₁.find? p = l₂.find? p :=
  (find?_permR (PermR.of_perm (fun _ => rfl) h) (fun _ _ e => e ▸ rfl) huniq).eq

/-- existence tests do not depend on the order -/
theorem C01_any_perm {α : Type} (p : α → Bool) (l₁ l₂ : List α) (h : l₁.Perm l₂) : l₁.any p = l₂.any p :=
  h.any_eq

/-- each: a per-element update or deletion applied to all elements commutes with permutation -/
theorem C01_filter_perm {α : Type} (p : α → Bool) (l₁ l₂ : List α) (h : l₁.Perm l₂) : (l₁.filter p).Perm (l₂.filter p) :=
  h.filter p

theorem C01_map_perm {α β : Type} (f : α → β) (l₁ l₂ : List α) (h : l₁.Perm l₂) : (l₁.map f).Perm (l₂.map f) :=
  h.map f

/-- the model has no hidden input: applying an entry is a function of state and entry (ids come
from the entry, replies are numbered 1, 2, … by a counter) -/
theorem C01_reply_ids (c : Ctx) (m : IrcMsg) (rc : List Nat) :
    (emit c m rc).out = c.out ++ [⟨c.msgid, c.replyid + 1, m.render, rc⟩] ∧ (emit c m rc).replyid = c.replyid + 1 := ⟨rfl, rfl⟩

/-! ## non-vacuity

Every theorem above that has hypotheses, instantiated on concrete data on which all hypotheses hold together
(two different iteration orders of the same map contents). -/
namespace Ex
/-- the channel keys of a map in two iteration orders -/
def l₁ : List String := ["#b", "#a", "#c", "#a0"]
def l₂ : List String := ["#c", "#a0", "#b", "#a"]
theorem perm12 : l₁.Perm l₂ := by decide +kernel
theorem sorted1 : l₁.mergeSort (fun a b => a ≤ b) = ["#a", "#a0", "#b", "#c"] := by
  simp [l₁, List.mergeSort, List.MergeSort.Internal.splitInTwo, List.splitAt, List.splitAt.go]
/-- (session id, lower-cased nick) of three sessions; the nicks are distinct -/
def sess : List (Nat × String) := [(1, "alice"), (9, "chanserv"), (5, "bob")]
/-- another iteration order of the same sessions -/
def sess' : List (Nat × String) := [(5, "bob"), (1, "alice"), (9, "chanserv")]
theorem permS : sess.Perm sess' := by decide +kernel
/-- an (inconsistent) pair of sessions that share a nick: what `huniq` of `C01_find_unique` excludes -/
def dup : List (Nat × String) := [(1, "bob"), (5, "bob")]
end Ex

/-- `C01_sort_perm`: the two orders are different lists, permutations of each other, and sort to the same list -/
example : Ex.l₁ ≠ Ex.l₂ ∧ Ex.l₂.mergeSort (fun a b => a ≤ b) = ["#a", "#a0", "#b", "#c"] :=
  ⟨by decide, (C01_sort_perm Ex.l₁ Ex.l₂ Ex.perm12).symm.trans Ex.sorted1⟩

/-- `C01_set_perm`: a recipient that is in the set and one that is not -/
example : (7 ∈ [3, 7, 9] ↔ 7 ∈ [9, 3, 7]) ∧ (4 ∈ [3, 7, 9] ↔ 4 ∈ [9, 3, 7]) :=
  ⟨C01_set_perm [3, 7, 9] [9, 3, 7] (by decide) 7, C01_set_perm [3, 7, 9] [9, 3, 7] (by decide) 4⟩

/-- `C01_find_unique`: exactly one session carries the nick `chanserv` (so `huniq` holds, by evaluation, and not
because nothing matches); the early-exit search finds it in both orders -/
example : Ex.sess.find? (fun e => e.2 == "chanserv") = Ex.sess'.find? (fun e => e.2 == "chanserv") :=
  C01_find_unique _ Ex.sess Ex.sess' Ex.permS (by decide +kernel)
example : Ex.sess'.find? (fun e => e.2 == "chanserv") = some (9, "chanserv") := by decide +kernel
/-- … and `huniq` is needed: with two matching elements it fails and the two orders give different answers -/
example : ¬ (∀ a ∈ Ex.dup, ∀ b ∈ Ex.dup, (fun e : Nat × String => e.2 == "bob") a = true →
    (fun e : Nat × String => e.2 == "bob") b = true → a = b) := by decide
example : Ex.dup.find? (fun e => e.2 == "bob") ≠ Ex.dup.reverse.find? (fun e => e.2 == "bob") := by decide

/-- `C01_any_perm`: an existence test that succeeds and one that fails -/
example : (Ex.sess.any (fun e => e.2 == "bob") = Ex.sess'.any (fun e => e.2 == "bob")) ∧
    (Ex.sess.any (fun e => e.2 == "carol") = Ex.sess'.any (fun e => e.2 == "carol")) :=
  ⟨C01_any_perm _ Ex.sess Ex.sess' Ex.permS, C01_any_perm _ Ex.sess Ex.sess' Ex.permS⟩
example : Ex.sess'.any (fun e => e.2 == "bob") = true ∧ Ex.sess'.any (fun e => e.2 == "carol") = false := by decide +kernel

/-- `C01_filter_perm` (deleting the sessions of link 9) and `C01_map_perm` (re-keying every element) -/
example : (Ex.sess.filter (fun e => e.1 != 9)).Perm (Ex.sess'.filter (fun e => e.1 != 9)) :=
  C01_filter_perm _ Ex.sess Ex.sess' Ex.permS
example : Ex.sess.filter (fun e => e.1 != 9) = [(1, "alice"), (5, "bob")] ∧
    Ex.sess'.filter (fun e => e.1 != 9) = [(5, "bob"), (1, "alice")] := by decide +kernel
example : (Ex.sess.map (fun e => (e.1 + 100, e.2))).Perm (Ex.sess'.map (fun e => (e.1 + 100, e.2))) :=
  C01_map_perm _ Ex.sess Ex.sess' Ex.permS

end Robust.Props.C01
