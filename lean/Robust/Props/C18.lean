import Robust.Stream.Codec
import Robust.Codec.Message
import Robust.Base.Records
import Robust.Gen.Copies
/-!
# C18 — every writer/reader pair of the on-disk and on-wire formats round-trips

* output batches: byte-exact model of `marshal`/`unmarshalMessageBatch`, round-trip proved for
  every batch (any number of messages, recipients, any payload bytes);
* replicated messages and raft log entries: the field copies around the wire codecs are
  **regenerated from the Go source** (`Gen.Copies`); the theorems below are statements about
  those regenerated tables, lifted to all records by `Records.rt_sound`.
-/
namespace Robust.Props.C18
open Robust Robust.Stream Robust.Records Robust.Facts Robust.Codec

/-- An output batch written to the output store decodes to the same ids, text and recipient
list.  `hflags`: only `true` is ever stored in a recipient map (regenerated fact
`C18_only_true_stored`); a `false` entry would be written as a key and come back as `true`. -/
theorem C18_batch_roundtrip (b : Batch) (h : WfBatch b)
    (hflags : ∀ m ∈ b.msgs, ∀ r ∈ m.rcpt, r.2 = true) :
    unmarshal (marshal b) = some b := by
  rw [unmarshal_marshal b h, Batch.allTrue_eq b hflags]

/-- without the hypothesis on the flags: ids, text and the recipient *keys* still round-trip -/
theorem C18_batch_roundtrip_keys (b : Batch) (h : WfBatch b) :
    unmarshal (marshal b) = some b.allTrue := unmarshal_marshal b h

/-- regenerated fact: every store into an `InterestingFor` map stores the constant `true` -/
theorem C18_only_true_stored :
    Gen.Copies.interestingForStores.all (fun s => s.2 == "true") = true := by decide

/-- decoding is total on well-formed input only: a truncated buffer is rejected (Go: panic),
never silently mis-decoded -/
theorem C18_batch_truncated : unmarshal (marshal ⟨[⟨1, 1, [65], [(7, true)]⟩], noNext⟩ |>.dropLast) = none := by
  decide

/-! ## replicated messages (`robust.Message` ⇄ `pb.RobustMessage`) -/

def lookup (n : String) (l : List (String × List CopyFact)) : List CopyFact :=
  match l.find? (fun e => e.1 == n) with
  | some e => e.2
  | none => []

def encProtoMessage := lookup "internal/robust:Message.ProtoMessage" Gen.Copies.pb_RobustMessage_from_robust_Message
def encCopyToProto := lookup "internal/robust:Message.CopyToProtoMessage" Gen.Copies.pb_RobustMessage_from_robust_Message
def decFromBytes := lookup "internal/robust:NewMessageFromBytes" Gen.Copies.robust_Message_from_pb_RobustMessage

/-- all fields of `robust.Message` that are part of the replicated format (`InterestingFor` is
`json:"-"` and never encoded: it is recomputed by every node) -/
def msgFields : List String := Gen.Copies.fields_robust_Message.filter (· ≠ "InterestingFor")

theorem C18_msg_fields : msgFields = ["ClientMessageId", "Currentmaster", "Data", "Id.Id", "Id.Reply",
    "RemoteAddr", "Revision", "Servers", "Session.Id", "Session.Reply", "Type", "UnixNano"] := by decide +kernel

/-- A replicated message encoded with `ProtoMessage` decodes to the same message (every field of
`robust.Message`, for every record). -/
theorem C18_msg_pb_roundtrip (m : Rec) (f : String) (hf : f ∈ msgFields) :
    applyCopies decFromBytes (applyCopies encProtoMessage m) f = m f :=
  rt_sound encProtoMessage decFromBytes msgFields (by decide +kernel) m f hf

theorem C18_msg_pb_roundtrip_copy (m : Rec) (f : String) (hf : f ∈ msgFields) :
    applyCopies decFromBytes (applyCopies encCopyToProto m) f = m f :=
  rt_sound encCopyToProto decFromBytes msgFields (by decide +kernel) m f hf

/-- both protobuf encoders agree -/
theorem C18_encoders_agree : sameTable encProtoMessage encCopyToProto = true ∧
    dstFunctional encProtoMessage = true ∧ dstFunctional encCopyToProto = true := by decide +kernel

/-- every field of the protobuf message is written by the encoders (nothing is left at its zero
value by accident) -/
theorem C18_pb_fields_all_written :
    Gen.Copies.fields_pb_RobustMessage.all (fun f => encProtoMessage.any (·.dst == f) && encCopyToProto.any (·.dst == f)) = true := by
  decide +kernel

/-- the id defaults to the raft index only when absent (regenerated condition + model) -/
theorem C18_id_default_fact : Gen.Copies.idDefaultCond = "msg.Id.Id == 0" ∧ Gen.Copies.idDefaultBody = "msg.Id.Id = index" :=
  ⟨rfl, rfl⟩

theorem C18_id_default (m : RMsg) (index : Nat) :
    (m.id ≠ 0 → fromBytes m index = m) ∧ (m.id = 0 → fromBytes m index = { m with id := index }) := by
  unfold fromBytes RMsg.withDefaultId
  constructor <;> intro h <;> simp [h]

/-! ## raft log entries (`raft.Log` ⇄ `pb.RaftLog`) -/

def canonicalLogDecoder : List CopyFact :=
  [⟨"AppendedAt", "AppendedAt", "asTime"⟩, ⟨"Data", "Data", ""⟩, ⟨"Extensions", "Extensions", ""⟩,
   ⟨"Index", "Index", ""⟩, ⟨"Term", "Term", ""⟩, ⟨"Type", "Type", "conv"⟩]

/-- every reader of a stored raft log entry (store, snapshotting, text-log dump, canary, generic
decoder) copies the same six fields in the same way: they decode identically -/
theorem C18_raftlog_readers_agree :
    Gen.Copies.raft_Log_from_pb_RaftLog.all (fun e => sameTable e.2 canonicalLogDecoder && dstFunctional e.2) = true := by
  decide +kernel

/-- …and the readers the property names are all present in that regenerated list -/
theorem C18_raftlog_readers_present :
    ["internal/raftlog:FromBytes", "internal/raftstore:LevelDBStore.GetLog", "main:FSM.Snapshot", "main:dumpLogToDisk1", "main:canary"].all
      (fun n => Gen.Copies.raft_Log_from_pb_RaftLog.any (·.1 == n)) = true := by decide +kernel

/-- every writer/reader pair round-trips every field of `raft.Log` -/
theorem C18_raftlog_pairs :
    Gen.Copies.pb_RaftLog_from_raft_Log.all (fun w =>
      Gen.Copies.raft_Log_from_pb_RaftLog.all (fun r => rtOK w.2 r.2 Gen.Copies.fields_raft_Log)) = true := by
  decide +kernel

theorem C18_raftlog_roundtrip (w r : String × List CopyFact)
    (hw : w ∈ Gen.Copies.pb_RaftLog_from_raft_Log) (hr : r ∈ Gen.Copies.raft_Log_from_pb_RaftLog)
    (m : Rec) (f : String) (hf : f ∈ Gen.Copies.fields_raft_Log) :
    applyCopies r.2 (applyCopies w.2 m) f = m f := by
  have h := C18_raftlog_pairs
  rw [List.all_eq_true] at h
  have h1 := h w hw
  rw [List.all_eq_true] at h1
  exact rt_sound w.2 r.2 _ (h1 r hr) m f hf

theorem C18_raftlog_writers_present :
    ["internal/raftstore:LevelDBStore.StoreLogs", "internal/raftstore:LevelDBStore.ConvertToProto", "main:FSM.Apply"].all
      (fun n => Gen.Copies.pb_RaftLog_from_raft_Log.any (·.1 == n)) = true ∧
    Gen.Copies.fields_raft_Log = Gen.Copies.fields_pb_RaftLog := ⟨by decide +kernel, rfl⟩

/-- output messages handed to / taken from the output store keep id, text and recipients -/
theorem C18_outputstream_copies :
    Gen.Copies.outputstream_Message_from_robust_Message.all (fun e => sameTable e.2 [⟨"Data", "Data", ""⟩, ⟨"Id", "Id", ""⟩, ⟨"InterestingFor", "InterestingFor", ""⟩]) = true ∧
    Gen.Copies.robust_Message_from_outputstream_Message.all (fun e => sameTable e.2 [⟨"Data", "Data", ""⟩, ⟨"Id", "Id", ""⟩, ⟨"InterestingFor", "InterestingFor", ""⟩]) = true := by
  decide +kernel

/-- non-vacuity: a concrete two-message batch satisfies the hypotheses of `C18_batch_roundtrip` -/
example : unmarshal (marshal ⟨[⟨5, 1, [104, 105], [(3, true), (9, true)]⟩, ⟨5, 2, [], []⟩], noNext⟩) =
    some ⟨[⟨5, 1, [104, 105], [(3, true), (9, true)]⟩, ⟨5, 2, [], []⟩], noNext⟩ := by decide +kernel

namespace Ex

/-- a batch of three messages (several recipients, empty and non-empty payloads) pointing to a successor -/
def b1 : Batch := ⟨[⟨5, 1, [104, 105], [(3, true), (9, true)]⟩, ⟨5, 2, [], []⟩,
  ⟨5, 3, [80, 73, 78, 71], [(18446744073709551615, true)]⟩], 12⟩

theorem wf_b1 : WfBatch b1 := by unfold WfBatch WfMsg b1; decide

/-- `C18_batch_roundtrip` instantiated: both hypotheses hold for `b1` -/
example : unmarshal (marshal b1) = some b1 := C18_batch_roundtrip b1 wf_b1 (by unfold b1; decide)

/-- the tail batch (`next = noNext`) is well-formed as well -/
example : unmarshal (marshal { b1 with next := noNext }) = some { b1 with next := noNext } :=
  C18_batch_roundtrip _ (by unfold WfBatch WfMsg b1; decide) (by unfold b1; decide)

/-- a batch with a `false` recipient flag: well-formed, but the flag hypothesis of
`C18_batch_roundtrip` fails and the flag really comes back as `true` -/
def b2 : Batch := ⟨[⟨7, 1, [120], [(3, false), (4, true)]⟩, ⟨7, 2, [], [(3, true)]⟩], noNext⟩

theorem wf_b2 : WfBatch b2 := by unfold WfBatch WfMsg b2; decide

example : unmarshal (marshal b2) =
    some ⟨[⟨7, 1, [120], [(3, true), (4, true)]⟩, ⟨7, 2, [], [(3, true)]⟩], noNext⟩ :=
  C18_batch_roundtrip_keys b2 wf_b2

example : unmarshal (marshal b2) ≠ some b2 := by decide +kernel

/-- `WfBatch` is not vacuous the other way either: an id that does not fit 64 bits is not well-formed
and does not round-trip -/
example : ¬ WfBatch ⟨[⟨18446744073709551616, 1, [], []⟩], noNext⟩ := by unfold WfBatch WfMsg; decide

/-- a fully populated record: every field path holds a distinct atom -/
def rec : Rec := fun f => some (.atom f)

example : applyCopies decFromBytes (applyCopies encProtoMessage rec) "Session.Id" = some (.atom "Session.Id") :=
  C18_msg_pb_roundtrip rec "Session.Id" (by decide +kernel)

example : applyCopies decFromBytes (applyCopies encProtoMessage rec) "UnixNano" = some (.atom "UnixNano") :=
  C18_msg_pb_roundtrip rec "UnixNano" (by decide +kernel)

example : applyCopies decFromBytes (applyCopies encCopyToProto rec) "Servers" = some (.atom "Servers") :=
  C18_msg_pb_roundtrip_copy rec "Servers" (by decide +kernel)

/-- the tables the two theorems speak about are the populated regenerated ones, not the `[]`
default of `lookup` (for which `applyCopies` would be constantly `none`) -/
example : encProtoMessage.length = 12 ∧ encCopyToProto.length = 12 ∧ decFromBytes.length = 12 := by decide +kernel

/-- the field that is *not* part of the replicated format does not come back -/
example : applyCopies decFromBytes (applyCopies encProtoMessage rec) "InterestingFor" = none := by decide +kernel

def wStore : String × List CopyFact :=
  ("internal/raftstore:LevelDBStore.StoreLogs", lookup "internal/raftstore:LevelDBStore.StoreLogs" Gen.Copies.pb_RaftLog_from_raft_Log)
def wApply : String × List CopyFact :=
  ("main:FSM.Apply", lookup "main:FSM.Apply" Gen.Copies.pb_RaftLog_from_raft_Log)
def rGetLog : String × List CopyFact :=
  ("internal/raftstore:LevelDBStore.GetLog", lookup "internal/raftstore:LevelDBStore.GetLog" Gen.Copies.raft_Log_from_pb_RaftLog)
def rSnapshot : String × List CopyFact :=
  ("main:FSM.Snapshot", lookup "main:FSM.Snapshot" Gen.Copies.raft_Log_from_pb_RaftLog)

/-- `C18_raftlog_roundtrip` instantiated with named writer/reader pairs of the regenerated tables;
`AppendedAt` goes through `timestamppb.New` / `AsTime` -/
example : applyCopies rGetLog.2 (applyCopies wStore.2 rec) "AppendedAt" = some (.atom "AppendedAt") :=
  C18_raftlog_roundtrip wStore rGetLog (by decide +kernel) (by decide +kernel) rec "AppendedAt" (by decide +kernel)

example : applyCopies rSnapshot.2 (applyCopies wApply.2 rec) "Type" = some (.atom "Type") :=
  C18_raftlog_roundtrip wApply rSnapshot (by decide +kernel) (by decide +kernel) rec "Type" (by decide +kernel)

/-- `C18_id_default`, both branches on a populated message -/
example : fromBytes ⟨0, 0, 7, 2, 6, [80], 1700000000000000000, [[104]], [104], 99, 3, [49]⟩ 41 =
    ⟨41, 0, 7, 2, 6, [80], 1700000000000000000, [[104]], [104], 99, 3, [49]⟩ :=
  (C18_id_default _ 41).2 rfl

example : fromBytes ⟨40, 0, 7, 2, 6, [80], 1700000000000000000, [[104]], [104], 99, 3, [49]⟩ 41 =
    ⟨40, 0, 7, 2, 6, [80], 1700000000000000000, [[104]], [104], 99, 3, [49]⟩ :=
  (C18_id_default _ 41).1 (by decide)

end Ex

end Robust.Props.C18
