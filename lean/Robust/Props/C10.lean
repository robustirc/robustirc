import Robust.Api.Model
import Robust.Irc.Proofs.AMapLemmas
import Robust.Irc.Proofs.FrmCheck
import Robust.Gen.Exprs
import Robust.Props.C11
/-!
# C10 — a retried POST (same client message id) is never applied twice

Part 1 (decision level): what the POST handler and the first step of the state machine do with the
marker `Session.lastClientMessageId`.

Part 2 (frame): the marker is written **only** by `updateLastClientMessageID` — none of the 41
command handlers, nor the address / registration stages of `ProcessMessage`, nor
`MaybeDeleteSession` touches the marker of any stored session (`C10_handlers_keep_marker`,
`C10_processMessage_keeps_marker`); hence per entry type (`C10_client_entry_marker`,
`C10_death_entry_marker`, `C10_other_entries_keep_marker`, `C10_new_session_marker_zero`) and along
every well-formed history (`C10_marker_is_last_cmid`): the marker of a stored client session is the
client message id of the last client entry / message of death of that session, so the retry test
of the POST handler answers exactly for that id (`C10_retry_after_history`).
Helpers: `Robust/Irc/Proofs/Frm*.lean`.
-/
namespace Robust.Props.C10
open Robust Robust.Irc Robust.Api

/-- The handler's decision: a POST whose client message id equals the session's marker is
acknowledged (200) **without proposing an entry** — no second log entry, hence no second
delivery; any other id proposes exactly one IRCFromClient entry carrying that id. -/
theorem C10_retry_not_proposed (st : St) (hdr : Option String) (idStr : String) (σ : Id) (s : Session)
    (cmid : Nat) (data addr : String)
    (hauth : session st hdr idStr = .ok σ) (hs : AMap.get st.sessions σ = some s) (hm : s.lastClientMessageId = cmid) :
    handlePost st hdr idStr cmid data addr = ⟨200, none⟩ := by
  unfold handlePost; simp [hauth, hs, hm]

theorem C10_fresh_id_proposed (st : St) (hdr : Option String) (idStr : String) (σ : Id) (s : Session)
    (cmid : Nat) (data addr : String)
    (hauth : session st hdr idStr = .ok σ) (hs : AMap.get st.sessions σ = some s) (hm : s.lastClientMessageId ≠ cmid) :
    ∃ e, handlePost st hdr idStr cmid data addr = ⟨200, some e⟩ ∧ e.type = 2 ∧ e.session = σ ∧ e.cmid = cmid := by
  unfold handlePost; simp [hauth, hs, hm]

/-- Applying a client entry sets the marker of its session *before* the line is processed
(`UpdateLastClientMessageID` is the first thing the FSM does) … -/
theorem C10_marker_set_first (st : St) (e : Entry) (s : Session) (hs : AMap.get st.sessions e.session = some s) :
    ∃ st1 s1, updateLastClientMessageID st e = some st1 ∧ AMap.get st1.sessions e.session = some s1 ∧ s1.lastClientMessageId = e.cmid := by
  unfold updateLastClientMessageID
  simp only [hs]
  exact ⟨_, _, rfl, AMap.get_set_same _ _ _, rfl⟩

/-- …and the same holds for an entry that is skipped as message of death. -/
theorem C10_marker_set_by_death (st : St) (e : Entry) (h : e.type = 5) (s : Session) (hs : AMap.get st.sessions e.session = some s) :
    ∃ st1 s1, applyEntry st e = .ok (st1, []) ∧ AMap.get st1.sessions e.session = some s1 ∧ s1.lastClientMessageId = e.cmid := by
  obtain ⟨st1, s1, h1, h2, h3⟩ := C10_marker_set_first st e s hs
  refine ⟨st1, s1, ?_, h2, h3⟩
  unfold applyEntry; simp [h, h1]

/-- So once the first copy has been applied and the marker still carries its id, every repeat
— any number of them, whatever other sessions do in between, as long as this session's marker
is not moved by a newer message of its own — is acknowledged without a proposal. -/
theorem C10_retry_after_apply (st' : St) (hdr : Option String) (idStr : String) (σ : Id) (s' : Session) (cmid : Nat)
    (hauth : session st' hdr idStr = .ok σ) (hs : AMap.get st'.sessions σ = some s') (hm : s'.lastClientMessageId = cmid)
    (repeats : List (String × String)) :
    ∀ r ∈ repeats, handlePost st' hdr idStr cmid r.1 r.2 = ⟨200, none⟩ :=
  fun r _ => C10_retry_not_proposed st' hdr idStr σ s' cmid r.1 r.2 hauth hs hm

/-- if the session was closed by the first copy (QUIT/KILL), the retry is refused: still no entry -/
theorem C10_retry_after_close (st' : St) (hdr : Option String) (idStr : String) (e : SessErr)
    (h : session st' hdr idStr = .error e) (cmid : Nat) (data addr : String) :
    (handlePost st' hdr idStr cmid data addr).proposal = none := by
  unfold handlePost; simp [h, refuse]

/-- regenerated from handlePostMessage / applyRobustMessage: the duplicate test compares the
session's last id with the request's, answers with a bare `return`, and comes before the leader
check, the proxying and `applyMessageWait`; the proposed entry carries the request's id; the FSM
updates the marker first, for client entries and for messages of death alike. -/
theorem C10_wiring :
    Gen.Exprs.fact "post.dedupe.cond" = "local:struct{Data string; ClientMessageId uint64}.ClientMessageId == recv.ircServer().LastPostMessage(param3)" ∧
    Gen.Exprs.fact "post.dedupe.body" = "return" ∧
    Gen.Exprs.fact "post.dedupe.first" = "true" ∧
    Gen.Exprs.fact "post.msg.ClientMessageId" = "local:struct{Data string; ClientMessageId uint64}.ClientMessageId" ∧
    Gen.Exprs.fact "post.msg.Session" = "param3" ∧
    Gen.Exprs.fact "death.case.first" = "param2.UpdateLastClientMessageID(param1)" :=
  ⟨rfl, rfl, rfl, rfl, rfl, rfl⟩

/-! ## Part 2 — nothing but `updateLastClientMessageID` writes the marker -/

/-- **Frame, handlers.** For every handler `h` of the command table and every session `σ` stored
after a run of `h` (the actor or anybody else): either `σ` was stored before and carries the same
marker, or `σ` was not stored before — then it is a services pseudo-client created by this run
(services `NICK`; its id has `reply ≠ 0`) and its marker is `0`.
Hypotheses: the acting session is one the HTTP API can name (`reply = 0`) and sessions are stored
under their own id without duplicate keys (`SessWf`, two conjuncts of the global invariant; without
them `putS` could overwrite a *different* session). -/
theorem C10_handlers_keep_marker {fname : String} {h : Handler} (hh : handlerByName fname = some h)
    {c c' : Ctx} {sid : Id} {m : IrcMsg} (h0 : sid.reply = 0) (hw : SessWf c.st) (hr : h c sid m = .ok c')
    {σ : Id} {s' : Session} (hs' : AMap.get c'.st.sessions σ = some s') :
    (∃ s, AMap.get c.st.sessions σ = some s ∧ s'.lastClientMessageId = s.lastClientMessageId) ∨
    (AMap.get c.st.sessions σ = none ∧ s'.lastClientMessageId = 0 ∧ σ.reply ≠ 0) := by
  rcases (handler_frmM hh h0 hw hr).mark σ s' hs' with ⟨s, hs, e⟩ | ⟨hn, e, hrep, _⟩
  · exact Or.inl ⟨s, hs, e⟩
  · exact Or.inr ⟨hn, e, hrep⟩

/-- … and no handler removes a session from the map (sessions are only flagged `deleted`;
`MaybeDeleteSession` removes them afterwards): every session stored before is stored after, with the
same marker. -/
theorem C10_handlers_keep_sessions {fname : String} {h : Handler} (hh : handlerByName fname = some h)
    {c c' : Ctx} {sid : Id} {m : IrcMsg} (h0 : sid.reply = 0) (hw : SessWf c.st) (hr : h c sid m = .ok c')
    {σ : Id} {s : Session} (hs : AMap.get c.st.sessions σ = some s) :
    ∃ s', AMap.get c'.st.sessions σ = some s' ∧ s'.lastClientMessageId = s.lastClientMessageId := by
  have f := handler_frmM hh h0 hw hr
  cases hg : AMap.get c'.st.sessions σ with
  | none => rw [f.mono σ hg] at hs; cases hs
  | some s' => exact ⟨s', rfl, (f.mark σ s' hg).old hs⟩

/-- **Frame, `ProcessMessage`** (address bookkeeping and GLINE-ban check, registration gate, table
lookup, handler): the same statement. -/
theorem C10_processMessage_keeps_marker {c c' : Ctx} {e : Entry} {im : Option IrcMsg}
    (h0 : e.session.reply = 0) (hw : SessWf c.st) (hr : processMessage c e im = .ok c')
    {σ : Id} {s' : Session} (hs' : AMap.get c'.st.sessions σ = some s') :
    (∃ s, AMap.get c.st.sessions σ = some s ∧ s'.lastClientMessageId = s.lastClientMessageId) ∨
    (AMap.get c.st.sessions σ = none ∧ s'.lastClientMessageId = 0 ∧ σ.reply ≠ 0) := by
  rcases ((processMessage_frm h0 hw).apply hr).1.mark σ s' hs' with ⟨s, hs, e⟩ | ⟨hn, e, hrep, _⟩
  · exact Or.inl ⟨s, hs, e⟩
  · exact Or.inr ⟨hn, e, hrep⟩

/-- **Client entry (type 2).** After `applyEntry`, the marker of the entry's session — if it is
still stored — is exactly the entry's client message id, whatever the line did; and every other
session that was stored before and is still stored carries its old marker. -/
theorem C10_client_entry_marker {st st' : St} {e : Entry} {out : List Out} (hw : SessWf st) (he : EntryOk st e)
    (ht : e.type = 2) (hr : applyEntry st e = .ok (st', out)) :
    (∀ s', AMap.get st'.sessions e.session = some s' → s'.lastClientMessageId = e.cmid) ∧
    (∀ σ s s', σ ≠ e.session → AMap.get st.sessions σ = some s → AMap.get st'.sessions σ = some s' →
      s'.lastClientMessageId = s.lastClientMessageId) :=
  ⟨fun _ hs' => (applyEntry_marker hw he hr hs').1 (Or.inl ht) rfl,
   fun _ s _ hne hs hs' => (applyEntry_marker hw he hr hs').2.1 (fun h => hne h.2) s hs⟩

/-- **Message of death (type 5)**: likewise — the skipped message still moves the marker of its
session, and only that one. -/
theorem C10_death_entry_marker {st st' : St} {e : Entry} {out : List Out} (hw : SessWf st) (he : EntryOk st e)
    (ht : e.type = 5) (hr : applyEntry st e = .ok (st', out)) :
    (∀ s', AMap.get st'.sessions e.session = some s' → s'.lastClientMessageId = e.cmid) ∧
    (∀ σ s s', σ ≠ e.session → AMap.get st.sessions σ = some s → AMap.get st'.sessions σ = some s' →
      s'.lastClientMessageId = s.lastClientMessageId) :=
  ⟨fun _ hs' => (applyEntry_marker hw he hr hs').1 (Or.inr ht) rfl,
   fun _ s _ hne hs hs' => (applyEntry_marker hw he hr hs').2.1 (fun h => hne h.2) s hs⟩

/-- **All other entries** (CreateSession 0, DeleteSession 1, Config 6, unknown types): no session
that was stored before changes its marker.  (`EntryOk` is used for type 0: the id of a CreateSession
entry is fresh — otherwise `createSession` would overwrite the stored session, marker included.) -/
theorem C10_other_entries_keep_marker {st st' : St} {e : Entry} {out : List Out} (hw : SessWf st)
    (he : EntryOk st e) (h2 : e.type ≠ 2) (h5 : e.type ≠ 5) (hr : applyEntry st e = .ok (st', out))
    {σ : Id} {s s' : Session} (hs : AMap.get st.sessions σ = some s) (hs' : AMap.get st'.sessions σ = some s') :
    s'.lastClientMessageId = s.lastClientMessageId :=
  (applyEntry_marker hw he hr hs').2.1 (fun h => h.1.elim h2 h5) s hs

/-- A session that appears with an entry (CreateSession, services `NICK`) starts with marker `0`;
and with `reply = 0` it can only be the session of a CreateSession entry. -/
theorem C10_new_session_marker_zero {st st' : St} {e : Entry} {out : List Out} (hw : SessWf st)
    (he : EntryOk st e) (hr : applyEntry st e = .ok (st', out))
    {σ : Id} {s' : Session} (hn : AMap.get st.sessions σ = none) (hs' : AMap.get st'.sessions σ = some s') :
    s'.lastClientMessageId = 0 ∧ (σ.reply = 0 → e.type = 0 ∧ σ = ⟨e.id, 0⟩) :=
  (applyEntry_marker hw he hr hs').2.2 hn

/-- **Corollary, histories.** Along any well-formed history the marker of a stored client session
`σ` (`reply = 0`) is `expectedMarker σ m0 es`: the client message id of the last client entry /
message of death of `σ` (a CreateSession entry that creates `σ` resets it to `0`; `m0` is the marker
`σ` had before the history, if it was stored then). -/
theorem C10_marker_is_last_cmid {st st' : St} {es : List Entry} {σ : Id} {m0 : Nat} (hw : SessWf st)
    (hwf : WfHistory st es) (hσ : σ.reply = 0)
    (hP : ∀ s, AMap.get st.sessions σ = some s → s.lastClientMessageId = m0)
    (hr : runEntries st es = .ok st') {s' : Session} (hs' : AMap.get st'.sessions σ = some s') :
    s'.lastClientMessageId = expectedMarker σ m0 es :=
  run_marker hw hwf hσ hP hr s' hs'

/-- entries that are neither client entries / messages of death of `σ` nor create `σ` leave the
expected marker alone -/
theorem expectedMarker_quiet (σ : Id) (m : Nat) (es : List Entry)
    (hq : ∀ e ∈ es, ¬((e.type = 2 ∨ e.type = 5) ∧ e.session = σ) ∧ ¬(e.type = 0 ∧ (⟨e.id, 0⟩ : Id) = σ)) :
    expectedMarker σ m es = m := by
  induction es generalizing m with
  | nil => rfl
  | cons e es ih =>
    unfold expectedMarker
    rw [List.foldl_cons]
    have h1 := hq e (List.mem_cons_self ..)
    have : markerStep σ m e = m := by
      unfold markerStep
      rw [if_neg h1.1, if_neg h1.2]
    rw [this]
    exact ih m (fun e' he' => hq e' (List.mem_cons_of_mem _ he'))

/-- the expected marker after a history `es1 ++ e :: es2` in which `e` is the last entry of `σ` -/
theorem expectedMarker_last (σ : Id) (m0 : Nat) (es1 es2 : List Entry) (e : Entry)
    (he : (e.type = 2 ∨ e.type = 5) ∧ e.session = σ)
    (hq : ∀ e' ∈ es2, ¬((e'.type = 2 ∨ e'.type = 5) ∧ e'.session = σ) ∧ ¬(e'.type = 0 ∧ (⟨e'.id, 0⟩ : Id) = σ)) :
    expectedMarker σ m0 (es1 ++ e :: es2) = e.cmid := by
  unfold expectedMarker
  rw [List.foldl_append, List.foldl_cons]
  have : markerStep σ (List.foldl (markerStep σ) m0 es1) e = e.cmid := by
    unfold markerStep; rw [if_pos he]
  rw [this]
  exact expectedMarker_quiet σ e.cmid es2 hq

/-- **Capstone.** Replica-independent form of the property: on *any* node whose state is the result
of a well-formed history in which the client entry `e` (client message id `e.cmid`) is the last
entry of session `σ` — whatever other sessions did before and after — a POST of `σ` that repeats
`e.cmid` is acknowledged without proposing anything (if `σ` is gone, `session` fails and
`C10_retry_after_close` applies). -/
theorem C10_retry_after_history {st st' : St} {es1 es2 : List Entry} {e : Entry} {σ : Id} (hw : SessWf st)
    (hwf : WfHistory st (es1 ++ e :: es2)) (he : (e.type = 2 ∨ e.type = 5) ∧ e.session = σ)
    (hq : ∀ e' ∈ es2, ¬((e'.type = 2 ∨ e'.type = 5) ∧ e'.session = σ) ∧ ¬(e'.type = 0 ∧ (⟨e'.id, 0⟩ : Id) = σ))
    (hr : runEntries st (es1 ++ e :: es2) = .ok st')
    (hdr : Option String) (idStr : String) (hauth : session st' hdr idStr = .ok σ) (data addr : String) :
    handlePost st' hdr idStr e.cmid data addr = ⟨200, none⟩ := by
  -- an authenticated session is stored and has `reply = 0`
  obtain ⟨s', _, hs', _, _, _, hσ⟩ := C11.C11_session_sound st' hdr idStr σ hauth
  -- whatever marker `σ` starts with (if it is stored at all), the last entry of `σ` overwrites it
  have hm := C10_marker_is_last_cmid (m0 := ((AMap.get st.sessions σ).map (·.lastClientMessageId)).getD 0) hw hwf hσ
    (fun s hs => by rw [hs]; rfl) hr hs'
  rw [expectedMarker_last σ _ es1 es2 e he hq] at hm
  exact C10_retry_not_proposed st' hdr idStr σ s' e.cmid data addr hauth hs' hm

/-! ### non-vacuity: a concrete state, entries and history -/

def exAlice : Session :=
  { id := ⟨1, 0⟩, nick := "alice", username := "al", loggedIn := true, channels := ["#c"], operator := true,
    lastClientMessageId := 41, ircPrefix := ⟨"alice", "al", "robust/0x1"⟩ }
def exBob : Session :=
  { id := ⟨2, 0⟩, nick := "Bob", username := "bo", loggedIn := true, channels := ["#c"], remoteAddr := "10.0.0.2",
    lastClientMessageId := 77, ircPrefix := ⟨"Bob", "bo", "robust/0x2"⟩ }
def exChanC : Channel := { name := "#c", nicks := [("alice", { chanop := true }), ("bob", {})], modes := ['n', 't'] }
/-- alice (IRC operator, marker 41) and Bob (marker 77) on `#c` -/
def exSt : St :=
  { sessions := [(⟨1, 0⟩, exAlice), (⟨2, 0⟩, exBob)]
    nicks := [("alice", ⟨1, 0⟩), ("bob", ⟨2, 0⟩)]
    channels := [("#c", exChanC)] }
def mkE (type id : Nat) (session : Id) (data : String) (cmid : Nat) : Entry :=
  { type := type, id := id, session := session, data := data, unixNano := 0, cmid := cmid, rev := 0,
    remoteAddr := "", cfg := none }
/-- Bob talks (cmid 78), alice kills Bob (cmid 42), a message of death of alice (cmid 43), a new session 13 -/
def exHist : List Entry :=
  [mkE 2 10 ⟨2, 0⟩ "PRIVMSG #c :hi" 78, mkE 2 11 ⟨1, 0⟩ "KILL bob :bye" 42, mkE 5 12 ⟨1, 0⟩ "boom" 43,
   mkE 0 13 ⟨0, 0⟩ "auth" 0]

theorem exSt_wf : SessWf exSt := (ginv_of_ginvB (by decide +kernel)).sessWf
theorem exHist_wf : WfHistory exSt exHist := wf_of_histB (lc := none) (by decide +kernel)

/-- the hypotheses of the entry-level theorems hold for the first entry, it applies, and Bob's marker
moves from 77 to 78 while alice keeps 41 -/
theorem C10_example_client_entry :
    EntryOk exSt (mkE 2 10 ⟨2, 0⟩ "PRIVMSG #c :hi" 78) ∧
    (applyEntry exSt (mkE 2 10 ⟨2, 0⟩ "PRIVMSG #c :hi" 78)).isOk = true ∧
    markers (resSt (applyEntry exSt (mkE 2 10 ⟨2, 0⟩ "PRIVMSG #c :hi" 78))) = [(⟨1, 0⟩, 41), (⟨2, 0⟩, 78)] :=
  ⟨entryOk_of_B (by decide), by decide +kernel⟩

/-- a handler run that does change other sessions (KILL removes Bob from the channel and flags him)
leaves both markers alone -/
theorem C10_example_handler :
    (cmdKill { st := exSt, msgid := 11 } ⟨1, 0⟩ ⟨none, "KILL", ["bob", "bye"]⟩).isOk = true ∧
    (match cmdKill { st := exSt, msgid := 11 } ⟨1, 0⟩ ⟨none, "KILL", ["bob", "bye"]⟩ with
      | .ok c => markers c.st | _ => []) = [(⟨1, 0⟩, 41), (⟨2, 0⟩, 77)] := by
  decide +kernel

/-- the history runs through; at the end alice and the new session are stored with the expected
markers: 43 (the message of death, not the KILL before it) and 0 -/
theorem C10_example_history :
    (runEntries exSt exHist).isOk = true ∧
    markers (runSt (runEntries exSt exHist)) = [(⟨1, 0⟩, 43), (⟨13, 0⟩, 0)] ∧
    expectedMarker ⟨1, 0⟩ 41 exHist = 43 ∧ expectedMarker ⟨13, 0⟩ 0 exHist = 0 :=
  by decide +kernel

/-- `C10_marker_is_last_cmid` instantiated on the example -/
example {s' : Session} (hs' : AMap.get (runSt (runEntries exSt exHist)).sessions ⟨1, 0⟩ = some s') :
    s'.lastClientMessageId = 43 := by
  have h := C10_marker_is_last_cmid (σ := ⟨1, 0⟩) (m0 := 41) exSt_wf exHist_wf rfl
    (fun s hs => by
      have : AMap.get exSt.sessions ⟨1, 0⟩ = some exAlice := by decide +kernel
      rw [this] at hs; cases hs; rfl)
    (run_eq_of_isOk C10_example_history.1) hs'
  rw [h]; exact C10_example_history.2.2.1

/-- Why `SessWf` is assumed: in a (never reached) state where a session is stored under a key that
is not its own id, `putS` writes to the *other* key — here AWAY of the session stored under `⟨1,0⟩`
(whose `id` field says `⟨2,0⟩`) overwrites the session `⟨2,0⟩` and with it its marker (77 ↦ 41). -/
theorem C10_counterexample_without_wf :
    let bad : St := { sessions := [(⟨1, 0⟩, { exAlice with id := ⟨2, 0⟩ }), (⟨2, 0⟩, exBob)] }
    (match cmdAway { st := bad, msgid := 1 } ⟨1, 0⟩ ⟨none, "AWAY", ["gone"]⟩ with
      | .ok c => markers c.st | _ => []) = [(⟨1, 0⟩, 41), (⟨2, 0⟩, 41)] := by decide +kernel

/-! ## non-vacuity (audit): every theorem above instantiated on a *reached* state

The state `Ex.stR` is not written down by hand and checked, it is the result of running the model on
the history `Ex.es0` from the initial state; its invariant comes from `run_preserves_gp`. -/
namespace Ex
def mk (type id : Nat) (session : Id) (data : String) (cmid : Nat) (addr : String := "") : Entry :=
  { type := type, id := id, session := session, data := data, unixNano := 0, cmid := cmid, rev := 0,
    remoteAddr := addr, cfg := none }
/-- a network configuration with one operator; alice (session 2) and Bob (session 5) register -/
def esA : List Entry := [
  { mk 6 1 ⟨0, 0⟩ "…toml…" 0 with rev := 1, cfg := some { operators := [("root", "pw")] } },
  mk 0 2 ⟨0, 0⟩ "authA" 0, mk 2 3 ⟨2, 0⟩ "NICK alice" 101, mk 2 4 ⟨2, 0⟩ "USER al 0 * :Alice" 102,
  mk 0 5 ⟨0, 0⟩ "authB" 0, mk 2 6 ⟨5, 0⟩ "NICK Bob" 201 "10.0.0.2", mk 2 7 ⟨5, 0⟩ "USER bo 0 * :Bob" 202 "10.0.0.2",
  mk 2 8 ⟨2, 0⟩ "JOIN #c" 103]
/-- Bob's last line: he joins `#c` (client message id 203) -/
def eB : Entry := mk 2 9 ⟨5, 0⟩ "JOIN #c" 203 "10.0.0.2"
/-- afterwards only alice acts: she becomes IRC operator -/
def esC : List Entry := [mk 2 10 ⟨2, 0⟩ "OPER root pw" 104]
def es0 : List Entry := esA ++ eB :: esC
def aliceR : Session := { id := ⟨2, 0⟩, auth := "authA", loggedIn := true, nick := "alice", username := "al", realname := "Alice", channels := ["#c"], lastActivity := 10, lastNonPing := 10, operator := true, created := 2, modes := ['o'], svid := "0", lastClientMessageId := 104, ircPrefix := ⟨"alice", "al", "robust/0x2"⟩ }
def bobR : Session := { id := ⟨5, 0⟩, auth := "authB", loggedIn := true, nick := "Bob", username := "bo", realname := "Bob", channels := ["#c"], lastActivity := 9, lastNonPing := 9, created := 5, svid := "0", lastClientMessageId := 203, ircPrefix := ⟨"Bob", "bo", "robust/0x5"⟩, remoteAddr := "10.0.0.2" }
/-- the state reached from the initial state by `es0` (`run0`) -/
def stR : St :=
  { sessions := [(⟨2, 0⟩, aliceR), (⟨5, 0⟩, bobR)]
    nicks := [("alice", ⟨2, 0⟩), ("bob", ⟨5, 0⟩)]
    channels := [("#c", { name := "#c", nicks := [("alice", { chanop := true }), ("bob", {})], modes := ['n', 't'] })]
    lastProcessed := ⟨2, 0⟩
    config := { revision := 1, operators := [("root", "pw")] } }
/-- What is used of a concrete run, or of one entry applied to `stR`, is stated together and evaluated
once: within one evaluation the kernel reduces each `applyEntry st e` a single time. -/
theorem run0B : (runEntries {} es0).isOk = true ∧ runSt (runEntries {} es0) = stR ∧ histB none {} es0 = true := by
  decide +kernel
theorem run0 : runEntries {} es0 = .ok stR := by
  rw [← run0B.2.1]; exact run_eq_of_isOk run0B.1
theorem wf0 : WfHistory {} es0 := wf_of_histB run0B.2.2
/-- `stR` is reachable, hence satisfies the full invariant -/
theorem wfR : SessWf stR := (run_preserves_gp GPInv_init wf0 run0).sessWf
theorem aliceR_stored : AMap.get stR.sessions ⟨2, 0⟩ = some aliceR := by decide +kernel
theorem bobR_stored : AMap.get stR.sessions ⟨5, 0⟩ = some bobR := by decide +kernel
theorem bob_auth : session stR (some "authB") "0x5" = .ok ⟨5, 0⟩ := rfl

def ctxOf (r : Res Ctx) : Ctx :=
  match r with
  | .ok c => c
  | _ => { st := {}, msgid := 0 }
theorem eq_ok_ctx {r : Res Ctx} (h : r.isOk = true) : r = .ok (ctxOf r) := by
  cases r with
  | ok a => rfl
  | panic s => cases h
  | declined w => cases h

def sessView (r : Except SessErr Id) : Option Id × Option SessErr :=
  match r with
  | .ok i => (some i, none)
  | .error e => (none, some e)
theorem sess_ok_of_view {r : Except SessErr Id} {i : Id} (h : sessView r = (some i, none)) : r = .ok i := by
  cases r with
  | ok j => simp only [sessView, Prod.mk.injEq, Option.some.injEq, and_true] at h; rw [h]
  | error e => simp [sessView] at h
theorem sess_error_of_view {r : Except SessErr Id} {e : SessErr} (h : sessView r = (none, some e)) : r = .error e := by
  cases r with
  | ok j => simp [sessView] at h
  | error e' => simp only [sessView, Prod.mk.injEq, Option.some.injEq, true_and] at h; rw [h]

/-- `C10_retry_not_proposed`: Bob repeats the id of his last line (203) -/
example : handlePost stR (some "authB") "0x5" 203 "JOIN #c" "10.0.0.2" = ⟨200, none⟩ :=
  C10_retry_not_proposed stR (some "authB") "0x5" ⟨5, 0⟩ bobR 203 "JOIN #c" "10.0.0.2" bob_auth bobR_stored rfl
/-- `C10_fresh_id_proposed`: a new id (204) is proposed, once -/
example : ∃ e, handlePost stR (some "authB") "0x5" 204 "PRIVMSG #c :hi" "10.0.0.2" = ⟨200, some e⟩ ∧ e.type = 2 ∧
    e.session = ⟨5, 0⟩ ∧ e.cmid = 204 :=
  C10_fresh_id_proposed stR (some "authB") "0x5" ⟨5, 0⟩ bobR 204 "PRIVMSG #c :hi" "10.0.0.2" bob_auth bobR_stored (by decide)

/-- Bob's next line as committed entry 11, and the same entry marked as message of death -/
def eNext : Entry := mk 2 11 ⟨5, 0⟩ "PRIVMSG #c :hi" 204 "10.0.0.2"
def eNextDead : Entry := { eNext with type := 5 }
def bobR1 : Session := { bobR with lastClientMessageId := 204, lastActivity := 11, lastNonPing := 11 }
/-- the state after `eNext` (also after `eNextDead`: the PRIVMSG changes nothing else, except that the
client entry sets `lastProcessed`) -/
def stR1 : St := resSt (applyEntry stR eNext)
theorem eNextB : (applyEntry stR eNext).isOk = true ∧ AMap.get stR1.sessions ⟨5, 0⟩ = some bobR1 ∧
    sessView (session stR1 (some "authB") "0x5") = (some ⟨5, 0⟩, none) ∧
    markers stR1 = [(⟨2, 0⟩, 104), (⟨5, 0⟩, 204)] := by decide +kernel
theorem eNextDeadB : (applyEntry stR eNextDead).isOk = true ∧
    markers (resSt (applyEntry stR eNextDead)) = [(⟨2, 0⟩, 104), (⟨5, 0⟩, 204)] := by decide +kernel
theorem eNext_ok : (applyEntry stR eNext).isOk = true := eNextB.1
theorem eNextDead_ok : (applyEntry stR eNextDead).isOk = true := eNextDeadB.1
theorem bobR1_stored : AMap.get stR1.sessions ⟨5, 0⟩ = some bobR1 := eNextB.2.1

example : ∃ st1 s1, updateLastClientMessageID stR eNext = some st1 ∧ AMap.get st1.sessions ⟨5, 0⟩ = some s1 ∧
    s1.lastClientMessageId = 204 := C10_marker_set_first stR eNext bobR bobR_stored
example : ∃ st1 s1, applyEntry stR eNextDead = .ok (st1, []) ∧ AMap.get st1.sessions ⟨5, 0⟩ = some s1 ∧
    s1.lastClientMessageId = 204 := C10_marker_set_by_death stR eNextDead rfl bobR bobR_stored
example : markers (resSt (applyEntry stR eNextDead)) = [(⟨2, 0⟩, 104), (⟨5, 0⟩, 204)] := eNextDeadB.2

/-- `C10_retry_after_apply`: on the state after `eNext`, three repeats (also from another address) -/
example : ∀ r ∈ [("PRIVMSG #c :hi", "10.0.0.2"), ("PRIVMSG #c :hi", "10.0.0.9"), ("PRIVMSG #c :other text", "10.0.0.2")],
    handlePost stR1 (some "authB") "0x5" 204 r.1 r.2 = ⟨200, none⟩ :=
  C10_retry_after_apply stR1 (some "authB") "0x5" ⟨5, 0⟩ bobR1 204
    (sess_ok_of_view eNextB.2.2.1)
    bobR1_stored rfl _

/-- Bob quits with his next line; alternatively alice kills him -/
def eQuit : Entry := mk 2 11 ⟨5, 0⟩ "QUIT :bye" 204 "10.0.0.2"
def eKill : Entry := mk 2 11 ⟨2, 0⟩ "KILL bob :bye" 105
theorem eQuitB : (applyEntry stR eQuit).isOk = true ∧
    sessView (session (resSt (applyEntry stR eQuit)) (some "authB") "0x5") = (none, some .notYetSeen) ∧
    markers (resSt (applyEntry stR eQuit)) = [(⟨2, 0⟩, 104)] := by decide +kernel
theorem eKillB : (applyEntry stR eKill).isOk = true ∧ markers (resSt (applyEntry stR eKill)) = [(⟨2, 0⟩, 105)] := by
  decide +kernel
theorem eQuit_ok : (applyEntry stR eQuit).isOk = true := eQuitB.1
theorem eKill_ok : (applyEntry stR eKill).isOk = true := eKillB.1
/-- `C10_retry_after_close`: after the QUIT was applied the retry of id 204 fails authentication
(hypothesis), nothing is proposed.  (The error is `notYetSeen`, not `noSuchSession`: the client entry set
`lastProcessed` to the session's own numeric id, 5 — see C17; `handlePost` answers 404 for both.) -/
example : (handlePost (resSt (applyEntry stR eQuit)) (some "authB") "0x5" 204 "QUIT :bye" "10.0.0.2").proposal = none :=
  C10_retry_after_close _ (some "authB") "0x5" .notYetSeen (sess_error_of_view eQuitB.2.1) 204 _ _
example : markers (resSt (applyEntry stR eQuit)) = [(⟨2, 0⟩, 104)] := eQuitB.2.2

/-- alice's KILL of Bob as a handler run on the reached state -/
def cR : Ctx := { st := stR, msgid := 11 }
def mKill : IrcMsg := ⟨none, "KILL", ["bob", "bye"]⟩
theorem killB : (cmdKill cR ⟨2, 0⟩ mKill).isOk = true ∧
    (ctxOf (cmdKill cR ⟨2, 0⟩ mKill)).st.sessions.map (fun p => (p.1, p.2.deleted, p.2.lastClientMessageId)) =
      [(⟨2, 0⟩, false, 104), (⟨5, 0⟩, true, 203)] ∧
    (ctxOf (cmdKill cR ⟨2, 0⟩ mKill)).st.channels.map (fun p => (p.1, AMap.keys p.2.nicks)) = [("#c", ["alice"])] := by
  decide +kernel
theorem kill_ok : (cmdKill cR ⟨2, 0⟩ mKill).isOk = true := killB.1
/-- `C10_handlers_keep_marker`: hypotheses `hh`, `h0`, `hw`, `hr` hold for the KILL … -/
example : ∀ σ s', AMap.get (ctxOf (cmdKill cR ⟨2, 0⟩ mKill)).st.sessions σ = some s' →
    (∃ s, AMap.get stR.sessions σ = some s ∧ s'.lastClientMessageId = s.lastClientMessageId) ∨
    (AMap.get stR.sessions σ = none ∧ s'.lastClientMessageId = 0 ∧ σ.reply ≠ 0) :=
  fun _ _ hs' => C10_handlers_keep_marker (fname := "cmdKill") rfl (c := cR) (sid := ⟨2, 0⟩) (m := mKill) rfl wfR
    (eq_ok_ctx kill_ok) hs'
/-- … and `hs'` for both sessions: Bob is flagged and off the channel but still stored, markers as before -/
example : (ctxOf (cmdKill cR ⟨2, 0⟩ mKill)).st.sessions.map (fun p => (p.1, p.2.deleted, p.2.lastClientMessageId)) =
      [(⟨2, 0⟩, false, 104), (⟨5, 0⟩, true, 203)] ∧
    (ctxOf (cmdKill cR ⟨2, 0⟩ mKill)).st.channels.map (fun p => (p.1, AMap.keys p.2.nicks)) = [("#c", ["alice"])] :=
  killB.2
/-- `C10_handlers_keep_sessions` for the killed session -/
example : ∃ s', AMap.get (ctxOf (cmdKill cR ⟨2, 0⟩ mKill)).st.sessions ⟨5, 0⟩ = some s' ∧ s'.lastClientMessageId = 203 :=
  C10_handlers_keep_sessions (fname := "cmdKill") rfl (c := cR) (sid := ⟨2, 0⟩) (m := mKill) rfl wfR (eq_ok_ctx kill_ok) bobR_stored

-- AUDIT: the second disjunct of `C10_handlers_keep_marker` (a pseudo-client created by a services `NICK`) is
-- not exemplified here: its id is `⟨link, fnv64 nick⟩` and `fnv64` (via `String.toUTF8`) does not reduce in the
-- kernel (`decide +kernel` gets stuck on it); the disjunct is part of the conclusion, no hypothesis depends on it.

theorem pmB : (processMessage cR eKill (parseMessage eKill.data)).isOk = true ∧
    markers (ctxOf (processMessage cR eKill (parseMessage eKill.data))).st = [(⟨2, 0⟩, 104), (⟨5, 0⟩, 203)] := by
  decide +kernel
theorem pm_ok : (processMessage cR eKill (parseMessage eKill.data)).isOk = true := pmB.1
/-- `C10_processMessage_keeps_marker` for the same line through the gate -/
example : ∀ σ s', AMap.get (ctxOf (processMessage cR eKill (parseMessage eKill.data))).st.sessions σ = some s' →
    (∃ s, AMap.get stR.sessions σ = some s ∧ s'.lastClientMessageId = s.lastClientMessageId) ∨
    (AMap.get stR.sessions σ = none ∧ s'.lastClientMessageId = 0 ∧ σ.reply ≠ 0) :=
  fun _ _ hs' => C10_processMessage_keeps_marker (c := cR) (e := eKill) rfl wfR (eq_ok_ctx pm_ok) hs'
example : markers (ctxOf (processMessage cR eKill (parseMessage eKill.data))).st = [(⟨2, 0⟩, 104), (⟨5, 0⟩, 203)] := pmB.2

/-- `C10_client_entry_marker` on `eNext` (Bob's PRIVMSG): Bob's marker becomes 204, alice keeps 104 -/
example : (∀ s', AMap.get stR1.sessions ⟨5, 0⟩ = some s' → s'.lastClientMessageId = 204) ∧
    (∀ σ s s', σ ≠ ⟨5, 0⟩ → AMap.get stR.sessions σ = some s → AMap.get stR1.sessions σ = some s' →
      s'.lastClientMessageId = s.lastClientMessageId) :=
  C10_client_entry_marker (e := eNext) wfR (entryOk_of_B (by decide)) rfl (eq_ok_of_isOk eNext_ok)
example : markers stR1 = [(⟨2, 0⟩, 104), (⟨5, 0⟩, 204)] := eNextB.2.2.2
/-- … and on `eKill`, where the session of the entry survives and the other one is removed -/
example : ∀ s', AMap.get (resSt (applyEntry stR eKill)).sessions ⟨2, 0⟩ = some s' → s'.lastClientMessageId = 105 :=
  (C10_client_entry_marker (e := eKill) wfR (entryOk_of_B (by decide)) rfl (eq_ok_of_isOk eKill_ok)).1
example : markers (resSt (applyEntry stR eKill)) = [(⟨2, 0⟩, 105)] := eKillB.2

/-- `C10_death_entry_marker` on `eNextDead` -/
example : (∀ s', AMap.get (resSt (applyEntry stR eNextDead)).sessions ⟨5, 0⟩ = some s' → s'.lastClientMessageId = 204) ∧
    (∀ σ s s', σ ≠ ⟨5, 0⟩ → AMap.get stR.sessions σ = some s →
      AMap.get (resSt (applyEntry stR eNextDead)).sessions σ = some s' → s'.lastClientMessageId = s.lastClientMessageId) :=
  C10_death_entry_marker (e := eNextDead) wfR (entryOk_of_B (by decide)) rfl (eq_ok_of_isOk eNextDead_ok)

/-- a DeleteSession entry for Bob, a CreateSession entry, a Config entry -/
def eDel : Entry := mk 1 11 ⟨5, 0⟩ "expired" 0
def eNew : Entry := mk 0 11 ⟨0, 0⟩ "authC" 0
def eCfg : Entry := { mk 6 11 ⟨0, 0⟩ "…toml…" 0 with rev := 2, cfg := some { maxChannels := 5 } }
theorem eDelB : (applyEntry stR eDel).isOk = true ∧ markers (resSt (applyEntry stR eDel)) = [(⟨2, 0⟩, 104)] := by
  decide +kernel
theorem eNewB : (applyEntry stR eNew).isOk = true ∧
    markers (resSt (applyEntry stR eNew)) = [(⟨2, 0⟩, 104), (⟨5, 0⟩, 203), (⟨11, 0⟩, 0)] := by decide +kernel
theorem eCfgB : (applyEntry stR eCfg).isOk = true ∧
    markers (resSt (applyEntry stR eCfg)) = [(⟨2, 0⟩, 104), (⟨5, 0⟩, 203)] := by decide +kernel
theorem eDel_ok : (applyEntry stR eDel).isOk = true := eDelB.1
theorem eNew_ok : (applyEntry stR eNew).isOk = true := eNewB.1
theorem eCfg_ok : (applyEntry stR eCfg).isOk = true := eCfgB.1
/-- `C10_other_entries_keep_marker` for each of the three (σ = alice, resp. Bob) -/
example : ∀ s', AMap.get (resSt (applyEntry stR eDel)).sessions ⟨2, 0⟩ = some s' → s'.lastClientMessageId = 104 :=
  fun _ hs' => C10_other_entries_keep_marker (e := eDel) wfR (entryOk_of_B (by decide)) (by decide) (by decide)
    (eq_ok_of_isOk eDel_ok) aliceR_stored hs'
example : ∀ s', AMap.get (resSt (applyEntry stR eNew)).sessions ⟨5, 0⟩ = some s' → s'.lastClientMessageId = 203 :=
  fun _ hs' => C10_other_entries_keep_marker (e := eNew) wfR (entryOk_of_B (by decide)) (by decide) (by decide)
    (eq_ok_of_isOk eNew_ok) bobR_stored hs'
example : ∀ s', AMap.get (resSt (applyEntry stR eCfg)).sessions ⟨5, 0⟩ = some s' → s'.lastClientMessageId = 203 :=
  fun _ hs' => C10_other_entries_keep_marker (e := eCfg) wfR (entryOk_of_B (by decide)) (by decide) (by decide)
    (eq_ok_of_isOk eCfg_ok) bobR_stored hs'
example : markers (resSt (applyEntry stR eDel)) = [(⟨2, 0⟩, 104)] ∧
    markers (resSt (applyEntry stR eNew)) = [(⟨2, 0⟩, 104), (⟨5, 0⟩, 203), (⟨11, 0⟩, 0)] ∧
    markers (resSt (applyEntry stR eCfg)) = [(⟨2, 0⟩, 104), (⟨5, 0⟩, 203)] :=
  ⟨eDelB.2, eNewB.2, eCfgB.2⟩

/-- `C10_new_session_marker_zero`: session 11 is not stored in `stR` and is stored after `eNew` -/
example : ∀ s', AMap.get (resSt (applyEntry stR eNew)).sessions ⟨11, 0⟩ = some s' →
    s'.lastClientMessageId = 0 ∧ ((⟨11, 0⟩ : Id).reply = 0 → eNew.type = 0 ∧ (⟨11, 0⟩ : Id) = ⟨eNew.id, 0⟩) :=
  fun _ hs' => C10_new_session_marker_zero (e := eNew) wfR (entryOk_of_B (by decide)) (eq_ok_of_isOk eNew_ok)
    (by decide) hs'

/-- `C10_marker_is_last_cmid` from the *initial* state along `es0` (σ = Bob, not stored at the start, so
`hP` holds for any `m0`; `m0 := 0`): the marker in `stR` is the expected one, 203 -/
example : bobR.lastClientMessageId = expectedMarker ⟨5, 0⟩ 0 es0 :=
  C10_marker_is_last_cmid (st := {}) (σ := ⟨5, 0⟩) (m0 := 0) SessWf_init wf0 rfl
    (fun s hs => by cases hs) run0 bobR_stored
example : expectedMarker ⟨5, 0⟩ 0 es0 = 203 ∧ expectedMarker ⟨2, 0⟩ 0 es0 = 104 := by decide

/-- a continuation from the reached state: Bob talks twice, alice kills him, a message of death of alice, a
new session -/
def es1 : List Entry := [eNext, mk 2 12 ⟨5, 0⟩ "PRIVMSG #c :again" 205 "10.0.0.2", mk 2 13 ⟨2, 0⟩ "KILL bob :bye" 105,
  mk 5 14 ⟨2, 0⟩ "boom" 106, mk 0 15 ⟨0, 0⟩ "authC" 0]
theorem run1B : (runEntries stR es1).isOk = true ∧ histB none stR es1 = true ∧
    markers (runSt (runEntries stR es1)) = [(⟨2, 0⟩, 106), (⟨15, 0⟩, 0)] ∧
    sessView (session (runSt (runEntries stR es1)) (some "authA") "0x2") = (some ⟨2, 0⟩, none) := by decide +kernel
theorem run1_ok : (runEntries stR es1).isOk = true := run1B.1
theorem wf1 : WfHistory stR es1 := wf_of_histB run1B.2.1
/-- `C10_marker_is_last_cmid` from the reached state (σ = alice, stored with marker 104: `hP`) -/
example : ∀ s', AMap.get (runSt (runEntries stR es1)).sessions ⟨2, 0⟩ = some s' → s'.lastClientMessageId = 106 :=
  fun _ hs' => C10_marker_is_last_cmid (σ := ⟨2, 0⟩) (m0 := 104) wfR wf1 rfl
    (fun s hs => by rw [aliceR_stored] at hs; cases hs; rfl) (run_eq_of_isOk run1_ok) hs'
example : markers (runSt (runEntries stR es1)) = [(⟨2, 0⟩, 106), (⟨15, 0⟩, 0)] := run1B.2.2.1

/-- `C10_retry_after_history` with the whole history from the initial state: `es0 = esA ++ eB :: esC`,
`eB` is Bob's last entry, only alice acts afterwards; on the resulting node a POST of Bob repeating 203 is
acknowledged without a proposal -/
example : handlePost stR (some "authB") "0x5" 203 "JOIN #c" "10.0.0.7" = ⟨200, none⟩ :=
  C10_retry_after_history (st := {}) (es1 := esA) (es2 := esC) (e := eB) (σ := ⟨5, 0⟩)
    SessWf_init wf0 (by decide) (by decide) run0 (some "authB") "0x5" bob_auth _ _
/-- … and from the reached state, where the last entry of alice is a message of death (type 5) followed by
entries of others -/
example : handlePost (runSt (runEntries stR es1)) (some "authA") "0x2" 106 "boom" "" = ⟨200, none⟩ :=
  C10_retry_after_history (st := stR) (es1 := es1.take 3) (es2 := es1.drop 4) (e := mk 5 14 ⟨2, 0⟩ "boom" 106) (σ := ⟨2, 0⟩)
    wfR wf1 (by decide) (by decide) (run_eq_of_isOk run1_ok) (some "authA") "0x2" (sess_ok_of_view run1B.2.2.2) _ _
end Ex

end Robust.Props.C10
