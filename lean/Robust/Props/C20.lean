import Robust.Race.Discipline
import Robust.Gen.Commands
import Robust.Race.Theorems
/-!
# C20 — data-race freedom through a lock discipline

Two halves:

* `Robust/Race/Theorems.lean` proves, for a trace model of `sync.RWMutex`, that a program in which
  every access to a field is made while holding that field's guard (exclusively for writes) has no
  two conflicting accesses that are unordered: between them the first thread releases the guard
  and the second acquires it (`lockset_orders`; in particular they are never adjacent,
  `C20_no_adjacent_race` below).
* this file checks that the code follows such a discipline: the table `Gen.Locks.accesses`
  (regenerated from the source on every run: function × field × read/write × locks held, with the
  locks of the callers folded in) is compared with the guard assigned to every field below.

What the static table cannot see (pointers escaping a critical section, two different IRCServer
instances, goroutine confinement) is the job of the race-detector run of the check.
-/
namespace Robust.Props.C20
open Robust Robust.Gen.Locks Robust.Race.Discipline

/-- regenerated: every access to a shared field in the source follows the discipline (or is one of
the listed, justified exceptions).  A write under a read lock, an access outside the critical
section, or a new unguarded field makes this fail. -/
theorem C20_discipline : accesses.all rowOk = true := by decide +kernel

/-- regenerated: every field of the shared structs has been classified (a new field forces a decision) -/
theorem C20_fields_classified :
    structFields.all (fun sf => sf.2.all fun f =>
      (sf.1, f) ∈ mutexFields || (sf.1, f) ∈ immutableFields || (sf.1, f) ∈ confinedFields || (guardOf sf.1 f).isSome) = true := by
  decide +kernel

def digest (s : String) : Nat := s.toByteArray.data.toList.foldl (fun n b => 256 * n + b.toNat) 0

/-- A lookup by key may compare any function of the keys first.  The kernel compares two strings byte
by byte, and the keys of `entryLocks` share a prefix of thirty bytes: with `digest` in front, the failed
comparisons are comparisons of numbers and one comparison of strings is left for every hit. -/
theorem find?_key_eq {κ ν δ : Type} [DecidableEq κ] [DecidableEq δ] (f : κ → δ) (tbl : List (κ × ν)) (k : κ) :
    tbl.find? (fun e => e.1 == k) = tbl.find? (fun e => f e.1 == f k && e.1 == k) := by
  congr 1; funext e
  by_cases h : e.1 = k <;> simp [h]

/-- every handler of the regenerated command table is only ever entered with the session lock held
exclusively (regenerated entry lock sets: the fixpoint over the call graph, handlers being reached
through `cmd.Func(…)` in ProcessMessage) -/
theorem C20_handlers_locked :
    (Gen.Commands.commands.filter (fun c => !c.2.2.2)).all (fun c =>   -- all but the test-only PANIC literal
      match entryLocks.find? (fun e => e.1 == "internal/ircserver:IRCServer." ++ c.2.1) with
      | some e => e.2.contains "IRCServer.sessionsMu:W"
      | none => false) = true := by
  simp only [find?_key_eq digest]
  decide +kernel

/-- regenerated: every acquisition of a mutex while another one is (or, through any caller, may be) held
respects one global lock order — sessionsMu before ConfigMu before lastProcessedMu, messagesMu before
cacheMu, restoreMu outermost.  A function that takes two of them in the opposite order (as ThrottleUntil,
ExpireSessions and the status page did with ConfigMu and sessionsMu: the network-wide deadlock repaired in
/repo 34426db) makes this fail.  With a global order no cycle of waiting threads can form. -/
theorem C20_lock_order :
    lockOrder.all (fun e => decide (lockRank e.1 < lockRank e.2.1)) = true := by decide +kernel

/-- the trace-model half, restated here so that the axiom audit of this module covers it: under a
lock discipline, two conflicting accesses of different threads are always separated by a release of
the guard by the first thread and a later acquisition by the second (they are ordered by
happens-before, hence not a data race in the sense of the Go memory model) -/
theorem C20_lockset_orders (G : String → String) (pre mid post : List Race.Ev) (e1 e2 : Race.Ev)
    (t1 t2 : Race.Tid) (f : String)
    (hrun : Race.run Race.LS.init (pre ++ e1 :: mid ++ e2 :: post) ≠ none)
    (hd : Race.Disciplined G Race.LS.init (pre ++ e1 :: mid ++ e2 :: post))
    (h1 : Race.isAccess e1 t1 f) (h2 : Race.isAccess e2 t2 f) (hne : t1 ≠ t2)
    (hw : e1 = .wr t1 f ∨ e2 = .wr t2 f) :
    ∃ i j : Nat, i < j ∧ (∃ a, mid[i]? = some a ∧ Race.isRel a t1 (G f)) ∧ (∃ b, mid[j]? = some b ∧ Race.isAcq b t2 (G f)) :=
  Race.lockset_orders G pre mid post e1 e2 t1 t2 f hrun hd h1 h2 hne hw

-- AUDIT: the conclusion is `False`, i.e. the hypotheses are jointly unsatisfiable *by design* (this is
-- the statement: no running, disciplined trace has adjacent conflicting accesses); a non-vacuity instance
-- cannot exist.  `Ex` below shows instead that each of "disciplined", "t1 ≠ t2", "one is a write" is
-- needed: dropping any one of them leaves a satisfiable set on a trace that runs.
/-- conflicting accesses are never adjacent -/
theorem C20_no_adjacent_race (G : String → String) (pre post : List Race.Ev) (e1 e2 : Race.Ev)
    (t1 t2 : Race.Tid) (f : String)
    (hrun : Race.run Race.LS.init (pre ++ e1 :: [] ++ e2 :: post) ≠ none)
    (hd : Race.Disciplined G Race.LS.init (pre ++ e1 :: [] ++ e2 :: post))
    (h1 : Race.isAccess e1 t1 f) (h2 : Race.isAccess e2 t2 f) (hne : t1 ≠ t2)
    (hw : e1 = .wr t1 f ∨ e2 = .wr t2 f) : False := by
  -- nothing lies between them, so there is no place for the release
  obtain ⟨i, _, _, ⟨a, ha, _⟩, _⟩ := C20_lockset_orders G pre [] post e1 e2 t1 t2 f hrun hd h1 h2 hne hw
  simp at ha

namespace Ex

/-- two guards, three threads: the configuration is guarded by `ConfigMu`, everything else by
`sessionsMu` -/
def G (f : String) : String := if f = "cfg" then "ConfigMu" else "sessionsMu"

def pre : List Race.Ev := [.acqR 3 "ConfigMu", .rd 3 "cfg", .acqW 1 "sessionsMu"]
def mid : List Race.Ev :=
  [.relW 1 "sessionsMu", .relR 3 "ConfigMu", .acqR 2 "sessionsMu", .acqR 3 "sessionsMu"]
def post : List Race.Ev := [.rd 3 "sessions", .relR 2 "sessionsMu", .relR 3 "sessionsMu"]

/-- thread 3 reads the configuration under `ConfigMu.RLock` while thread 1 writes `sessions` under
`sessionsMu.Lock`; afterwards threads 2 and 3 read `sessions` under `sessionsMu.RLock` -/
def trace : List Race.Ev := pre ++ .wr 1 "sessions" :: mid ++ .rd 2 "sessions" :: post

theorem trace_runs : Race.run Race.LS.init trace ≠ none := Option.isSome_iff_ne_none.1 rfl

theorem trace_disciplined : Race.Disciplined G Race.LS.init trace := by decide

/-- all hypotheses of `C20_lockset_orders` hold together on a trace with two locks, three threads, a
write and a later conflicting read -/
example : ∃ i j : Nat, i < j ∧ (∃ a, mid[i]? = some a ∧ Race.isRel a 1 "sessionsMu") ∧
    (∃ b, mid[j]? = some b ∧ Race.isAcq b 2 "sessionsMu") :=
  C20_lockset_orders G pre mid post (.wr 1 "sessions") (.rd 2 "sessions") 1 2 "sessions"
    trace_runs trace_disciplined (Or.inr rfl) (Or.inl rfl) (by decide) (Or.inl rfl)

/-- … and the witnesses are the expected release (position 0) and acquisition (position 2) -/
example : mid[0]? = some (.relW 1 "sessionsMu") ∧ mid[2]? = some (.acqR 2 "sessionsMu") := ⟨rfl, rfl⟩

/-! `C20_no_adjacent_race` concludes `False`: its hypotheses are jointly unsatisfiable *by design* (that
is the statement), so no instance of all of them can exist.  What can be shown instead is that no
hypothesis is redundant: dropping any one of "disciplined", "different threads", "one is a write"
leaves a satisfiable set — on traces that run. -/

/-- without the discipline: an adjacent write/read pair of two threads on a trace that runs -/
example : Race.run Race.LS.init ([.acqW 1 "sessionsMu"] ++ .wr 1 "sessions" :: [] ++ .rd 2 "sessions" :: [.relW 1 "sessionsMu"]) ≠ none ∧
    Race.isAccess (.wr 1 "sessions") 1 "sessions" ∧ Race.isAccess (.rd 2 "sessions") 2 "sessions" ∧ (1 : Race.Tid) ≠ 2 ∧
    ¬ Race.Disciplined G Race.LS.init ([.acqW 1 "sessionsMu"] ++ .wr 1 "sessions" :: [] ++ .rd 2 "sessions" :: [.relW 1 "sessionsMu"]) :=
  ⟨Option.isSome_iff_ne_none.1 rfl, Or.inr rfl, Or.inl rfl, by decide, by decide⟩

/-- without "different threads": a disciplined trace with an adjacent write/read of one thread -/
example : Race.run Race.LS.init ([.acqW 1 "sessionsMu"] ++ .wr 1 "sessions" :: [] ++ .rd 1 "sessions" :: [.relW 1 "sessionsMu"]) ≠ none ∧
    Race.Disciplined G Race.LS.init ([.acqW 1 "sessionsMu"] ++ .wr 1 "sessions" :: [] ++ .rd 1 "sessions" :: [.relW 1 "sessionsMu"]) :=
  ⟨Option.isSome_iff_ne_none.1 rfl, by decide⟩

/-- without "one is a write": a disciplined trace with adjacent reads of two threads under `RLock` -/
example : Race.run Race.LS.init ([.acqR 1 "sessionsMu", .acqR 2 "sessionsMu"] ++ .rd 1 "sessions" :: [] ++ .rd 2 "sessions" :: [.relR 1 "sessionsMu", .relR 2 "sessionsMu"]) ≠ none ∧
    Race.Disciplined G Race.LS.init ([.acqR 1 "sessionsMu", .acqR 2 "sessionsMu"] ++ .rd 1 "sessions" :: [] ++ .rd 2 "sessions" :: [.relR 1 "sessionsMu", .relR 2 "sessionsMu"]) ∧
    (1 : Race.Tid) ≠ 2 :=
  ⟨Option.isSome_iff_ne_none.1 rfl, by decide, by decide⟩

end Ex

end Robust.Props.C20
