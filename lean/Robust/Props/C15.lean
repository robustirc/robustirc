import Robust.Irc.Proofs.Clean
import Robust.Irc.Proofs.CleanEntry
import Robust.Irc.Proofs.UlenRelay
import Robust.Irc.Proofs.RcptCheck
import Robust.Irc.Proofs.CmdHistory
import Robust.Gen.Exprs
/-!
# C15 — every line sent to clients is a single well-formed IRC line

"Every line sent to clients is a single well-formed IRC line: at most 510 bytes, containing no
LF, CR or NUL byte, starting with a prefix and a command; text posted by one client cannot
smuggle a second protocol line (CR/LF injection)."

* `IrcMsg.render` models `irc.Message.Bytes` (UTF-8 bytes truncated to 510).
* `parseMessage` models `irc.ParseMessage`.
* `firstLine` models the Go helper of the HTTP handlers that cuts the posted text at the first
  CR, LF or NUL.

Byte level (first half of the file): rendering, parsing, the cut.

State level (second half): handlers build lines from strings *stored* in the state, so a dirty string
stored earlier could surface later.  `CInv st` (`Proofs/CleanInv.lean`) says that every stored string
that can reach a line is clean: of every session `nick`, `username`, `realname`, `awayMsg`, `svid`,
`pass`, `ircPrefix.{name,user,host}`; of every channel `name`, `topicNick`, `topic`, `key`, the masks
of its bans; the `reason` of every SVSHOLD; the GLINE reasons `config.banned`; `serverName`.
(Not included, because the proofs show that no handler copies them into a line: `Session.auth`,
`Session.remoteAddr`, `Ban.re`, the lower-cased map keys and `channels` / `invitedTo` lists, the
other `Config` strings.)  All 41 handlers of `handlerByName`, the three stages of `processMessage`,
`applyEntry` for every entry type and every history keep `CInv` and emit only clean lines, provided
the text of the entries is clean (`CleanEntry`) — which the HTTP handlers' `firstLine` cut guarantees.
-/
namespace Robust.Props.C15
open Robust Robust.Irc

/-- at most 510 bytes -/
theorem C15_render_len (m : IrcMsg) : m.render.length ≤ 510 := render_length m

/-- UTF-8 never produces 0x00/0x0A/0x0D for other code points -/
theorem C15_utf8_clean (s : String) (h : Clean s) : CleanBytes (utf8 s) := utf8_clean s h

/-- a clean message renders to a line without CR/LF/NUL -/
theorem C15_render_clean (m : IrcMsg) (h : CleanMsg m) : CleanBytes m.render := render_clean m h

/-- shape: `[':' prefix SP] command …` -/
theorem C15_render_shape (m : IrcMsg) : ∃ rest : String, m.render =
    (utf8 ((match m.pfx with | some p => ":" ++ p.str ++ " " | none => "") ++ m.command ++ rest)).take 510 := by
  refine ⟨(if m.params.length > 1 then " " ++ joinStr " " m.params.dropLast else "") ++
    (match m.params.getLast? with
      | none => ""
      | some t =>
        " " ++ (if (t.isEmpty || t.toList.contains ' ' || t.toList.head? == some ':') then ":" else "") ++ t), ?_⟩
  unfold IrcMsg.render
  simp only []
  rw [String.append_assoc (s₁ := _ ++ m.command)]
  rfl

theorem C15_upper_clean : ∀ c : Char, cleanChar c = true → cleanChar (upperChar c) = true :=
  upperChar_clean

theorem C15_lower_clean : ∀ c : Char, cleanChar c = true → cleanChar (lowerChar c) = true :=
  lowerChar_clean

/-- parsing a clean line yields clean prefix/command/params -/
theorem C15_parse_clean (raw : String) (m : IrcMsg) (h : Clean raw) (hp : parseMessage raw = some m) :
    CleanMsg m := parseMessage_clean raw m h hp

theorem C15_firstLine_clean (s : String) : Clean (firstLine s) := firstLine_clean s
theorem C15_firstLine_id (s : String) (h : Clean s) : firstLine s = s := firstLine_id s h
/-- it only cuts, never rewrites -/
theorem C15_firstLine_prefix (s : String) : (firstLine s).toList <+: s.toList := firstLine_prefix s

/-- what a client posts, after the handler's cut and the parser, is a clean message -/
theorem C15_posted_line (body : String) (m : IrcMsg) (hp : parseMessage (firstLine body) = some m) :
    CleanMsg m := C15_parse_clean _ m (C15_firstLine_clean body) hp

/-- end to end: the posted text, cut, parsed and rendered again (as the server does when relaying),
is one line of at most 510 bytes without CR/LF/NUL -/
theorem C15_posted_rendered (body : String) (m : IrcMsg) (hp : parseMessage (firstLine body) = some m) :
    CleanBytes m.render ∧ m.render.length ≤ 510 :=
  ⟨C15_render_clean m (C15_posted_line body m hp), C15_render_len m⟩

/-! ## state level: stored strings stay clean, every emitted line is clean -/

theorem C15_init : CInv ({} : St) := CInv_init

/-- Handler level.  For every handler `h` of the command table (`handlerByName`, client and services
handlers alike): if every stored string is clean (`CInv c.st`), everything emitted so far is one clean
line of at most 510 bytes, and the incoming message is clean (prefix, command, parameters), then after
`h` every stored string is clean again and *every* output — old and new — is one clean line of at most
510 bytes. -/
theorem C15_handler_clean (fname : String) (h : Handler) (hh : handlerByName fname = some h)
    (c c' : Ctx) (sid : Id) (m : IrcMsg) (hI : CInv c.st)
    (hO : ∀ o ∈ c.out, CleanBytes o.data ∧ o.data.length ≤ 510) (hm : CleanMsg m)
    (hr : h c sid m = .ok c') :
    CInv c'.st ∧ ∀ o ∈ c'.out, CleanBytes o.data ∧ o.data.length ≤ 510 :=
  have hc := (handler_cpres hh ⟨hI, hO⟩ hm).apply hr
  ⟨hc.inv, hc.out⟩

/-- `ProcessMessage` (remote-address bookkeeping and GLINE ban, the 451 / 421 / 461 replies, the
"not registered within 10 minutes" and "You are banned" ERROR lines, `deleteSession`, the handler) keeps
the invariant and emits only clean lines when the parsed line, if there is one, is clean. -/
theorem C15_processMessage_clean (c c' : Ctx) (e : Entry) (im : Option IrcMsg) (hI : CInv c.st)
    (hO : ∀ o ∈ c.out, CleanBytes o.data ∧ o.data.length ≤ 510) (him : ∀ m, im = some m → CleanMsg m)
    (hr : processMessage c e im = .ok c') :
    CInv c'.st ∧ ∀ o ∈ c'.out, CleanBytes o.data ∧ o.data.length ≤ 510 :=
  have hc := processMessage_clean ⟨hI, hO⟩ him hr
  ⟨hc.inv, hc.out⟩

/-- One committed entry of any type keeps every stored string clean, provided the text it carries is
clean (`CleanEntry`: `Clean e.data` for IRCFromClient and DeleteSession entries, clean GLINE reasons for
Config entries; nothing for CreateSession / MessageOfDeath entries, nothing about `remoteAddr`). -/
theorem C15_state_clean_step (st st' : St) (e : Entry) (out : List Out) (h : CInv st) (he : CleanEntry e)
    (hr : applyEntry st e = .ok (st', out)) : CInv st' :=
  (applyEntry_clean st st' e out h he hr).1

/-- … and every line of the output batch it produces is one IRC line: no CR, LF or NUL byte, at most
510 bytes. -/
theorem C15_outputs_clean (st st' : St) (e : Entry) (out : List Out) (h : CInv st) (he : CleanEntry e)
    (hr : applyEntry st e = .ok (st', out)) : ∀ o ∈ out, CleanBytes o.data ∧ o.data.length ≤ 510 :=
  (applyEntry_clean st st' e out h he hr).2

/-- Entries as the HTTP API builds them: the text of an IRCFromClient / DeleteSession entry is
`firstLine` of what the client posted (`C15_handlers_cut` below), hence clean whatever was posted. -/
theorem C15_api_entry_clean (e : Entry) (body : String) (hd : e.data = firstLine body) (ht : e.type ≠ 6) :
    CleanEntry e :=
  ⟨fun _ => hd ▸ firstLine_clean body, fun h6 => absurd h6 ht⟩

/-- End to end for one posted line: whatever a client posts (any string: control characters, very
long, non-ASCII), in every state whose stored strings are clean, every line delivered as a result is one
IRC line of at most 510 bytes without CR / LF / NUL, and the stored strings stay clean. -/
theorem C15_posted_outputs_clean (st st' : St) (e : Entry) (body : String) (out : List Out) (h : CInv st)
    (ht : e.type = 1 ∨ e.type = 2) (hd : e.data = firstLine body) (hr : applyEntry st e = .ok (st', out)) :
    CInv st' ∧ ∀ o ∈ out, CleanBytes o.data ∧ o.data.length ≤ 510 :=
  applyEntry_clean st st' e out h
    (C15_api_entry_clean e body hd (by rcases ht with ht | ht <;> rw [ht] <;> decide)) hr

/-- Histories: starting from the empty state, after any history of entries with clean text every
stored string is clean (no well-formedness hypothesis is needed). -/
theorem C15_history_clean (es : List Entry) (st : St) (hw : CleanHistory es)
    (hr : runEntries {} es = .ok st) : CInv st :=
  run_clean CInv_init hw hr

/-- … and every line of every output batch produced along the way (`runLines` collects them in order) is
one clean line of at most 510 bytes. -/
theorem C15_history_outputs_clean (es : List Entry) (st : St) (outs : List Out) (hw : CleanHistory es)
    (hr : runLines {} es = .ok (st, outs)) :
    CInv st ∧ ∀ o ∈ outs, CleanBytes o.data ∧ o.data.length ≤ 510 :=
  runLines_clean CInv_init hw hr

theorem C15_runLines_state (st st' : St) (es : List Entry) (outs : List Out)
    (hr : runLines st es = .ok (st', outs)) : runEntries st es = .ok st' := runLines_state hr

/-- The quantifier of the property: in every state reachable from the empty one by a history of clean
entries, for every POST body, every line delivered as a result of posting it is one clean IRC line. -/
theorem C15_reachable_posted (es : List Entry) (st st' : St) (e : Entry) (body : String) (out : List Out)
    (hw : CleanHistory es) (hrun : runEntries {} es = .ok st) (ht : e.type = 1 ∨ e.type = 2)
    (hd : e.data = firstLine body) (hr : applyEntry st e = .ok (st', out)) :
    ∀ o ∈ out, CleanBytes o.data ∧ o.data.length ≤ 510 :=
  (C15_posted_outputs_clean st st' e body out (C15_history_clean es st hw hrun) ht hd hr).2

/-! ### non-vacuity of the state-level theorems -/

/-- two logged-in clients in `#c` -/
def demoSt : St :=
  { sessions := [(⟨1, 0⟩, { id := ⟨1, 0⟩, loggedIn := true, nick := "alice", username := "a",
                            ircPrefix := ⟨"alice", "a", "robust/0x1"⟩, channels := ["#c"] }),
                 (⟨2, 0⟩, { id := ⟨2, 0⟩, loggedIn := true, nick := "bob", username := "b",
                            ircPrefix := ⟨"bob", "b", "robust/0x2"⟩, channels := ["#c"] })],
    nicks := [("alice", ⟨1, 0⟩), ("bob", ⟨2, 0⟩)],
    channels := [("#c", { name := "#c", nicks := [("alice", { chanop := true }), ("bob", {})], modes := ['n', 't'] })] }

/-- an IRCFromClient entry of session 1 -/
def demoEntry (data : String) : Entry :=
  { type := 2, id := 10, session := ⟨1, 0⟩, data := data, unixNano := 0, cmid := 1, rev := 0, remoteAddr := "",
    cfg := none }

def outData (r : Res (St × List Out)) : List Bytes :=
  match r with
  | .ok (_, out) => out.map (·.data)
  | _ => []

theorem ok_of_outData {r : Res (St × List Out)} {a : Bytes} {l : List Bytes} (h : outData r = a :: l) :
    ∃ st' out, r = .ok (st', out) ∧ out.map (·.data) = a :: l := by
  cases r with
  | ok p => exact ⟨p.1, p.2, rfl, h⟩
  | panic s => cases h
  | declined s => cases h

theorem demoSt_clean : CInv demoSt := by
  refine ⟨?_, ?_, (fun _ h => nomatch h), (fun _ h => nomatch h), by decide +kernel⟩
  · intro e he
    simp only [demoSt, List.mem_cons, List.not_mem_nil, or_false] at he
    rcases he with rfl | rfl <;> (constructor <;> decide)
  · intro e he
    simp only [demoSt, List.mem_cons, List.not_mem_nil, or_false] at he
    subst he
    exact ⟨by decide +kernel, by decide +kernel, by decide +kernel, by decide +kernel, (fun _ h => nomatch h)⟩

theorem demoEntry_clean : CleanEntry (demoEntry "PRIVMSG #c :hi there") :=
  ⟨fun _ => by decide +kernel, fun h => absurd h (by decide)⟩

/-- the clean posted line is relayed to bob as exactly one line … -/
theorem demo_relay : outData (applyEntry demoSt (demoEntry "PRIVMSG #c :hi there"))
    = [utf8 ":alice!a@robust/0x1 PRIVMSG #c :hi there"] := by decide +kernel

/-- … and the theorem applies to it: the hypotheses of `C15_outputs_clean` are satisfiable and its
conclusion speaks about a non-empty batch -/
example : ∃ st' out, applyEntry demoSt (demoEntry "PRIVMSG #c :hi there") = .ok (st', out) ∧ out ≠ [] ∧
    ∀ o ∈ out, CleanBytes o.data ∧ o.data.length ≤ 510 := by
  obtain ⟨st', out, hr, hd⟩ := ok_of_outData demo_relay
  refine ⟨st', out, hr, fun hnil => ?_, C15_outputs_clean demoSt st' _ out demoSt_clean demoEntry_clean hr⟩
  rw [hnil] at hd
  cases hd

/-- the hypothesis `Clean e.data` cannot be dropped: an entry whose text contains a CR — which the API's
`firstLine` cut excludes, see `C15_firstLine_clean` / `C15_api_entry_clean` — violates `CleanEntry` … -/
example : ¬ CleanEntry (demoEntry "PRIVMSG #c :hi\rQUIT") :=
  fun h => absurd (h.data (Or.inr rfl)) (by decide +kernel)

/-- … and the state machine would indeed relay the CR verbatim to bob -/
example : outData (applyEntry demoSt (demoEntry "PRIVMSG #c :hi\rQUIT"))
      = [utf8 ":alice!a@robust/0x1 PRIVMSG #c hi\rQUIT"] ∧
    ¬ CleanBytes (utf8 ":alice!a@robust/0x1 PRIVMSG #c hi\rQUIT") := by decide +kernel

/-- with the cut, the same POST body yields a clean entry and a clean relayed line -/
example : (demoEntry (firstLine "PRIVMSG #c :hi\rQUIT")).data = "PRIVMSG #c :hi" ∧
    outData (applyEntry demoSt (demoEntry (firstLine "PRIVMSG #c :hi\rQUIT")))
      = [utf8 ":alice!a@robust/0x1 PRIVMSG #c hi"] := by decide +kernel

/-- a dirty stored string surfaces later even on a clean input line (why `CInv` is needed): with a topic
containing LF, a clean `TOPIC #c` query is answered with a two-line 332 reply -/
example :
    let st : St := { demoSt with channels :=
      [("#c", { name := "#c", nicks := [("alice", { chanop := true }), ("bob", {})], modes := ['n', 't'],
                topic := "x\nQUIT", topicNick := "bob", topicTime := 1 })] }
    ¬ CInv st ∧ ∃ b ∈ outData (applyEntry st (demoEntry "TOPIC #c")), ¬ CleanBytes b := by
  refine ⟨fun h => absurd (h.channels _ (List.mem_cons_self ..)).topic (by decide), ?_⟩
  refine ⟨utf8 ":robustirc.net 332 alice #c x\nQUIT", ?_, by decide +kernel⟩
  decide +kernel

/-! ## "starting with a prefix and a command": the 510-byte cut never removes the command

`IrcMsg.render` cuts the line at 510 bytes.  A line `:nick!user@host CMD …` therefore keeps its command only
if the prefix is short.  Nicknames are at most 31 ASCII characters (`isValidNickname`), the host of a client
is `robust/0x<hex id>` (at most 25 bytes for a `uint64` id); user names were unbounded — a client with a
600-character user name made every line relayed under its prefix be cut *inside the prefix*
(`C15_long_prefix_no_command`).  `cmdUser` and `cmdServerNick` now store `truncateUsername u` (30
characters).

* `HasCommand bytes` mirrors the monitor's predicate: the line starts with `':'` and a non-empty token follows
  the first space, or it does not start with `':'` and starts with a non-empty token.  `cmdToken` is that token.
* (a) `UInv st`: every stored user name has at most 30 characters and — for sessions a client can act as
  (`id.reply = 0`) — no space.  Kept by all 41 handlers, `processMessage`, `applyEntry`, histories.
* (b) the prefix of a stored client session has at most 178 bytes and no space.
* (c) under such a prefix (and for server-prefixed replies under a short server name, and for lines without
  prefix) the command token of the rendered line is exactly the command.
* (d) *every* line of every handler (client and services), of `processMessage`, of every entry and of every
  history has a command (`C15_client_entry_has_command`, `C15_delete_entry_has_command`,
  `C15_services_entry_has_command`, `C15_history_lines_have_command`), by a self-contained invariant `KInv` that
  bounds every stored prefix; the theorems marked `_partial` are weaker forms that rest on (a)–(c) alone.

Assumptions about services (trusted): the prefix of a services *link* is what its `SERVER` line says
(`cmdServer`, not bounded in the model) and pseudo-clients introduced by services (`reply ≠ 0`) get a user name
cut to 30 characters that may contain a space if services send one; both are excluded (`ClientSess`).
Session ids are Raft indexes (`uint64`): `sid.id < 2^64` is a hypothesis. -/

/-! ### (a) user names are bounded -/

/-- what USER / services' NICK store has at most 30 characters -/
theorem C15_username_truncated (u : String) : (truncateUsername u).toList.length ≤ 30 :=
  truncateUsername_length u

/-- … and short user names are stored unchanged -/
theorem C15_username_short_unchanged (u : String) (h : u.toList.length ≤ 30) (hs : Spaceless u) : truncateUsername u = u :=
  truncateUsername_of_short h hs

/-- the stored user name never contains a space, whoever chose it (a services link can hand over a trailing
parameter): it is cut at the first one (fix in /repo, found by the thorough run of this property) -/
theorem C15_username_spaceless (u : String) : Spaceless (truncateUsername u) := truncateUsername_spaceless u

/-- the invariant, read off a stored session: at most 30 characters, hence at most 120 bytes -/
theorem C15_username_bounded_stored (st : St) (h : UInv st) (sid : Id) (s : Session)
    (hs : AMap.get st.sessions sid = some s) :
    s.username.toList.length ≤ 30 ∧ s.username.utf8ByteSize ≤ 120 ∧ (s.id.reply = 0 → Spaceless s.username) := by
  obtain ⟨h1, h2⟩ := h sid s hs
  have h30 : s.username.toList.length ≤ 30 := h1
  have := utf8ByteSize_le s.username
  exact ⟨h30, by omega, h2⟩

theorem C15_username_bounded_init : UInv ({} : St) := UInv_init

/-- Handler level: every handler of the command table keeps `UInv`.  `truncateUsername` keeps only the first word
of what it is given, so nothing is needed of the caller or the message: `hne`, `hp` and `hm` are not used … -/
theorem C15_username_bounded_handler (fname : String) (h : Handler) (hh : handlerByName fname = some h)
    (hne : fname ≠ "cmdUser") (c c' : Ctx) (sid : Id) (m : IrcMsg) (hp : Pre c sid) (hm : MidOK m)
    (hu : UInv c.st) (hr : h c sid m = .ok c') : UInv c'.st :=
  (handler_upres hh hu).apply hr

/-- … nor are `hm` and `hl` for USER: the stored user name is the first word of the first parameter, cut to 30
characters. -/
theorem C15_username_bounded_user (c c' : Ctx) (sid : Id) (m : IrcMsg) (hm : MidOK m) (hl : 2 ≤ m.params.length)
    (hu : UInv c.st) (hr : cmdUser c sid m = .ok c') : UInv c'.st :=
  cmdUser_uinv hu hr

/-- every parsed line satisfies `MidOK`: only the trailing parameter can contain a space -/
theorem C15_parsed_midOK (raw : String) (m : IrcMsg) (hp : parseMessage raw = some m) : MidOK m :=
  parseMessage_midOK hp

theorem C15_username_bounded_processMessage (c c' : Ctx) (e : Entry) (im : Option IrcMsg) (hp : Pre c e.session)
    (hn : NI c.st) (hm : ∀ m, im = some m → MidOK m) (hu : UInv c.st) (hr : processMessage c e im = .ok c') :
    UInv c'.st :=
  processMessage_uinv hu hr

/-- **(a)** one committed entry of any type keeps the bound on user names -/
theorem C15_username_bounded (st st' : St) (e : Entry) (out : List Out) (h : GInv st) (hu : UInv st)
    (he : EntryOk st e) (hr : applyEntry st e = .ok (st', out)) : UInv st' :=
  applyEntry_uinv st st' e out h hu he hr

/-- histories: in every state reached from the empty one by a well-formed history, all invariants used below
hold (`GInv`, the identity invariant `PInv` of C12, and `UInv`) -/
theorem C15_username_bounded_history (es : List Entry) (st : St) (hw : WfHistory {} es)
    (hr : runEntries {} es = .ok st) : GPUInv st :=
  run_preserves_gpu GPUInv_init hw hr

/-! ### (b) prefixes are bounded -/

/-- `%x` of a `uint64` has at most 16 digits -/
theorem C15_hexNat_digits (n : Nat) (h : n < 2 ^ 64) : (hexNat n).toList.length ≤ 16 := hexNat_length h

/-- a valid nickname has at most 31 characters, all ASCII, none a space -/
theorem C15_nick_bounded (x : String) (h : isValidNickname x = true) :
    x.toList.length ≤ 31 ∧ Ascii x ∧ Spaceless x := validNick_bounds h

/-- **(b)** the prefix `nick!user@robust/0x<hex id>` stored for a client session (not a services link,
`reply = 0`, `uint64` id) has at most `31 + 1 + 120 + 1 + (9 + 16) = 178` bytes — 179 with the leading `':'` —
and contains no space -/
theorem C15_prefix_bounded (st : St) (h : GPUInv st) (sid : Id) (s : Session)
    (hs : AMap.get st.sessions sid = some s) (hsrv : s.server = false) (h0 : sid.reply = 0)
    (hid : sid.id < 2 ^ 64) :
    s.ircPrefix.str.utf8ByteSize ≤ 178 ∧ Spaceless s.ircPrefix.str :=
  (ClientSess.mk hs hsrv h0 hid).prefix (PfxCtx.of_gpu h)

/-! ### (c) the rendered line has a command -/

/-- **grammar**: for a non-empty command without space, under a prefix without space such that
`":" prefix " " command` fits into 510 bytes (without prefix: the command fits and does not start with `':'`),
the command token of the rendered line is exactly the command -/
theorem C15_render_command_token (m : IrcMsg) (hne : m.command ≠ "") (hsp : Spaceless m.command)
    (hpfx : ∀ p, m.pfx = some p → Spaceless p.str ∧ p.str.utf8ByteSize + m.command.utf8ByteSize + 2 ≤ 510)
    (hnone : m.pfx = none → m.command.toList.head? ≠ some ':' ∧ m.command.utf8ByteSize ≤ 510) :
    cmdToken m.render = utf8 m.command := render_cmdToken m hne hsp hpfx hnone

theorem C15_render_has_command (m : IrcMsg) (hne : m.command ≠ "") (hsp : Spaceless m.command)
    (hpfx : ∀ p, m.pfx = some p → Spaceless p.str ∧ p.str.utf8ByteSize + m.command.utf8ByteSize + 2 ≤ 510)
    (hnone : m.pfx = none → m.command.toList.head? ≠ some ':' ∧ m.command.utf8ByteSize ≤ 510) :
    HasCommand m.render := hasCommand_of_token (render_cmdToken m hne hsp hpfx hnone) hne

/-- the bound on the prefix cannot be dropped: under a prefix without space of 509 bytes or more the rendered
line has no command (the violation before the fix) -/
theorem C15_long_prefix_no_command (m : IrcMsg) (p : Prefix) (hp : m.pfx = some p) (hsp : Spaceless p.str)
    (hlen : 509 ≤ p.str.utf8ByteSize) : ¬ HasCommand m.render :=
  render_long_prefix_no_command m p hp hsp hlen

/-- **relayed lines**: whatever is relayed under the stored prefix of a client session — `cmd` any good command
(`GoodCmd`: not empty, no space, at most 330 bytes; decidable), any parameters however long — keeps its command -/
theorem C15_relayed_has_command (st : St) (h : GPUInv st) (sid : Id) (s : Session)
    (hs : AMap.get st.sessions sid = some s) (hsrv : s.server = false) (h0 : sid.reply = 0)
    (hid : sid.id < 2 ^ 64) (cmd : String) (hg : GoodCmd cmd) (params : List String) :
    cmdToken (IrcMsg.mk (some s.ircPrefix) cmd params).render = utf8 cmd ∧
    HasCommand (IrcMsg.mk (some s.ircPrefix) cmd params).render :=
  have ht := relayed_cmdToken (PfxCtx.of_gpu h) (ClientSess.mk hs hsrv h0 hid) hg params
  ⟨ht, hasCommand_of_token ht hg.ne⟩

/-- the relay commands are good -/
example : GoodCmd "PRIVMSG" ∧ GoodCmd "NOTICE" ∧ GoodCmd "JOIN" ∧ GoodCmd "PART" ∧ GoodCmd "NICK" ∧
    GoodCmd "QUIT" ∧ GoodCmd "KICK" ∧ GoodCmd "TOPIC" ∧ GoodCmd "MODE" ∧ GoodCmd "INVITE" ∧ GoodCmd "KILL" := by
  decide +kernel

/-- a command that the command table accepts (its upper-case form is a key of at most 82 characters without
space) is good, e.g. `privmsg` -/
theorem C15_dispatched_command_good (x K : String) (h : toUpper x = K) (hne : K ≠ "") (hsp : Spaceless K)
    (hlen : K.toList.length ≤ 82) : GoodCmd x := goodCmd_of_toUpper h hne hsp hlen

/-- **server-prefixed replies** keep their command when the server name is short and contains no space -/
theorem C15_server_reply_has_command (c : Ctx) (hsp : Spaceless c.st.serverName)
    (hlen : c.st.serverName.utf8ByteSize ≤ 63) (cmd : String) (hg : GoodCmd cmd) (params : List String) :
    cmdToken (srv c cmd params).render = utf8 cmd ∧ HasCommand (srv c cmd params).render :=
  have ht := srv_cmdToken ⟨hsp, hlen⟩ hg params
  ⟨ht, hasCommand_of_token ht hg.ne⟩

/-- the default server name qualifies -/
example : Spaceless ({} : St).serverName ∧ ({} : St).serverName.utf8ByteSize ≤ 63 := by decide +kernel

/-- **lines without prefix** (`ERROR :Closing Link …`) keep their command -/
theorem C15_plain_has_command (cmd : String) (hg : GoodCmd cmd) (hcol : cmd.toList.head? ≠ some ':')
    (params : List String) :
    cmdToken (IrcMsg.mk none cmd params).render = utf8 cmd ∧ HasCommand (IrcMsg.mk none cmd params).render :=
  have ht := plain_cmdToken hg hcol params
  ⟨ht, hasCommand_of_token ht hg.ne⟩

/-- **PRIVMSG / NOTICE, every line**: all lines `cmdPrivmsg` produces for a client session — the message relayed
under the sender's prefix to a channel, to all users (`$` broadcast) or to one user, and the numeric replies
411, 412, 403, 404, 481, 401, 301 — have a command. -/
theorem C15_privmsg_has_command (c c' : Ctx) (sid : Id) (m : IrcMsg) (s : Session) (h : GPUInv c.st)
    (hs : AMap.get c.st.sessions sid = some s) (hsrv : s.server = false) (h0 : sid.reply = 0)
    (hid : sid.id < 2 ^ 64) (hsp : Spaceless c.st.serverName) (hlen : c.st.serverName.utf8ByteSize ≤ 63)
    (hm : GoodCmd m.command) (hr : cmdPrivmsg c sid m = .ok c') :
    ∃ new, c'.out = c.out ++ new ∧ ∀ o ∈ new, HasCommand o.data :=
  cmdPrivmsg_hasCommand (PfxCtx.of_gpu h) ⟨hs, hsrv, h0, hid⟩ ⟨hsp, hlen⟩ hm hr

/-- **all client commands (partial)**: every line that a client command produces and whose text the recipient
classification of C12 characterises keeps its command: the lines relayed under the acting client's prefix
(`LineShape.relayed`: PRIVMSG / NOTICE and the service aliases with the message's command, JOIN, PART, NICK,
QUIT, KICK, TOPIC, MODE, INVITE), the victim's QUIT of a KILL (`victim`, if the victim is a client session) and
the closing ERROR (`error`).  Not covered (`other`): numeric replies, server notices and lines for services,
whose text C12 does not characterise; each of them is server-prefixed, so `C15_server_reply_has_command`
applies to it; the walk through the handlers that says so is (d) below (`C15_client_handler_has_command`,
`C15_client_entry_has_command`). -/
theorem C15_client_lines_have_command_partial (st : St) (h : GPUInv st) (sid : Id) (s : Session)
    (hs : AMap.get st.sessions sid = some s) (hsrv : s.server = false) (h0 : sid.reply = 0)
    (hid : sid.id < 2 ^ 64) (m : IrcMsg) (o : Out) (hl : ClientLine st sid s m o) : LineShape st s o :=
  hl.shape (PfxCtx.of_gpu h) ⟨hs, hsrv, h0, hid⟩

/-- … for a whole `IRCFromClient` entry of a client session: `stH` is the state in which the handler runs (the
state before the entry up to `lastActivity` / `remoteAddr` / … of the acting session) -/
theorem C15_entry_lines_have_command_partial (st st' : St) (e : Entry) (out : List Out) (s : Session)
    (h : GPUInv st) (he : EntryOk st e) (ht : e.type = 2) (hs : AMap.get st.sessions e.session = some s)
    (hsrv : s.server = false) (hid : e.session.id < 2 ^ 64) (hr : applyEntry st e = .ok (st', out)) :
    ∃ stH sH, StBk st stH e.session ∧ AMap.get stH.sessions e.session = some sH ∧ Session.Bk s sH ∧
      ∀ o ∈ out, LineShape stH sH o :=
  applyEntry_client_shapes h he ht hs hsrv hid hr

/-- … and for a `DeleteSession` entry (the QUIT the server generates) -/
theorem C15_delete_lines_have_command_partial (st st' : St) (e : Entry) (out : List Out) (s : Session)
    (h : GPUInv st) (he : EntryOk st e) (ht : e.type = 1) (hs : AMap.get st.sessions e.session = some s)
    (hsrv : s.server = false) (hid : e.session.id < 2 ^ 64) (hr : applyEntry st e = .ok (st', out)) :
    ∃ stH sH, StBk st stH e.session ∧ AMap.get stH.sessions e.session = some sH ∧ Session.Bk s sH ∧
      ∀ o ∈ out, LineShape stH sH o :=
  applyEntry_delete_shapes h he ht hs hsrv hid hr

/-! ### (d) every line has a command

The partial theorems above classify the lines whose text the recipient classification of C12 characterises.  The
following ones cover *every* line: numeric replies, server notices, lines for services, the lines of the services
handlers.  They rest on a self-contained invariant `KInv st` (`Proofs/CmdInv.lean`): every stored session has a
prefix without space of at most 178 bytes (300 for a services link), a nickname without space of at most 31
bytes, a user name without space of at most 30 characters and a numeric id below `2^64`; the server name has no
space and at most 63 bytes.  One walk through each of the 41 handlers (`Proofs/KeepsClient*.lean`,
`Proofs/KeepsSrv.lean`, read for `KStep` in `Proofs/CmdHandlers.lean` and `Proofs/CmdEntry.lean`) shows that it keeps
`KInv` and that every line it emits is built under the server prefix,
without prefix, under a stored prefix, under the bare nickname of a stored session, or under the prefix of the
line services sent — with a literal command, or (PRIVMSG / NOTICE) the dispatched command.

Assumptions (all about names that services or the operator choose; stated as hypotheses):

* `SrvNameOK st`: the server name has no space and at most 63 bytes;
* `SrvPrefixOK st` / `Ids64 st` (only to obtain `KInv` from `GPUInv`): stored prefixes and user names of links and
  pseudo-clients have no space, prefixes at most 300 bytes; session ids are `uint64`;
* `SvcEntryOK st e`: a line sent by a services *link* has a prefix without space of at most 160 bytes, and the
  user name (fourth parameter) of its `NICK` lines has no space;
* `EntryNamesOK e` (only for keeping `KInv`): `CreateSession` ids are `uint64`, and a `SERVER` line announces a name
  of at most 300 bytes. -/

theorem C15_prefixes_bounded_init : KInv ({} : St) := KInv_init

/-- `KInv` follows from the invariants above and the assumptions on services' sessions -/
theorem C15_prefixes_bounded_of_invariants (st : St) (h : GPUInv st) (hn : SrvNameOK st) (hs : SrvPrefixOK st)
    (hid : Ids64 st) : KInv st := KInv.of_gpu h hn hs hid

/-- … and gives the assumption on services' sessions back (so it is kept by everything that keeps `KInv`) -/
theorem C15_srvPrefixOK_kept (st : St) (h : KInv st) : SrvPrefixOK st := h.srvPrefixOK

/-- read off the invariant: *every* stored prefix (clients, pseudo-clients, links) has no space and at most 300
bytes — 178 unless the session is a services link -/
theorem C15_prefix_bounded_all (st : St) (h : KInv st) (sid : Id) (s : Session)
    (hs : AMap.get st.sessions sid = some s) :
    Spaceless s.ircPrefix.str ∧ s.ircPrefix.str.utf8ByteSize ≤ 300 ∧
      (s.server = false → s.ircPrefix.str.utf8ByteSize ≤ 178) := by
  have k := h.get hs
  have h1 := k.pfxLen
  have h2 := pfxCap_le s
  refine ⟨k.pfxSp, by omega, fun hf => ?_⟩
  unfold pfxCap at h1
  rw [hf] at h1
  exact h1

/-- **all handlers**: every handler of the command table — client and services handlers — keeps `KInv` and
appends only lines with a command, given `HArgs` (what the dispatch of `processMessage` establishes about the
message, plus the assumptions on lines of services) -/
theorem C15_handler_has_command (fname : String) (h : Handler) (hh : handlerByName fname = some h)
    (c c' : Ctx) (sid : Id) (m : IrcMsg) (hk : KInv c.st) (ha : HArgs fname c sid m) (hr : h c sid m = .ok c') :
    KInv c'.st ∧ ∃ new, c'.out = c.out ++ new ∧ ∀ o ∈ new, HasCommand o.data :=
  have k := handler_kstep hh (KStep.start hk) ha hr
  ⟨k.inv, k.out⟩

/-- **client handlers**: for every handler of the table other than the services handlers `cmdServer…`, under the
invariants of a reachable state, a short server name and the assumptions on services' sessions; the actor a
stored client session; the message with a good command (`C15_dispatched_command_good`) and middle parameters
without space (`C15_parsed_midOK`); USER with two parameters (the table demands three) — every new line has a
command: relayed lines, numeric replies, server notices, lines for services -/
theorem C15_client_handler_has_command (fname : String) (h : Handler) (hh : handlerByName fname = some h)
    (hcl : clientHandler fname = true) (c c' : Ctx) (sid : Id) (m : IrcMsg) (s : Session) (hg : GPUInv c.st)
    (hn : SrvNameOK c.st) (hsp : SrvPrefixOK c.st) (hid : Ids64 c.st)
    (hs : AMap.get c.st.sessions sid = some s) (hsrv : s.server = false) (hcmd : GoodCmd m.command)
    (hmid : MidOK m) (hu : fname = "cmdUser" → 2 ≤ m.params.length) (hr : h c sid m = .ok c') :
    ∃ new, c'.out = c.out ++ new ∧ ∀ o ∈ new, HasCommand o.data :=
  (client_handler_hc hh hcl (KInv.of_gpu hg hn hsp hid) hs hsrv hcmd hmid hu hr).2

/-- the 25 client handlers other than `cmdServer` qualify; `cmdServer` and the 15 services handlers do not -/
example : ["cmdAway", "cmdServiceAlias", "cmdGline", "cmdInvite", "cmdIson", "cmdJoin", "cmdKick", "cmdKill",
      "cmdKnock", "cmdList", "cmdMode", "cmdMotd", "cmdNames", "cmdNick", "cmdOper", "cmdPart", "cmdPass",
      "cmdPing", "cmdPrivmsg", "cmdQuit", "cmdTopic", "cmdUser", "cmdUserhost", "cmdWho", "cmdWhois"].all
      clientHandler = true ∧
    ["cmdServer", "cmdServerInvite", "cmdServerJoin", "cmdServerKick", "cmdServerKill", "cmdServerMode",
      "cmdServerNick", "cmdServerPrivmsg", "cmdServerPart", "cmdServerQuit", "cmdServerSvshold", "cmdServerSvsjoin",
      "cmdServerSvsmode", "cmdServerSvsnick", "cmdServerSvspart", "cmdServerTopic"].all
      (fun f => !clientHandler f) = true := by decide +kernel

/-- **`ProcessMessage`**: the 421 / 451 / 461 replies, the `ERROR` of a banned or never-registered session and all
lines of the handler have a command (`hsvc`: the assumption on the line if the acting session is a link); `KInv`
is kept if a `SERVER` line announces a short name -/
theorem C15_processMessage_has_command (c c' : Ctx) (e : Entry) (im : Option IrcMsg) (hk : KInv c.st)
    (hp : Pre c e.session) (hn : NI c.st) (hmid : ∀ m, im = some m → MidOK m)
    (hsvc : ∀ m s, im = some m → AMap.get c.st.sessions e.session = some s → s.server = true → SvcLineOK m)
    (hr : processMessage c e im = .ok c') :
    (∃ new, c'.out = c.out ++ new ∧ ∀ o ∈ new, HasCommand o.data) ∧
      ((∀ m, im = some m → ServerLineOK m) → KInv c'.st) :=
  processMessage_kstep (KStep.start hk) hp hn hmid hsvc hr

/-- **one committed entry of any type, any session**: every line of its output batch has a command -/
theorem C15_entry_has_command (st st' : St) (e : Entry) (out : List Out) (h : GInv st) (hk : KInv st)
    (he : EntryOk st e) (hs : SvcEntryOK st e) (hr : applyEntry st e = .ok (st', out)) :
    ∀ o ∈ out, HasCommand o.data :=
  (applyEntry_kinv st st' e out h hk he hs hr).1

/-- … and the invariant is kept -/
theorem C15_entry_keeps_prefixes (st st' : St) (e : Entry) (out : List Out) (h : GInv st) (hk : KInv st)
    (he : EntryOk st e) (hs : SvcEntryOK st e) (hn : EntryNamesOK e) (hr : applyEntry st e = .ok (st', out)) :
    KInv st' :=
  (applyEntry_kinv st st' e out h hk he hs hr).2 hn

/-- **an entry of a client session** (`IRCFromClient`; also `DeleteSession`, see below): *every* line it causes —
the gate replies, the `ERROR` lines, the relayed lines, numeric replies, notices, lines for services — has a
command.  No assumption on the posted text. -/
theorem C15_client_entry_has_command (st st' : St) (e : Entry) (out : List Out) (s : Session) (h : GPUInv st)
    (hn : SrvNameOK st) (hsp : SrvPrefixOK st) (hid : Ids64 st) (he : EntryOk st e)
    (hs : AMap.get st.sessions e.session = some s) (hsrv : s.server = false)
    (hr : applyEntry st e = .ok (st', out)) : ∀ o ∈ out, HasCommand o.data :=
  C15_entry_has_command st st' e out h.ginv (KInv.of_gpu h hn hsp hid) he
    (fun _ m s' _ hs' hsrv' => by rw [hs] at hs'; cases hs'; rw [hsrv] at hsrv'; cases hsrv') hr

/-- **a `DeleteSession` entry** (of any session): the `QUIT` the server generates, and the closing `ERROR` -/
theorem C15_delete_entry_has_command (st st' : St) (e : Entry) (out : List Out) (h : GPUInv st)
    (hn : SrvNameOK st) (hsp : SrvPrefixOK st) (hid : Ids64 st) (he : EntryOk st e) (ht : e.type = 1)
    (hr : applyEntry st e = .ok (st', out)) : ∀ o ∈ out, HasCommand o.data :=
  C15_entry_has_command st st' e out h.ginv (KInv.of_gpu h hn hsp hid) he
    (fun ht2 => by rw [ht] at ht2; cases ht2) hr

/-- **an `IRCFromClient` entry of a services link**: every line it causes has a command, given the assumption on
the line -/
theorem C15_services_entry_has_command (st st' : St) (e : Entry) (out : List Out) (h : GPUInv st)
    (hn : SrvNameOK st) (hsp : SrvPrefixOK st) (hid : Ids64 st) (he : EntryOk st e)
    (hl : ∀ m, parseMessage e.data = some m → SvcLineOK m)
    (hr : applyEntry st e = .ok (st', out)) : ∀ o ∈ out, HasCommand o.data :=
  C15_entry_has_command st st' e out h.ginv (KInv.of_gpu h hn hsp hid) he (fun _ m _ hm _ _ => hl m hm) hr

/-- for a line as the parser delivers it, the assumption on lines of services reduces to lengths: the prefix ends
at the first space (so it contains none), and the user name of a `NICK` line with its nine parameters is not the
trailing one; what remains is that the prefix has at most 160 bytes -/
theorem C15_services_line_ok (raw : String) (m : IrcMsg) (hp : parseMessage raw = some m)
    (hl : ∀ p, m.pfx = some p → p.str.utf8ByteSize ≤ 160)
    (hn : toUpper m.command = "NICK" → 5 ≤ m.params.length) : SvcLineOK m :=
  SvcLineOK.of_parsed hp hl hn

/-- **histories**: starting from the empty state, every line of every output batch produced along a well-formed
history whose entries satisfy the assumptions (relative to the state they are applied to) has a command, and the
final state satisfies `KInv` -/
theorem C15_history_lines_have_command (es : List Entry) (st : St) (outs : List Out) (hw : WfHistory {} es)
    (ha : ArgsHistory {} es) (hr : runLines {} es = .ok (st, outs)) :
    KInv st ∧ ∀ o ∈ outs, HasCommand o.data :=
  runLines_hc GInv_init KInv_init hw ha hr

/-- … in particular when every entry satisfies the state-independent form `EntryLineOK` of the assumptions -/
theorem C15_history_lines_have_command' (es : List Entry) (st : St) (outs : List Out) (hw : WfHistory {} es)
    (ha : ∀ e ∈ es, EntryLineOK e) (hr : runLines {} es = .ok (st, outs)) :
    KInv st ∧ ∀ o ∈ outs, HasCommand o.data :=
  runLines_hc GInv_init KInv_init hw (ArgsHistory.of_all ha _) hr

/-- a posted line without prefix that is neither `SERVER` nor `NICK` satisfies the assumptions whatever it says -/
theorem C15_plain_line_ok (e : Entry) (hid : e.type = 0 → e.id < 2 ^ 64)
    (hl : ∀ m, parseMessage e.data = some m → m.pfx = none ∧ toUpper m.command ≠ "SERVER" ∧
      toUpper m.command ≠ "NICK") : EntryLineOK e :=
  ⟨hid, fun _ m hm =>
    have ⟨h1, h2, h3⟩ := hl m hm
    ⟨fun hc => absurd hc h2, ⟨fun p hp => (by rw [h1] at hp; cases hp), fun hc => absurd hc h3⟩⟩⟩

/-! ### non-vacuity -/

def longUser : String := String.ofList (List.replicate 600 'u')

theorem longUser_spaceless : Spaceless longUser := by
  unfold longUser
  exact spaceless_ofList fun c hc => by rw [(List.mem_replicate.1 hc).2]; decide

/-- a 600-character `USER` parameter is stored as 30 characters -/
example : (truncateUsername longUser).toList.length = 30 ∧
    truncateUsername longUser = String.ofList (List.replicate 30 'u') := by
  unfold truncateUsername
  rw [firstWord_of_spaceless longUser_spaceless]
  unfold takeChars longUser maxUserLen
  simp only [String.toList_ofList, List.take_replicate, List.length_replicate]
  exact ⟨rfl, rfl⟩

example : truncateUsername "alice" = "alice" :=
  truncateUsername_of_short (by decide +kernel) (by decide +kernel)

/-- what a services link can hand over as the trailing parameter of a short NICK: cut at the first space -/
example : truncateUsername "hello world" = "hello" := by
  decide +kernel

theorem longUser_bytes : longUser.utf8ByteSize = 600 := by
  have ha : Ascii longUser := by
    unfold Ascii longUser
    rw [String.toList_ofList]
    intro c hc; rw [(List.mem_replicate.1 hc).2]; decide
  rw [utf8ByteSize_ascii ha]
  unfold longUser
  rw [String.toList_ofList, List.length_replicate]

/-- before the fix: under the prefix `nick!uuu…u@robust/0x1` with the 600-character user name every relayed
line is cut inside the prefix and has no command … -/
example (cmd : String) (params : List String) :
    ¬ HasCommand (IrcMsg.mk (some ⟨"nick", longUser, "robust/0x1"⟩) cmd params).render := by
  refine C15_long_prefix_no_command _ _ rfl ?_ ?_
  · unfold Prefix.str
    refine spaceless_append (spaceless_append (by decide +kernel) ?_) ?_
    · split
      · exact spaceless_empty
      · exact spaceless_append (by decide +kernel) longUser_spaceless
    · exact by decide +kernel
  · unfold Prefix.str
    rw [utf8ByteSize_append, utf8ByteSize_append]
    have hne : longUser.isEmpty = false := by
      rw [Bool.eq_false_iff]; intro he
      have := longUser_bytes
      rw [String.isEmpty_iff_utf8ByteSize_eq_zero.1 he] at this
      cases this
    rw [hne]
    simp only [Bool.false_eq_true, ↓reduceIte]
    rw [utf8ByteSize_append, longUser_bytes]
    omega

/-- … after the fix the stored user name has 30 characters and the same line keeps its command -/
example : cmdToken (IrcMsg.mk (some ⟨"nick", truncateUsername "uuuuuuuuuuuuuuuuuuuuuuuuuuuuuuuuuuuuuuuu", "robust/0x1"⟩)
      "PRIVMSG" ["#c", "hi"]).render = utf8 "PRIVMSG" := by
  decide +kernel

/-- the predicate on concrete lines -/
example : HasCommand [58, 97, 33, 98, 64, 99, 32, 80, 73, 78, 71, 32, 120] ∧   -- ":a!b@c PING x"
    HasCommand [80, 73, 78, 71] ∧                                                -- "PING"
    ¬ HasCommand [58, 97, 33, 98, 64, 99] ∧                                      -- ":a!b@c"      (cut inside the prefix)
    ¬ HasCommand [58, 97, 33, 98, 64, 99, 32] ∧                                  -- ":a!b@c "
    ¬ HasCommand [] := by decide +kernel

/-- the state of the demo satisfies all invariants, and its server name is short -/
theorem demoSt_gpu : GPUInv demoSt :=
  have h : GPInv demoSt := ginv_of_ginvB (by decide +kernel)
  ⟨h.ginv, h.pinv, UInv.of_all (by decide)⟩

theorem demoEntry_ok (data : String) : EntryOk demoSt (demoEntry data) :=
  ⟨fun _ => rfl, fun h => by cases h⟩

/-- the hypotheses of `C15_entry_lines_have_command_partial` are satisfiable, and for the relayed PRIVMSG of the
demo its conclusion says that the command token is `PRIVMSG` -/
example : ∃ st' out, applyEntry demoSt (demoEntry "PRIVMSG #c :hi there") = .ok (st', out) ∧
    ∀ o ∈ out, cmdToken o.data = utf8 "PRIVMSG" := by
  obtain ⟨st', out, hr, hd⟩ := ok_of_outData demo_relay
  refine ⟨st', out, hr, fun o ho => ?_⟩
  obtain ⟨stH, sH, _, _, _, hsh⟩ := C15_entry_lines_have_command_partial demoSt st' _ out
    (demoSt.sessions.head!).2 demoSt_gpu (demoEntry_ok _) rfl rfl rfl (by decide) hr
  have hod : o.data = utf8 ":alice!a@robust/0x1 PRIVMSG #c :hi there" := by
    cases out with
    | nil => cases ho
    | cons a t =>
      cases t with
      | nil =>
        simp only [List.map_cons, List.map_nil, List.cons.injEq, and_true] at hd
        rw [List.mem_singleton] at ho
        rw [ho, hd]
      | cons b t' => simp at hd
  rw [hod, utf8_eq_flatMap, utf8_eq_flatMap]
  decide +kernel

/-! #### non-vacuity of (d) -/

def allHaveCommand (l : List Bytes) : Bool := l.all fun b => decide (HasCommand b)

/-- the demo state satisfies `KInv` -/
theorem demoSt_kinv : KInv demoSt := KInv.of_all (by decide +kernel) (by decide +kernel)

/-- … and the hypotheses of `C15_client_entry_has_command` -/
theorem demoSt_hyps : SrvNameOK demoSt ∧ SrvPrefixOK demoSt ∧ Ids64 demoSt := by
  refine ⟨demoSt_kinv.name, demoSt_kinv.srvPrefixOK, fun id s hg => ?_⟩
  have hm := AMap.mem_of_get hg
  simp only [demoSt, List.mem_cons, List.not_mem_nil, or_false, Prod.mk.injEq] at hm
  rcases hm with ⟨rfl, _⟩ | ⟨rfl, _⟩ <;> decide

/-- `JOIN #d` by alice: the relayed JOIN, `MODE +nt`, the `SJOIN` for services and the numeric replies 324, 331,
353, 366 — seven lines, each with a command -/
theorem demo_join : outData (applyEntry demoSt (demoEntry "JOIN #d")) =
      [utf8 ":alice!a@robust/0x1 JOIN #d", utf8 ":robustirc.net MODE #d +nt", utf8 ":robustirc.net SJOIN 1 #d @alice",
       utf8 ":robustirc.net 324 alice #d +nt", utf8 ":robustirc.net 331 alice #d :No topic is set",
       utf8 ":robustirc.net 353 alice = #d @alice", utf8 ":robustirc.net 366 alice #d :End of /NAMES list."] ∧
    allHaveCommand (outData (applyEntry demoSt (demoEntry "JOIN #d"))) = true := by decide +kernel

/-- `TOPIC #c :hello`: the relayed TOPIC and the line for services under the bare nickname; `FOO bar`: the 421 -/
example : outData (applyEntry demoSt (demoEntry "TOPIC #c :hello")) =
      [utf8 ":alice!a@robust/0x1 TOPIC #c hello", utf8 ":alice TOPIC #c alice 0 hello"] ∧
    allHaveCommand (outData (applyEntry demoSt (demoEntry "TOPIC #c :hello"))) = true ∧
    outData (applyEntry demoSt (demoEntry "FOO bar")) = [utf8 ":robustirc.net 421 alice FOO :Unknown command"] ∧
    allHaveCommand (outData (applyEntry demoSt (demoEntry "FOO bar"))) = true := by decide +kernel

/-- the hypotheses of `C15_client_entry_has_command` are satisfiable and its conclusion speaks about the seven
lines of `demo_join` -/
example : ∃ st' out, applyEntry demoSt (demoEntry "JOIN #d") = .ok (st', out) ∧ out.length = 7 ∧
    ∀ o ∈ out, HasCommand o.data := by
  obtain ⟨st', out, hr, hd⟩ := ok_of_outData demo_join.1
  refine ⟨st', out, hr, ?_, C15_client_entry_has_command demoSt st' _ out (demoSt.sessions.head!).2 demoSt_gpu
    demoSt_hyps.1 demoSt_hyps.2.1 demoSt_hyps.2.2 (demoEntry_ok _) rfl rfl hr⟩
  have := congrArg List.length hd
  simpa using this

/-- the assumption on lines of services cannot be dropped: under a `servicesPrefix` whose name has 509 bytes the
relayed line loses its command -/
example (cmd : String) (params : List String) :
    ¬ HasCommand (IrcMsg.mk (some ⟨String.ofList (List.replicate 509 'x'), "", ""⟩) cmd params).render := by
  refine C15_long_prefix_no_command _ _ rfl ?_ ?_
  · exact (bare_prefix_bounds (a := 509) (spaceless_ofList fun c hc => by rw [(List.mem_replicate.1 hc).2]; decide)
      (by decide +kernel)).1
  · have e : (Prefix.str ⟨String.ofList (List.replicate 509 'x'), "", ""⟩) = String.ofList (List.replicate 509 'x') := by
      decide +kernel
    rw [e]
    decide +kernel

/-! ## non-vacuity (byte level) -/

example : firstLine "PRIVMSG #c :hi\rQUIT" = "PRIVMSG #c :hi" := by decide +kernel

example : CleanMsg ⟨some ⟨"nick", "user", "host"⟩, "PRIVMSG", ["#c", "hi there"]⟩ := by decide +kernel
example : ¬ CleanMsg ⟨some ⟨"nick", "user", "host"⟩, "PRIVMSG", ["#c", "hi\r\nQUIT"]⟩ := by decide +kernel

/-- a concrete clean message renders to the expected single line … -/
example : (⟨some ⟨"nick", "user", "host"⟩, "PRIVMSG", ["#c", "hi there"]⟩ : IrcMsg).render
    = utf8 ":nick!user@host PRIVMSG #c :hi there" := by
  decide +kernel

/-- … which is clean -/
example : CleanBytes (⟨some ⟨"nick", "user", "host"⟩, "PRIVMSG", ["#c", "hi there"]⟩ : IrcMsg).render :=
  C15_render_clean _ (by decide +kernel)

/-- the injection attempt is cut before parsing: the parsed message has no trace of `QUIT` -/
example : parseMessage (firstLine "PRIVMSG #c :hi\rQUIT") = some ⟨none, "PRIVMSG", ["#c", "hi"]⟩ := by
  decide +kernel

example : parseMessage (firstLine ":n!u@h privmsg #c :hi\nQUIT\r\n")
    = some ⟨some ⟨"n", "u", "h"⟩, "PRIVMSG", ["#c", "hi"]⟩ := by
  decide +kernel

/-- the cut is necessary: `parseMessage` alone only trims CR/LF at both ends, an embedded CR
survives into the trailing parameter (so the hypothesis `Clean raw` of `C15_parse_clean` cannot
be dropped) -/
example : ∃ m, parseMessage "PRIVMSG #c :hi\rQUIT" = some m ∧ ¬ CleanMsg m :=
  ⟨⟨none, "PRIVMSG", ["#c", "hi\rQUIT"]⟩, by decide +kernel, by decide +kernel⟩


/-! ## tie to the HTTP handlers (regenerated from internal/api on every run)

Both handlers that turn client-supplied text into a replicated entry pass it through the Go
function `firstLine`. That this function computes the model's `firstLine` (cut at the first CR,
LF or NUL) is not read off its text: `checks/C15.py` runs the real function and the model's on the
same generated texts on every run (clean, cut, separators only, separators beyond byte 512,
multi-byte characters) and judges the real output on its own. -/

theorem C15_handlers_cut :
    Robust.Gen.Exprs.fact "post.msg.Data" = "firstLine(local:struct{Data string; ClientMessageId uint64}.Data)" ∧
    Robust.Gen.Exprs.fact "delete.msg.Data" = "firstLine(local:struct{Quitmessage string}.Quitmessage)" := by decide +kernel

end Robust.Props.C15
