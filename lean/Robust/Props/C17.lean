import Robust.Api.Model
import Robust.Irc.Proofs.FrmCheck
import Robust.Irc.Proofs.FrmEnd
import Robust.Gen.Exprs
import Robust.Props.C16
/-!
# C17 — only dead sessions are reported dead, only idle ones expire

Part 1 (decision level): `getSession`, the expiry sweep.

Part 2 (end of a session, over the whole state machine): after a DeleteSession entry (expiry,
DELETE), a QUIT, a KILL by an IRC operator or a client entry from a GLINE-banned address the
session is not stored any more, its nickname is free and no channel lists it
(`C17_delete_entry_ends_session`, `C17_quit_…`, `C17_kill_…`, `C17_banned_…`); what each entry type
does to `lastProcessed` (`C17_lastProcessed_after`); `lastProcessed` is **not** monotone
(`C17_lastProcessed_not_monotone`: a client entry sets it to the numeric id of the *session*), the
true variant is the bound `lastProcessed.id ≤ id of the last applied entry`
(`C17_lastProcessed_bounded_partial`), which is what the "no such session" answer needs
(`C17_nosuch_is_final`).  Helpers: `Robust/Irc/Proofs/Frm*.lean`.
-/
namespace Robust.Props.C17
open Robust Robust.Irc Robust.Api

/-- "no such session" is only answered for an id that is not stored and lies strictly below the
id the node has processed last -/
theorem C17_nosuch_sound (st : St) (id : Id) (h : getSession st id = .error .noSuchSession) :
    AMap.get st.sessions id = none ∧ id.id < st.lastProcessed.id := by
  unfold getSession at h
  cases hg : AMap.get st.sessions id with
  | some s => simp [hg] at h
  | none =>
    simp only [hg] at h
    split at h
    · rename_i hlt; exact ⟨rfl, hlt⟩
    · cases h

/-- an id newer than anything the node has processed is "not yet seen", never "no such
session": a lagging follower does not tell a client that its live session is gone -/
theorem C17_future_notyet (st : St) (id : Id) (hfut : st.lastProcessed.id ≤ id.id) (hnone : AMap.get st.sessions id = none) :
    getSession st id = .error .notYetSeen := by
  unfold getSession; simp [hnone]; omega

/-- a stored session is always found, whatever `lastProcessed` says -/
theorem C17_live_found (st : St) (id : Id) (s : Session) (h : AMap.get st.sessions id = some s) : getSession st id = .ok s := by
  unfold getSession; simp [h]

/-- Log-order argument: entry ids strictly increase, sessions are created under the id of their
CreateSession entry, and `lastProcessed` is always the id of an applied entry or of an existing
session — so an id below `lastProcessed` that is not stored can never be created by a later
entry (its CreateSession entry would need a smaller id than one already applied). -/
theorem C17_cannot_reappear (st : St) (id : Id) (h : getSession st id = .error .noSuchSession)
    (e : Entry) (hnew : st.lastProcessed.id ≤ e.id) (_hcreate : e.type = 0) :
    (⟨e.id, 0⟩ : Id) ≠ ⟨id.id, 0⟩ := by
  have := (C17_nosuch_sound st id h).2
  intro heq
  have : e.id = id.id := by injection heq
  omega

/-- the expiry sweep proposes deletion for exactly the client sessions whose last activity is
older than the configured expiration; services pseudo-clients are never proposed -/
theorem C17_expire_exact (st : St) (now : Int) (id : Id) :
    id ∈ expireSessions st now ↔ ∃ s, (id, s) ∈ st.sessions ∧ id.reply = 0 ∧ now - s.lastActivity > st.config.sessionExpiration := by
  unfold expireSessions
  simp only [List.mem_map, List.mem_filter, decide_eq_true_eq]
  constructor
  · rintro ⟨⟨i, s⟩, ⟨hm, hr, hlt⟩, rfl⟩
    simp only at hr hlt
    exact ⟨s, hm, hr, by omega⟩
  · rintro ⟨s, hm, hr, hlt⟩
    exact ⟨(id, s), ⟨hm, hr, by simp only; omega⟩, rfl⟩

theorem C17_pseudo_clients_never_expire (st : St) (now : Int) (id : Id) (h : id.reply ≠ 0) : id ∉ expireSessions st now := by
  intro hm
  obtain ⟨_, _, hr, _⟩ := (C17_expire_exact st now id).1 hm
  exact h hr

/-- regenerated: the comparison in getSessionLocked, and the two skip conditions, the timeout and
the proposed entry of ExpireSessions -/
theorem C17_wiring :
    Gen.Exprs.fact "getsession.conds" = "recv.sessions[param1][1] ;; param1.Id < recv.lastProcessed.Id" ∧
    Gen.Exprs.fact "expire.conds" = "0 != rangekey.Reply ;; time.Since(rangeval.LastActivity) <= recv.sessionExpiration()" ∧
    Gen.Exprs.fact "expire.timeout.helper" = "return time.Duration(recv.Config.SessionExpiration)" ∧
    Gen.Exprs.fact "expire.msg.Type" = "robust.DeleteSession" ∧
    Gen.Exprs.fact "expire.msg.Session" = "rangekey" := ⟨rfl, rfl, rfl, rfl, rfl⟩

/-! ## Part 2 — end of a session -/

/-- **DeleteSession entry** (what the expiry sweep and the DELETE request propose) for a stored
client session: afterwards the session is not stored, its nickname is free, and no channel's member
list contains that nickname. -/
theorem C17_delete_entry_ends_session {st st' : St} {e : Entry} {out : List Out} {s : Session} (h : GInv st)
    (he : EntryOk st e) (ht : e.type = 1) (hs : AMap.get st.sessions e.session = some s)
    (hsv : s.server = false) (hr : applyEntry st e = .ok (st', out)) :
    AMap.get st'.sessions e.session = none ∧ AMap.get st'.nicks (nickToLower s.nick) = none ∧
    ∀ lc ch, AMap.get st'.channels lc = some ch → nickToLower s.nick ∉ AMap.keys ch.nicks :=
  let g := applyEntry_delete_ends h he ht hs hsv hr
  ⟨g.notStored, g.nickFree, g.offChans⟩

/-- **QUIT** typed by the client: the same. -/
theorem C17_quit_entry_ends_session {st st' : St} {e : Entry} {out : List Out} {s : Session} {m : IrcMsg}
    (h : GInv st) (he : EntryOk st e) (ht : e.type = 2) (hs : AMap.get st.sessions e.session = some s)
    (hsv : s.server = false) (hm : parseMessage e.data = some m) (hq : toUpper m.command = "QUIT")
    (hr : applyEntry st e = .ok (st', out)) :
    AMap.get st'.sessions e.session = none ∧ AMap.get st'.nicks (nickToLower s.nick) = none ∧
    ∀ lc ch, AMap.get st'.channels lc = some ch → nickToLower s.nick ∉ AMap.keys ch.nicks :=
  let g := applyEntry_quit_ends h he ht hs hsv hm hq hr
  ⟨g.notStored, g.nickFree, g.offChans⟩

/-- **KILL** by a registered IRC operator (whose own address is not banned) of the session `tid`
indexed under the first parameter: the killed session is not stored any more (the operator's
`MaybeDeleteSession` purges every flagged session), its nickname is free, it is on no channel. -/
theorem C17_kill_entry_ends_session {st st' : St} {e : Entry} {out : List Out} {s : Session} {m : IrcMsg}
    {p0 : String} {tid : Id} (h : GInv st) (he : EntryOk st e) (ht : e.type = 2)
    (hs : AMap.get st.sessions e.session = some s) (hsv : s.server = false) (hli : s.loggedIn = true)
    (hop : s.operator = true) (hnb : AMap.get st.config.banned e.remoteAddr = none)
    (hm : parseMessage e.data = some m) (hq : toUpper m.command = "KILL") (hlen : 2 ≤ m.params.length)
    (hp0 : param m 0 = .ok p0) (htid : AMap.get st.nicks (nickToLower p0) = some tid)
    (hr : applyEntry st e = .ok (st', out)) :
    AMap.get st'.sessions tid = none ∧ AMap.get st'.nicks (nickToLower p0) = none ∧
    ∀ lc ch, AMap.get st'.channels lc = some ch → nickToLower p0 ∉ AMap.keys ch.nicks :=
  let g := applyEntry_kill_ends h he ht hs hsv hli hop hnb hm hq hlen hp0 htid hr
  ⟨g.notStored, g.nickFree, g.offChans⟩

/-- **Ban.** A client entry (any line that parses) arriving from a new address that is GLINE-banned
ends the session in the same way. -/
theorem C17_banned_entry_ends_session {st st' : St} {e : Entry} {out : List Out} {s : Session} {m : IrcMsg}
    {reason : String} (h : GInv st) (he : EntryOk st e) (ht : e.type = 2)
    (hs : AMap.get st.sessions e.session = some s) (hm : parseMessage e.data = some m)
    (hne : (e.remoteAddr != "" && e.remoteAddr != s.remoteAddr) = true)
    (hb : AMap.get st.config.banned e.remoteAddr = some reason) (hre : reason ≠ "")
    (hr : applyEntry st e = .ok (st', out)) :
    AMap.get st'.sessions e.session = none ∧ AMap.get st'.nicks (nickToLower s.nick) = none ∧
    ∀ lc ch, AMap.get st'.channels lc = some ch → nickToLower s.nick ∉ AMap.keys ch.nicks :=
  let g := applyEntry_banned_ends h he ht hs hm hne hb hre hr
  ⟨g.notStored, g.nickFree, g.offChans⟩

/-- … and a session that is not stored receives nothing through a channel or nickname lookup:
every recipient id computed by the send helpers is the id of a *stored* session
(the nick index only points to stored sessions — `Inv.index`). -/
theorem C17_gone_not_addressed {st : St} (h : GInv st) {σ : Id} (hσ : AMap.get st.sessions σ = none) :
    ∀ x, AMap.get st.nicks x ≠ some σ := by
  intro x hx
  obtain ⟨s, hs, _⟩ := h.inv.index x σ hx
  rw [hσ] at hs; cases hs

/-! ## Part 2b — `lastProcessed` -/

/-- What `applyEntry` does to `lastProcessed`: a DeleteSession entry of a stored session sets it to
the entry's id; a client entry of a stored session sets it to the numeric id **of the session**
(`SetLastProcessed(robust.Id{Id: msg.Session.Id})`, statemachine.go:111); every other entry
(CreateSession, message of death, Config, entries of unknown sessions) leaves it alone. -/
theorem C17_lastProcessed_after {st st' : St} {e : Entry} {out : List Out}
    (hr : applyEntry st e = .ok (st', out)) :
    st'.lastProcessed =
      if e.type = 1 ∧ (AMap.get st.sessions e.session).isSome then ⟨e.id, 0⟩
      else if e.type = 2 ∧ (AMap.get st.sessions e.session).isSome then ⟨e.session.id, 0⟩
      else st.lastProcessed :=
  applyEntry_lastProcessed hr

/-- **True variant of monotonicity (partial).** Assumption on the history, stated explicitly: entry
ids increase strictly (`IdsIncreasing n es`: the first id is above `n`, each next id above the
previous one — raft indexes).  Then `lastProcessed.id`, and the numeric id of every stored session,
never exceed the id of the entry applied last (`lastId n es`). -/
theorem C17_lastProcessed_bounded_partial {st st' : St} {es : List Entry} {n : Nat} (hw : SessWf st)
    (hwf : WfHistory st es) (hinc : IdsIncreasing n es)
    (hb : st.lastProcessed.id ≤ n ∧ ∀ id s, AMap.get st.sessions id = some s → id.id ≤ n)
    (hr : runEntries st es = .ok st') :
    st'.lastProcessed.id ≤ lastId n es ∧ ∀ id s, AMap.get st'.sessions id = some s → id.id ≤ lastId n es :=
  run_lpBound hw hwf hinc hb hr

/-- one step of the above -/
theorem C17_lastProcessed_bounded_step {st st' : St} {e : Entry} {out : List Out} {n : Nat} (hw : SessWf st)
    (he : EntryOk st e) (hb : st.lastProcessed.id ≤ n ∧ ∀ id s, AMap.get st.sessions id = some s → id.id ≤ n)
    (hn : n ≤ e.id) (hr : applyEntry st e = .ok (st', out)) :
    st'.lastProcessed.id ≤ e.id ∧ ∀ id s, AMap.get st'.sessions id = some s → id.id ≤ e.id :=
  applyEntry_lpBound hw he.1 hb hn hr

/-- Consequence for the lookup: once a node that has applied a history with increasing ids answers
"no such session" for `id`, no later entry (ids above the last applied one) can be the CreateSession
entry of that id — the answer is final.  (This is the use `C17_cannot_reappear` makes of
`lastProcessed`; its hypothesis `st.lastProcessed.id ≤ e.id` is discharged here.) -/
theorem C17_nosuch_is_final {st st' : St} {es : List Entry} {n : Nat} (hw : SessWf st)
    (hwf : WfHistory st es) (hinc : IdsIncreasing n es)
    (hb : st.lastProcessed.id ≤ n ∧ ∀ id s, AMap.get st.sessions id = some s → id.id ≤ n)
    (hr : runEntries st es = .ok st') (id : Id) (hno : getSession st' id = .error .noSuchSession)
    (e : Entry) (hlater : lastId n es < e.id) (hcreate : e.type = 0) : (⟨e.id, 0⟩ : Id) ≠ ⟨id.id, 0⟩ := by
  have hle := (C17_lastProcessed_bounded_partial hw hwf hinc hb hr).1
  exact C17_cannot_reappear st' id hno e (by omega) hcreate

/-! ### non-vacuity, and the counterexample to monotonicity -/

def exAlice : Session :=
  { id := ⟨1, 0⟩, nick := "alice", username := "al", loggedIn := true, channels := ["#c"], operator := true,
    ircPrefix := ⟨"alice", "al", "robust/0x1"⟩ }
def exBob : Session :=
  { id := ⟨2, 0⟩, nick := "Bob", username := "bo", loggedIn := true, channels := ["#c"], remoteAddr := "10.0.0.2",
    ircPrefix := ⟨"Bob", "bo", "robust/0x2"⟩ }
def exChanC : Channel := { name := "#c", nicks := [("alice", { chanop := true }), ("bob", {})], modes := ['n', 't'] }
/-- alice (IRC operator) and Bob on `#c`; entries up to id 9 have been applied -/
def exSt : St :=
  { sessions := [(⟨1, 0⟩, exAlice), (⟨2, 0⟩, exBob)]
    nicks := [("alice", ⟨1, 0⟩), ("bob", ⟨2, 0⟩)]
    channels := [("#c", exChanC)]
    lastProcessed := ⟨9, 0⟩ }
def mkE (type id : Nat) (session : Id) (data : String) : Entry :=
  { type := type, id := id, session := session, data := data, unixNano := 0, cmid := id, rev := 0,
    remoteAddr := "", cfg := none }

theorem exSt_inv : GPInv exSt := ginv_of_ginvB (by decide +kernel)

/-- the DeleteSession entry for Bob applies; afterwards Bob is not stored, "bob" is free, `#c` has only alice -/
theorem C17_example_delete :
    (applyEntry exSt (mkE 1 10 ⟨2, 0⟩ "expired")).isOk = true ∧
    (let st' := resSt (applyEntry exSt (mkE 1 10 ⟨2, 0⟩ "expired"))
     AMap.keys st'.sessions = [⟨1, 0⟩] ∧ AMap.keys st'.nicks = ["alice"] ∧
     st'.channels.map (fun c => (c.1, AMap.keys c.2.nicks)) = [("#c", ["alice"])] ∧
     st'.lastProcessed = ⟨10, 0⟩) := by
  decide +kernel

/-- `C17_delete_entry_ends_session` instantiated on the example (all hypotheses discharged) -/
example : AMap.get (resSt (applyEntry exSt (mkE 1 10 ⟨2, 0⟩ "expired"))).nicks "bob" = none :=
  (C17_delete_entry_ends_session (s := exBob) exSt_inv.ginv (entryOk_of_B (by decide +kernel)) rfl (by decide +kernel) rfl
    (eq_ok_of_isOk C17_example_delete.1)).2.1

/-- KILL by the operator alice: Bob is purged although the acting session is alice's -/
theorem C17_example_kill :
    (let st' := resSt (applyEntry exSt (mkE 2 10 ⟨1, 0⟩ "KILL bob :bye"))
     AMap.keys st'.sessions = [⟨1, 0⟩] ∧ AMap.keys st'.nicks = ["alice"] ∧
     st'.channels.map (fun c => (c.1, AMap.keys c.2.nicks)) = [("#c", ["alice"])]) := by decide +kernel

/-- **Counterexample: `lastProcessed` is not monotone**, although entry ids increase (10 < 11):
the DeleteSession entry 10 (of Bob) sets it to 10, the following client entry 11 of session 1
(alice's `PING`) sets it back to 1 — the numeric id of the *session*. -/
theorem C17_lastProcessed_not_monotone :
    let es := [mkE 1 10 ⟨2, 0⟩ "expired", mkE 2 11 ⟨1, 0⟩ "PING x"]
    (resSt (applyEntry exSt (mkE 1 10 ⟨2, 0⟩ "expired"))).lastProcessed = ⟨10, 0⟩ ∧
    (runEntries exSt es).isOk = true ∧ (runSt (runEntries exSt es)).lastProcessed = ⟨1, 0⟩ ∧
    IdsIncreasing 9 es ∧ WfHistory exSt es := by
  intro es
  -- one evaluation, in which the kernel runs each entry once
  have h : ((resSt (applyEntry exSt (mkE 1 10 ⟨2, 0⟩ "expired"))).lastProcessed = ⟨10, 0⟩ ∧
      (runEntries exSt es).isOk = true ∧ (runSt (runEntries exSt es)).lastProcessed = ⟨1, 0⟩) ∧
      histB none exSt es = true := by decide +kernel
  exact ⟨h.1.1, h.1.2.1, h.1.2.2, idsIncreasing_of_B (by decide), wf_of_histB h.2⟩

/-- … while the bound of `C17_lastProcessed_bounded_partial` holds on the same history -/
example : (runSt (runEntries exSt [mkE 1 10 ⟨2, 0⟩ "expired", mkE 2 11 ⟨1, 0⟩ "PING x"])).lastProcessed.id ≤ 11 :=
  (C17_lastProcessed_bounded_partial (n := 9) exSt_inv.sessWf C17_lastProcessed_not_monotone.2.2.2.2
    C17_lastProcessed_not_monotone.2.2.2.1
    ⟨by decide, by
      intro id s hg
      have hm := AMap.mem_of_get hg
      have : ∀ p ∈ exSt.sessions, p.1.id ≤ 9 := by decide
      exact this _ hm⟩
    (run_eq_of_isOk C17_lastProcessed_not_monotone.2.1)).1

/-! ## non-vacuity (audit): every theorem above with hypotheses, instantiated on *reached* states

`Ex.stR` is the result of running the model from the initial state on `Ex.es0`: a Config entry naming an
operator; alice (2), Bob (5) and carol (11) register; alice and Bob join `#c`; alice becomes IRC operator and
GLINEs carol (who is thereby killed, her address 10.0.0.3 banned).  `Ex.stD` is `stR` after the DeleteSession
entry 15 of Bob.  Invariants come from `run_preserves_gp`. -/
namespace Ex
def mk (type id : Nat) (session : Id) (data : String) (addr : String := "") : Entry :=
  { type := type, id := id, session := session, data := data, unixNano := 0, cmid := id, rev := 0,
    remoteAddr := addr, cfg := none }
def es0 : List Entry := [
  { mk 6 1 ⟨0, 0⟩ "…toml…" with rev := 1, cfg := some { operators := [("root", "pw")] } },
  mk 0 2 ⟨0, 0⟩ "authA", mk 2 3 ⟨2, 0⟩ "NICK alice", mk 2 4 ⟨2, 0⟩ "USER al 0 * :Alice",
  mk 0 5 ⟨0, 0⟩ "authB", mk 2 6 ⟨5, 0⟩ "NICK Bob" "10.0.0.2", mk 2 7 ⟨5, 0⟩ "USER bo 0 * :Bob" "10.0.0.2",
  mk 2 8 ⟨2, 0⟩ "JOIN #c", mk 2 9 ⟨5, 0⟩ "JOIN #c" "10.0.0.2", mk 2 10 ⟨2, 0⟩ "OPER root pw",
  mk 0 11 ⟨0, 0⟩ "authC", mk 2 12 ⟨11, 0⟩ "NICK carol" "10.0.0.3", mk 2 13 ⟨11, 0⟩ "USER c 0 * :Carol" "10.0.0.3",
  mk 2 14 ⟨2, 0⟩ "GLINE carol :spam"]
def aliceR : Session := { id := ⟨2, 0⟩, auth := "authA", loggedIn := true, nick := "alice", username := "al", realname := "Alice", channels := ["#c"], lastActivity := 14, lastNonPing := 14, operator := true, created := 2, modes := ['o'], svid := "0", lastClientMessageId := 14, ircPrefix := ⟨"alice", "al", "robust/0x2"⟩ }
def bobR : Session := { id := ⟨5, 0⟩, auth := "authB", loggedIn := true, nick := "Bob", username := "bo", realname := "Bob", channels := ["#c"], lastActivity := 9, lastNonPing := 9, created := 5, svid := "0", lastClientMessageId := 9, ircPrefix := ⟨"Bob", "bo", "robust/0x5"⟩, remoteAddr := "10.0.0.2" }
/-- the state reached from the initial state by `es0` (`run0`) -/
def stR : St :=
  { sessions := [(⟨2, 0⟩, aliceR), (⟨5, 0⟩, bobR)]
    nicks := [("alice", ⟨2, 0⟩), ("bob", ⟨5, 0⟩)]
    channels := [("#c", { name := "#c", nicks := [("alice", { chanop := true }), ("bob", {})], modes := ['n', 't'] })]
    lastProcessed := ⟨2, 0⟩
    config := { revision := 1, operators := [("root", "pw")], banned := [("10.0.0.3", "spam")] } }
/-- `es0` is the history of the examples of C16 (run there: `C16.Ex.run0`, which ends in `C16.Ex.stR`) followed by
carol's registration and her GLINE: only these four entries are evaluated here. -/
theorem es0_eq : es0 = C16.Ex.es0 ++ es0.drop 10 := rfl
theorem tailB : (runEntries C16.Ex.stR (es0.drop 10)).isOk = true ∧ runSt (runEntries C16.Ex.stR (es0.drop 10)) = stR ∧
    histB none C16.Ex.stR (es0.drop 10) = true := by decide +kernel
theorem run0 : runEntries {} es0 = .ok stR := by
  rw [es0_eq, ← tailB.2.1]; exact runEntries_append C16.Ex.run0 (run_eq_of_isOk tailB.1)
theorem wf0 : WfHistory {} es0 := es0_eq ▸ C16.Ex.wf0.append C16.Ex.run0 (wf_of_histB tailB.2.2)
theorem inc0 : IdsIncreasing 0 es0 := idsIncreasing_of_B (by decide)
/-- `stR` is reachable, hence satisfies the full invariant -/
theorem invR : GPInv stR := run_preserves_gp GPInv_init wf0 run0
theorem wfR : SessWf stR := invR.sessWf
theorem aliceR_stored : AMap.get stR.sessions ⟨2, 0⟩ = some aliceR := by decide +kernel
theorem bobR_stored : AMap.get stR.sessions ⟨5, 0⟩ = some bobR := by decide +kernel

/-- the DeleteSession entry for Bob (what the expiry sweep proposes) and the state after it -/
def eDel : Entry := mk 1 15 ⟨5, 0⟩ "expired"
def stD : St := resSt (applyEntry stR eDel)
def errOf (r : Except SessErr Session) : Option SessErr :=
  match r with
  | .ok _ => none
  | .error e => some e
theorem eDelB : (applyEntry stR eDel).isOk = true ∧ histB none stR [eDel] = true ∧
    (AMap.keys stD.sessions = [⟨2, 0⟩] ∧ stD.lastProcessed = ⟨15, 0⟩) ∧
    (AMap.keys stD.nicks = ["alice"] ∧ stD.channels.map (fun c => (c.1, AMap.keys c.2.nicks)) = [("#c", ["alice"])]) ∧
    errOf (getSession stD ⟨5, 0⟩) = some .noSuchSession ∧
    AMap.get stD.sessions ⟨5, 0⟩ = none ∧ AMap.get stD.sessions ⟨16, 0⟩ = none := by decide +kernel
theorem eDel_ok : (applyEntry stR eDel).isOk = true := eDelB.1
theorem eDel_run : applyEntry stR eDel = .ok (stD, resOut (applyEntry stR eDel)) := eq_ok_of_isOk eDel_ok
theorem invD : GPInv stD := applyEntry_preserves_gp stR stD eDel _ invR (entryOk_of_B (by decide)) eDel_run
example : AMap.keys stD.sessions = [⟨2, 0⟩] ∧ stD.lastProcessed = ⟨15, 0⟩ := eDelB.2.2.1
theorem lpD : stD.lastProcessed = ⟨15, 0⟩ := eDelB.2.2.1.2

theorem error_of_errOf {r : Except SessErr Session} {e : SessErr} (h : errOf r = some e) : r = .error e := by
  cases r with
  | ok s => cases h
  | error e' => simp only [errOf, Option.some.injEq] at h; rw [h]

/-- on `stD`, Bob's id 5 is answered "no such session" (hypothesis of `C17_nosuch_sound`) -/
theorem bob_nosuch : getSession stD ⟨5, 0⟩ = .error .noSuchSession := error_of_errOf eDelB.2.2.2.2.1
example : AMap.get stD.sessions ⟨5, 0⟩ = none ∧ (⟨5, 0⟩ : Id).id < stD.lastProcessed.id := C17_nosuch_sound stD ⟨5, 0⟩ bob_nosuch
/-- `C17_future_notyet` on `stD`: id 16 is above `lastProcessed = 15` and not stored -/
example : getSession stD ⟨16, 0⟩ = .error .notYetSeen :=
  C17_future_notyet stD ⟨16, 0⟩ (by rw [lpD]; decide) eDelB.2.2.2.2.2.2
/-- … the hypotheses also hold on `stR` for carol's id 11 — a session that *was* stored and has been killed:
`lastProcessed` is 2 there (alice's client entry came last), so the killed session is reported "not yet seen" -/
example : getSession stR ⟨11, 0⟩ = .error .notYetSeen := C17_future_notyet stR ⟨11, 0⟩ (by decide) (by decide)
example : getSession stR ⟨5, 0⟩ = .ok bobR := C17_live_found stR ⟨5, 0⟩ bobR bobR_stored
/-- `C17_cannot_reappear` on `stD` for Bob's id and a CreateSession entry with the next raft index -/
example : (⟨(mk 0 16 ⟨0, 0⟩ "authD").id, 0⟩ : Id) ≠ ⟨5, 0⟩ :=
  C17_cannot_reappear stD ⟨5, 0⟩ bob_nosuch (mk 0 16 ⟨0, 0⟩ "authD") (by rw [lpD]; decide) rfl
/-- `C17_expire_exact` on `stR` (expiration 600 s): at `now = 600 s + 12 ns` Bob (last activity 9) is due, alice
(last activity 14) is not -/
example : expireSessions stR 600000000012 = [⟨5, 0⟩] := by decide +kernel
example : (⟨5, 0⟩ : Id) ∈ expireSessions stR 600000000012 :=
  (C17_expire_exact stR 600000000012 ⟨5, 0⟩).2 ⟨bobR, by decide +kernel, rfl, by decide +kernel⟩
/-- `C17_pseudo_clients_never_expire`: `stR` plus a services pseudo-client `⟨7, 77⟩` whose last activity is the
zero time (not a reached state: pseudo-client ids are `fnv64` hashes, which do not reduce in the kernel) -/
def stP : St := { stR with sessions := stR.sessions ++ [(⟨7, 77⟩, { id := ⟨7, 77⟩, nick := "ChanServ" })] }
example : (⟨7, 77⟩ : Id) ∉ expireSessions stP 1000000000000000 :=
  C17_pseudo_clients_never_expire stP 1000000000000000 ⟨7, 77⟩ (by decide)
example : expireSessions stP 1000000000000000 = [⟨2, 0⟩, ⟨5, 0⟩] := by decide +kernel

/-- `C17_delete_entry_ends_session` on the reached state -/
example : AMap.get stD.sessions ⟨5, 0⟩ = none ∧ AMap.get stD.nicks (nickToLower "Bob") = none ∧
    ∀ lc ch, AMap.get stD.channels lc = some ch → nickToLower "Bob" ∉ AMap.keys ch.nicks :=
  C17_delete_entry_ends_session (e := eDel) (s := bobR) invR.ginv (entryOk_of_B (by decide)) rfl bobR_stored rfl eDel_run
example : AMap.keys stD.nicks = ["alice"] ∧ stD.channels.map (fun c => (c.1, AMap.keys c.2.nicks)) = [("#c", ["alice"])] :=
  eDelB.2.2.2.1

/-- `C17_quit_entry_ends_session`: Bob types QUIT -/
def eQuit : Entry := mk 2 15 ⟨5, 0⟩ "QUIT :bye" "10.0.0.2"
theorem eQuit_ok : (applyEntry stR eQuit).isOk = true := by decide +kernel
example : AMap.get (resSt (applyEntry stR eQuit)).sessions ⟨5, 0⟩ = none ∧
    AMap.get (resSt (applyEntry stR eQuit)).nicks (nickToLower "Bob") = none ∧
    ∀ lc ch, AMap.get (resSt (applyEntry stR eQuit)).channels lc = some ch → nickToLower "Bob" ∉ AMap.keys ch.nicks :=
  C17_quit_entry_ends_session (e := eQuit) (s := bobR) (m := ⟨none, "QUIT", ["bye"]⟩) invR.ginv (entryOk_of_B (by decide)) rfl
    bobR_stored rfl (by decide +kernel) (by decide +kernel) (eq_ok_of_isOk eQuit_ok)

/-- `C17_kill_entry_ends_session`: alice (IRC operator, registered, address not banned) kills Bob -/
def eKill : Entry := mk 2 15 ⟨2, 0⟩ "KILL bob :bye"
theorem eKillB : (applyEntry stR eKill).isOk = true ∧ AMap.keys (resSt (applyEntry stR eKill)).sessions = [⟨2, 0⟩] := by
  decide +kernel
theorem eKill_ok : (applyEntry stR eKill).isOk = true := eKillB.1
example : AMap.get (resSt (applyEntry stR eKill)).sessions ⟨5, 0⟩ = none ∧
    AMap.get (resSt (applyEntry stR eKill)).nicks (nickToLower "bob") = none ∧
    ∀ lc ch, AMap.get (resSt (applyEntry stR eKill)).channels lc = some ch → nickToLower "bob" ∉ AMap.keys ch.nicks :=
  C17_kill_entry_ends_session (e := eKill) (s := aliceR) (m := ⟨none, "KILL", ["bob", "bye"]⟩) (p0 := "bob") (tid := ⟨5, 0⟩)
    invR.ginv (entryOk_of_B (by decide +kernel)) rfl aliceR_stored rfl rfl rfl (by decide +kernel) (by decide +kernel) (by decide +kernel)
    (by decide +kernel) rfl (by decide +kernel) (eq_ok_of_isOk eKill_ok)
example : AMap.keys (resSt (applyEntry stR eKill)).sessions = [⟨2, 0⟩] := eKillB.2

/-- `C17_banned_entry_ends_session`: a line of Bob arrives from the address 10.0.0.3, which alice's GLINE in
`es0` has banned -/
def eBan : Entry := mk 2 15 ⟨5, 0⟩ "PRIVMSG #c :hi" "10.0.0.3"
theorem eBanB : (applyEntry stR eBan).isOk = true ∧ AMap.keys (resSt (applyEntry stR eBan)).sessions = [⟨2, 0⟩] ∧
    (resSt (applyEntry stR eBan)).channels.map (fun c => (c.1, AMap.keys c.2.nicks)) = [("#c", ["alice"])] := by decide +kernel
theorem eBan_ok : (applyEntry stR eBan).isOk = true := eBanB.1
example : AMap.get (resSt (applyEntry stR eBan)).sessions ⟨5, 0⟩ = none ∧
    AMap.get (resSt (applyEntry stR eBan)).nicks (nickToLower "Bob") = none ∧
    ∀ lc ch, AMap.get (resSt (applyEntry stR eBan)).channels lc = some ch → nickToLower "Bob" ∉ AMap.keys ch.nicks :=
  C17_banned_entry_ends_session (e := eBan) (s := bobR) (m := ⟨none, "PRIVMSG", ["#c", "hi"]⟩) (reason := "spam") invR.ginv
    (entryOk_of_B (by decide +kernel)) rfl bobR_stored (by decide +kernel) (by decide +kernel) (by decide +kernel) (by decide +kernel) (eq_ok_of_isOk eBan_ok)
example : AMap.keys (resSt (applyEntry stR eBan)).sessions = [⟨2, 0⟩] ∧
    (resSt (applyEntry stR eBan)).channels.map (fun c => (c.1, AMap.keys c.2.nicks)) = [("#c", ["alice"])] := eBanB.2

/-- `C17_gone_not_addressed` on `stD` (invariant by preservation) for Bob's id -/
example : ∀ x, AMap.get stD.nicks x ≠ some ⟨5, 0⟩ := C17_gone_not_addressed invD.ginv eDelB.2.2.2.2.2.1

/-- `C17_lastProcessed_after` for a DeleteSession entry, a client entry (of session 2) and a CreateSession entry -/
example : stD.lastProcessed = ⟨15, 0⟩ := by
  have h := C17_lastProcessed_after eDel_run
  rw [if_pos (by decide)] at h; exact h
example : (resSt (applyEntry stR eKill)).lastProcessed = ⟨2, 0⟩ := by
  have h := C17_lastProcessed_after (eq_ok_of_isOk eKill_ok)
  rw [if_neg (by decide), if_pos (by decide)] at h; exact h
def eNew : Entry := mk 0 15 ⟨0, 0⟩ "authD"
theorem eNew_ok : (applyEntry stR eNew).isOk = true := by decide +kernel
example : (resSt (applyEntry stR eNew)).lastProcessed = stR.lastProcessed := by
  have h := C17_lastProcessed_after (eq_ok_of_isOk eNew_ok)
  rw [if_neg (by decide), if_neg (by decide)] at h; exact h

/-- `C17_lastProcessed_bounded_partial` along the whole history `es0` from the initial state (`n = 0`) -/
example : stR.lastProcessed.id ≤ 14 ∧ ∀ id s, AMap.get stR.sessions id = some s → id.id ≤ 14 :=
  C17_lastProcessed_bounded_partial (n := 0) SessWf_init wf0 inc0 ⟨by decide, fun _ _ h => by cases h⟩ run0
/-- the bound `LPBound stR 14` just obtained, as used by the next two examples -/
theorem boundR : stR.lastProcessed.id ≤ 14 ∧ ∀ id s, AMap.get stR.sessions id = some s → id.id ≤ 14 :=
  C17_lastProcessed_bounded_partial (n := 0) SessWf_init wf0 inc0 ⟨by decide, fun _ _ h => by cases h⟩ run0
/-- `C17_lastProcessed_bounded_step` for entry 15 on the reached state -/
example : stD.lastProcessed.id ≤ 15 ∧ ∀ id s, AMap.get stD.sessions id = some s → id.id ≤ 15 :=
  C17_lastProcessed_bounded_step (e := eDel) (n := 14) wfR (entryOk_of_B (by decide)) boundR (by decide) eDel_run

/-- `C17_nosuch_is_final`: the history `[eDel]` from the reached state (`n = 14`): afterwards Bob's id is answered
"no such session", and no later CreateSession entry (id 16 > 15) can create it again -/
example : (⟨(mk 0 16 ⟨0, 0⟩ "authD").id, 0⟩ : Id) ≠ ⟨5, 0⟩ :=
  C17_nosuch_is_final (st := stR) (st' := stD) (es := [eDel]) (n := 14) wfR (wf_of_histB eDelB.2.1)
    (idsIncreasing_of_B (by decide)) boundR (by unfold runEntries; rw [eDel_run]; rfl) ⟨5, 0⟩ bob_nosuch
    (mk 0 16 ⟨0, 0⟩ "authD") (by decide) rfl
end Ex

end Robust.Props.C17
