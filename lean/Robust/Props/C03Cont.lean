import Robust.Props.C01Congr
import Robust.Props.C03
/-!
# C03 — save + load is invisible for every continuation

`Props/C03.lean` shows that `saveLoad st` is `st` with the nick index and `serverSessions` rebuilt
from the sessions (`C03_state_strong`): the same finite maps, in their own order.  With the
congruence theorem of `Props/C01Congr.lean` this gives the "every continuation" half of C03:

* `C03_equiv`: `st ≈ saveLoad st`;
* `C03_continuation`: for every list of entries, running it from `saveLoad st` and from `st` gives
  the same kind of result, equivalent final states, and entry by entry the same outputs (ids,
  bytes, order) up to the order of the recipients.

Hypotheses: `GInv st`, `Canon st` (as in `C03.lean`; it contains the duplicate-freeness of the
holds) and `ServersExact st`: the list `serverSessions` holds exactly the stored sessions flagged
`server`, once each.  The last one is needed for `≈` and is *not* an invariant of the model (nor of
the Go code): `serverSessions` is only ever appended to (`SERVER`), never pruned when the link's
session is deleted, while `Unmarshal` rebuilds it from the stored sessions.  After a services
link has gone, the original node keeps its stale id in every "to all services" recipient set and
a restored node does not — a difference in `InterestingFor` that names no live session.
Without stale or repeated entries the two nodes are equivalent.
-/
namespace Robust.Props.C03Cont
open Robust Robust.Irc Robust.Props.C01Congr

/-- `serverSessions` is, up to order, what `Unmarshal` rebuilds: the ids of the stored sessions
flagged `server` -/
def ServersExact (st : St) : Prop := st.serverSessions.Perm (rebuiltServers st.sessions)

/-- no services link has ever registered: the condition holds trivially -/
theorem ServersExact_of_none (st : St) (h1 : st.serverSessions = [])
    (h2 : ∀ e ∈ st.sessions, e.2.server = false) : ServersExact st := by
  unfold ServersExact rebuiltServers
  rw [h1]
  have : st.sessions.filter (·.2.server) = [] := by
    rw [List.filter_eq_nil_iff]
    intro e he; rw [h2 e he]; simp
  rw [this]; exact List.Perm.refl _

/-- the restored state is the original one up to the order of the nick index and of `serverSessions` -/
theorem C03_equiv (st : St) (hI : Inv st) (hC : Canon st) (hV : ServersExact st) : st ≈ saveLoad st := by
  obtain ⟨he, hnd, hget, _⟩ := Robust.Props.C03.C03_state_strong st hI hC
  rw [he]
  have hn : MEq (fun (a b : Id) => a = b) st.nicks (rebuiltNicks st.sessions) :=
    ⟨hI.nickNodup, hnd, fun k => ORel.of_eq (hget k).symm⟩
  exact ⟨PermR.refl (EntryRel.refl SessEq.refl) _, hn.perm, PermR.refl (EntryRel.refl Channel.Equiv.refl) _,
    List.Perm.refl _, hV, rfl, rfl, rfl⟩

/-- one entry after the cut -/
theorem C03_continuation_entry (st : St) (e : Entry) (hG : GInv st) (hC : Canon st) (hV : ServersExact st) :
    RRel EntryResEquiv (applyEntry st e) (applyEntry (saveLoad st) e) :=
  C01_replicas_agree st (saveLoad st) e hG hC.holdNodup (C03_equiv st hG.inv hC hV)

/-- **every continuation**: running any list of entries from the restored state and from the
original state gives the same kind of result, equivalent final states and, entry by entry, the
same outputs up to recipient order -/
theorem C03_continuation (st : St) (es : List Entry) (hG : GInv st) (hC : Canon st) (hV : ServersExact st)
    (hw : OkHistory st es) : RRel RunResEquiv (runOut st es) (runOut (saveLoad st) es) :=
  C01_history st (saveLoad st) es hG hC.holdNodup (C03_equiv st hG.inv hC hV) hw

/-- in particular the final states -/
theorem C03_continuation_states (st st1 : St) (es : List Entry) (hG : GInv st) (hC : Canon st)
    (hV : ServersExact st) (hw : OkHistory st es) (hr : runEntries st es = .ok st1) :
    ∃ st1', runEntries (saveLoad st) es = .ok st1' ∧ st1 ≈ st1' :=
  C01_history_states st (saveLoad st) st1 es hG hC.holdNodup (C03_equiv st hG.inv hC hV) hw hr

/-- the restored state satisfies the hypotheses of the congruence theorem again -/
theorem C03_restored_ginv (st : St) (hG : GInv st) (hC : Canon st) (hV : ServersExact st) :
    GInv (saveLoad st) ∧ HoldsNodup (saveLoad st) :=
  ⟨C01_ginv_transfer hG hC.holdNodup (C03_equiv st hG.inv hC hV),
   (C01_inv_transfer hG.inv hC.holdNodup (C03_equiv st hG.inv hC hV)).2⟩

/-- non-vacuity: the example state of `C03.lean` (a nickless session, "Alice" on `#C`, a services
link, a hold); its restored form differs from it (`saveLoad exSt ≠ exSt` there) but is equivalent -/
example : Robust.Props.C03.exSt ≈ saveLoad Robust.Props.C03.exSt :=
  C03_equiv _ Robust.Props.C03.exSt_inv Robust.Props.C03.exSt_canon (by
    unfold ServersExact
    decide)

end Robust.Props.C03Cont
