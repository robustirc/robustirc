import Robust.Props.C14
import Robust.Irc.Proofs.RcptCheck
/-!
# C14 — the example state of `C14_services_refused_at_channel_limit` satisfies the proved invariant

Kept apart from `C14.lean` because the checker `ginvB` (with its soundness proof `ginv_of_ginvB`) lives in the C12
development (`RcptCheck.lean`).
-/
namespace Robust.Props.C14
open Robust Robust.Irc

theorem C14_cex_state_consistent : GInv cexSt := (ginv_of_ginvB (st := cexSt) (by decide +kernel)).ginv

/-- **services SVSJOIN / JOIN are refused at the channel limit in a state satisfying the invariant**: `GInv cexSt`,
the number of channels is at the limit (`MaxChannels = 1`, one channel), and both `SVSJOIN alice #new` and
`:ChanServ JOIN #new` of the services link are answered with `403` to the services link only, create nothing, and
leave the limit respected -/
theorem C14_services_refused_at_channel_limit_consistent :
    GInv cexSt ∧ ChannelsWithinLimit cexSt ∧ cexSt.channels.length = cexSt.config.maxChannels ∧
    (match cmdServerSvsjoin ⟨cexSt, 1, 0, []⟩ ⟨9, 0⟩ cexSvsjoin with
     | .ok c' => decide (c'.st.channels.length = 1 ∧ c'.st.config.maxChannels = 1 ∧
         c'.out = [⟨1, 1, utf8 ":robustirc.net 403 services.example #new :No such channel", [9]⟩])
     | _ => false) = true ∧
    (match cmdServerJoin ⟨cexSt, 1, 0, []⟩ ⟨9, 0⟩ cexJoin with
     | .ok c' => decide (c'.st.channels.length = 1 ∧ c'.st.config.maxChannels = 1 ∧
         c'.out = [⟨1, 1, utf8 ":robustirc.net 403 ChanServ #new :No such channel", [9]⟩])
     | _ => false) = true ∧
    (match cmdServerSvsjoin ⟨cexSt, 1, 0, []⟩ ⟨9, 0⟩ cexSvsjoin with
     | .ok c' => ChannelsWithinLimit c'.st
     | _ => False) ∧
    (match cmdServerJoin ⟨cexSt, 1, 0, []⟩ ⟨9, 0⟩ cexJoin with
     | .ok c' => ChannelsWithinLimit c'.st
     | _ => False) :=
  ⟨C14_cex_state_consistent, C14_services_refused_at_channel_limit.2.1, rfl,
    C14_services_refused_at_channel_limit.2.2⟩

end Robust.Props.C14
