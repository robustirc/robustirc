import Robust.Api.Model
import Robust.Irc.Proofs.FrmCheck
import Robust.Gen.Exprs
/-!
# C16 — only valid current-revision config updates take effect, the same on all nodes

Part 1 (decision level): the POST /config handler and the Config case of the state machine.

Part 2 (frame): the replicated configuration changes **only** through Config entries and GLINE.
Every handler of the command table other than `cmdGline` leaves `St.config` alone
(`C16_handlers_keep_config`); `cmdGline` changes nothing but `banned`, by one entry, and only for
an IRC operator (`C16_gline_only_bans`); per entry (`C16_entry_config_cases`,
`C16_entry_keeps_config`) and for the Config entry itself (`C16_config_entry_frame`: the new
configuration is the posted one with the entry's revision, and nothing else of the state changes).
Helpers: `Robust/Irc/Proofs/Frm*.lean`.
-/
namespace Robust.Props.C16
open Robust Robust.Irc Robust.Api

/-- accepted ⇔ the body parses and names the revision currently in force -/
theorem C16_accept_iff (st : St) (rev : Option Nat) (body : String) (cfg : Option Config) :
    (handlePostConfig st rev body cfg).status = 200 ↔ (∃ c, cfg = some c) ∧ rev = some st.config.revision := by
  unfold handlePostConfig
  cases rev with
  | none => simp
  | some r =>
    cases cfg with
    | none => simp
    | some c =>
      by_cases h : r = st.config.revision <;> simp [h]

/-- a rejected or unparsable update proposes nothing -/
theorem C16_reject_nop (st : St) (rev : Option Nat) (body : String) (cfg : Option Config)
    (h : (handlePostConfig st rev body cfg).status ≠ 200) : (handlePostConfig st rev body cfg).proposal = none := by
  unfold handlePostConfig at h ⊢
  cases rev with
  | none => rfl
  | some r =>
    cases cfg with
    | none => rfl
    | some c => by_cases hr : r = st.config.revision <;> simp_all

/-- an accepted update raises the revision by exactly one on every node that applies the entry,
and installs exactly the posted configuration -/
theorem C16_plus_one (st : St) (body : String) (c : Config) (e : Entry)
    (h : handlePostConfig st (some st.config.revision) body (some c) = ⟨200, some e⟩) (st2 : St) :
    ∃ st2', applyEntry st2 e = .ok (st2', []) ∧ st2'.config.revision = st.config.revision + 1 ∧
      st2'.config = { c with revision := st.config.revision + 1 } ∧ st2'.sessions = st2.sessions ∧ st2'.channels = st2.channels := by
  unfold handlePostConfig at h
  simp at h
  subst h
  exact ⟨{ st2 with config := { c with revision := st.config.revision + 1 } }, by unfold applyEntry; simp, rfl, rfl, rfl, rfl⟩

/-- a Config entry whose text does not parse (cannot happen through the handler, which parses
first) is skipped by the state machine without any effect -/
theorem C16_unparsable_skipped (st : St) (e : Entry) (h : e.type = 6) (hc : e.cfg = none) : applyEntry st e = .ok (st, []) := by
  unfold applyEntry; simp [h, hc]

/-- replicas are functions of the log: two nodes applying the same config entry to states with
equal configuration end with equal configuration -/
theorem C16_replicas_equal (a b : St) (e : Entry) (h : e.type = 6) (hab : a.config = b.config) :
    ∃ a' b', applyEntry a e = .ok (a', []) ∧ applyEntry b e = .ok (b', []) ∧ a'.config = b'.config := by
  unfold applyEntry
  cases hc : e.cfg with
  | none => exact ⟨a, b, by simp [h], by simp [h], hab⟩
  | some c => exact ⟨{ a with config := { c with revision := e.rev } }, { b with config := { c with revision := e.rev } }, by simp [h], by simp [h], rfl⟩

/-- bans added by GLINE become part of the replicated configuration (they are in the state that
every replica computes and that snapshots serialize) -/
theorem C16_gline_sets_ban (c : Ctx) (sid tid : Id) (m : IrcMsg) (s t : Session) (p0 : String) (c' : Ctx)
    (hs : getS c sid = .ok s) (hop : s.operator = true) (hp : param m 0 = .ok p0)
    (ht : AMap.get c.st.nicks (nickToLower p0) = some tid) (hts : getS c tid = .ok t) (haddr : t.remoteAddr ≠ "")
    (hk : cmdKill { c with st := { c.st with config := { c.st.config with banned := AMap.set c.st.config.banned t.remoteAddr m.trailing } } } sid m = .ok c') :
    cmdGline c sid m = .ok c' := by
  unfold cmdGline
  simp [hs, hop, hp, ht, hts, haddr, hk, bind, Res.bind, pure]

/-- regenerated from applyConfig: the revision test, and the proposed entry's fields -/
theorem C16_wiring :
    Gen.Exprs.fact "config.revtest" = "param1 != recv.configRevision()" ∧
    Gen.Exprs.fact "config.msg.Revision" = "param1 + 1" ∧
    Gen.Exprs.fact "config.msg.Data" = "param2" ∧
    Gen.Exprs.fact "config.msg.Type" = "robust.Config" := by decide +kernel

/-! ## Part 2 — only Config entries and GLINE write the configuration -/

/-- **Frame, handlers.** Every handler of the command table other than `cmdGline` — client and
services handlers alike — returns with the configuration it was called with.
(`SessWf` and `reply = 0` are the hypotheses of the common frame walk of `Frm*.lean`, which
carries markers, stored ids, `lastProcessed` and the configuration together.) -/
theorem C16_handlers_keep_config {fname : String} {h : Handler} (hh : handlerByName fname = some h)
    (hg : fname ≠ "cmdGline") {c c' : Ctx} {sid : Id} {m : IrcMsg} (h0 : sid.reply = 0) (hw : SessWf c.st)
    (hr : h c sid m = .ok c') : c'.st.config = c.st.config :=
  (handler_fpres hh hg c.st c sid m c' h0 (Frm.refl hw) hr).config

/-- **GLINE.** `cmdGline` either leaves the configuration alone (not an operator, unknown nick, no
address known) or — the actor is an IRC operator — sets exactly one entry of `banned`: the address of
the session indexed under the first parameter ↦ the reason. -/
theorem C16_gline_only_bans {c c' : Ctx} {sid : Id} {m : IrcMsg} (hw : SessWf c.st)
    (hr : cmdGline c sid m = .ok c') :
    c'.st.config = c.st.config ∨
    ∃ s p0 tid t, AMap.get c.st.sessions sid = some s ∧ s.operator = true ∧ param m 0 = .ok p0 ∧
      AMap.get c.st.nicks (nickToLower p0) = some tid ∧ AMap.get c.st.sessions tid = some t ∧
      t.remoteAddr ≠ "" ∧
      c'.st.config = { c.st.config with banned := AMap.set c.st.config.banned t.remoteAddr m.trailing } :=
  ((cmdGline_spec hw).apply hr).2

/-- … in particular everything but `banned` (revision, operators, services passwords, limits,
expiration, captcha, trusted bridges, allowed origins) is untouched by GLINE, and a non-operator
cannot change anything -/
theorem C16_gline_rest_kept {c c' : Ctx} {sid : Id} {m : IrcMsg} (hw : SessWf c.st)
    (hr : cmdGline c sid m = .ok c') :
    { c'.st.config with banned := [] } = { c.st.config with banned := [] } ∧
    (∀ s, AMap.get c.st.sessions sid = some s → s.operator = false → c'.st.config = c.st.config) := by
  rcases C16_gline_only_bans hw hr with h | ⟨s, _, _, _, hs, hop, _, _, _, _, h⟩
  · exact ⟨by rw [h], fun _ _ _ => h⟩
  · refine ⟨by rw [h], fun s' hs' hno => ?_⟩
    rw [hs] at hs'; cases hs'
    rw [hop] at hno; cases hno

/-- **Entries.** An entry other than a Config entry leaves the configuration alone, or it is a client
entry whose line is a `GLINE` of a session that is an IRC operator, and one ban was added. -/
theorem C16_entry_config_cases {st st' : St} {e : Entry} {out : List Out} (hw : SessWf st) (he : EntryOk st e)
    (h6 : e.type ≠ 6) (hr : applyEntry st e = .ok (st', out)) :
    st'.config = st.config ∨
    ∃ m s addr reason, e.type = 2 ∧ parseMessage e.data = some m ∧ toUpper m.command = "GLINE" ∧
      AMap.get st.sessions e.session = some s ∧ s.operator = true ∧
      st'.config = { st.config with banned := AMap.set st.config.banned addr reason } :=
  applyEntry_config_cases hw he.1 h6 hr

/-- For entry types other than 6 and other than a type-2 GLINE by an operator: `st'.config = st.config`. -/
theorem C16_entry_keeps_config {st st' : St} {e : Entry} {out : List Out} (hw : SessWf st) (he : EntryOk st e)
    (h6 : e.type ≠ 6)
    (hng : ¬(e.type = 2 ∧ ∃ m s, parseMessage e.data = some m ∧ toUpper m.command = "GLINE" ∧
      AMap.get st.sessions e.session = some s ∧ s.operator = true))
    (hr : applyEntry st e = .ok (st', out)) : st'.config = st.config := by
  rcases C16_entry_config_cases hw he h6 hr with h | ⟨m, s, _, _, h2, hm, hc, hs, hop, _⟩
  · exact h
  · exact absurd ⟨h2, m, s, hm, hc, hs, hop⟩ hng

/-- **Config entry (type 6)** with a configuration that parses: the new configuration is the posted
one with the entry's revision, nothing else of the state changes (sessions, nick index, channels,
SVSHOLDs, services links, `lastProcessed`, server name), and nothing is sent. -/
theorem C16_config_entry_frame {st st' : St} {e : Entry} {out : List Out} {cfg : Config} (ht : e.type = 6)
    (hc : e.cfg = some cfg) (hr : applyEntry st e = .ok (st', out)) :
    st' = { st with config := { cfg with revision := e.rev } } ∧ out = [] ∧
    st'.sessions = st.sessions ∧ st'.nicks = st.nicks ∧ st'.channels = st.channels ∧
    st'.svsholds = st.svsholds ∧ st'.lastProcessed = st.lastProcessed := by
  obtain ⟨h1, h2⟩ := applyEntry_config ht hr
  rw [hc] at h1
  subst h1
  exact ⟨rfl, h2, rfl, rfl, rfl, rfl, rfl⟩

/-- Along a history without Config entries and without GLINEs the configuration never changes. -/
theorem C16_history_keeps_config {st st' : St} {es : List Entry} (hw : SessWf st) (hwf : WfHistory st es)
    (hq : ∀ e ∈ es, e.type ≠ 6 ∧ ∀ m, parseMessage e.data = some m → toUpper m.command ≠ "GLINE")
    (hr : runEntries st es = .ok st') : st'.config = st.config :=
  Eq.symm <| run_rel (R := fun a b => a.config = b.config) (I := SessWf)
    (A := fun st e => (EntryOk st e ∧ Conforming st e) ∧
      e.type ≠ 6 ∧ ∀ m, parseMessage e.data = some m → toUpper m.command ≠ "GLINE")
    (fun _ => rfl) Eq.trans (fun hw he hap => hw.applyEntry he.1.1.1 hap)
    (fun hw he hap => (C16_entry_keeps_config hw he.1.1 he.2.1 (fun ⟨_, m, _, hm, hcmd, _⟩ => he.2.2 m hm hcmd) hap).symm)
    hw ((wfHistory_iff.1 hwf).and (Along.of_all (fun e he _ => hq e he) _)) hr

def exAlice : Session :=
  { id := ⟨1, 0⟩, nick := "alice", username := "al", loggedIn := true, channels := ["#c"], operator := true,
    ircPrefix := ⟨"alice", "al", "robust/0x1"⟩ }
def exBob : Session :=
  { id := ⟨2, 0⟩, nick := "Bob", username := "bo", loggedIn := true, channels := ["#c"], remoteAddr := "10.0.0.2",
    ircPrefix := ⟨"Bob", "bo", "robust/0x2"⟩ }
def exChanC : Channel := { name := "#c", nicks := [("alice", { chanop := true }), ("bob", {})], modes := ['n', 't'] }
/-- alice (IRC operator) and Bob (address known) on `#c`; revision 3 -/
def exSt : St :=
  { sessions := [(⟨1, 0⟩, exAlice), (⟨2, 0⟩, exBob)]
    nicks := [("alice", ⟨1, 0⟩), ("bob", ⟨2, 0⟩)]
    channels := [("#c", exChanC)]
    config := { revision := 3, operators := [("root", "pw")] } }
def mkE (type id : Nat) (session : Id) (data : String) : Entry :=
  { type := type, id := id, session := session, data := data, unixNano := 0, cmid := id, rev := 0,
    remoteAddr := "", cfg := none }

theorem exSt_inv : GPInv exSt := ginv_of_ginvB (by decide +kernel)

/-- the operator's GLINE adds exactly the ban and keeps the rest; Bob's GLINE changes nothing;
a line that does change the state a lot (KILL) keeps the configuration -/
theorem C16_example_gline :
    (resSt (applyEntry exSt (mkE 2 10 ⟨1, 0⟩ "GLINE bob :spam"))).config =
      { exSt.config with banned := [("10.0.0.2", "spam")] } ∧
    (applyEntry exSt (mkE 2 10 ⟨2, 0⟩ "GLINE alice :spam")).isOk = true ∧
    (resSt (applyEntry exSt (mkE 2 10 ⟨2, 0⟩ "GLINE alice :spam"))).config = exSt.config ∧
    (applyEntry exSt (mkE 2 10 ⟨1, 0⟩ "KILL bob :bye")).isOk = true ∧
    (resSt (applyEntry exSt (mkE 2 10 ⟨1, 0⟩ "KILL bob :bye"))).config = exSt.config :=
  by decide +kernel

/-- `C16_entry_keeps_config` instantiated: hypotheses hold for Bob's `PRIVMSG`, the entry applies -/
example : (resSt (applyEntry exSt (mkE 2 10 ⟨2, 0⟩ "PRIVMSG #c :hi"))).config = exSt.config := by
  have hok : (applyEntry exSt (mkE 2 10 ⟨2, 0⟩ "PRIVMSG #c :hi")).isOk = true := by decide +kernel
  refine C16_entry_keeps_config exSt_inv.sessWf (entryOk_of_B (by decide)) (by decide) ?_ (eq_ok_of_isOk hok)
  rintro ⟨_, m, s, hm, hc, _⟩
  have : parseMessage "PRIVMSG #c :hi" = some ⟨none, "PRIVMSG", ["#c", "hi"]⟩ := by decide +kernel
  rw [show (mkE 2 10 ⟨2, 0⟩ "PRIVMSG #c :hi").data = "PRIVMSG #c :hi" from rfl, this] at hm
  cases hm
  exact absurd hc (by decide +kernel)

/-- a Config entry: revision and contents replaced, sessions untouched -/
theorem C16_example_config_entry :
    let e : Entry := { mkE 6 11 ⟨0, 0⟩ "…toml…" with rev := 4, cfg := some { maxChannels := 5 } }
    (resSt (applyEntry exSt e)).config = { maxChannels := 5, revision := 4 } ∧
    (resSt (applyEntry exSt e)).sessions = exSt.sessions := by decide +kernel

/-! ## non-vacuity (audit): every theorem above with hypotheses, instantiated on a *reached* state

`Ex.stR` is the result of running the model on the history `Ex.es0` from the initial state (a Config entry
that names an operator, two registrations, two JOINs, an OPER); its invariant comes from `run_preserves_gp`. -/
namespace Ex
def mk (type id : Nat) (session : Id) (data : String) (addr : String := "") : Entry :=
  { type := type, id := id, session := session, data := data, unixNano := 0, cmid := id, rev := 0,
    remoteAddr := addr, cfg := none }
def es0 : List Entry := [
  { mk 6 1 ⟨0, 0⟩ "…toml…" with rev := 1, cfg := some { operators := [("root", "pw")] } },
  mk 0 2 ⟨0, 0⟩ "authA", mk 2 3 ⟨2, 0⟩ "NICK alice", mk 2 4 ⟨2, 0⟩ "USER al 0 * :Alice",
  mk 0 5 ⟨0, 0⟩ "authB", mk 2 6 ⟨5, 0⟩ "NICK Bob" "10.0.0.2", mk 2 7 ⟨5, 0⟩ "USER bo 0 * :Bob" "10.0.0.2",
  mk 2 8 ⟨2, 0⟩ "JOIN #c", mk 2 9 ⟨5, 0⟩ "JOIN #c" "10.0.0.2", mk 2 10 ⟨2, 0⟩ "OPER root pw"]
def aliceR : Session := { id := ⟨2, 0⟩, auth := "authA", loggedIn := true, nick := "alice", username := "al", realname := "Alice", channels := ["#c"], lastActivity := 10, lastNonPing := 10, operator := true, created := 2, modes := ['o'], svid := "0", lastClientMessageId := 10, ircPrefix := ⟨"alice", "al", "robust/0x2"⟩ }
def bobR : Session := { id := ⟨5, 0⟩, auth := "authB", loggedIn := true, nick := "Bob", username := "bo", realname := "Bob", channels := ["#c"], lastActivity := 9, lastNonPing := 9, created := 5, svid := "0", lastClientMessageId := 9, ircPrefix := ⟨"Bob", "bo", "robust/0x5"⟩, remoteAddr := "10.0.0.2" }
/-- the state reached from the initial state by `es0` (`run0`): revision 1, one operator configured -/
def stR : St :=
  { sessions := [(⟨2, 0⟩, aliceR), (⟨5, 0⟩, bobR)]
    nicks := [("alice", ⟨2, 0⟩), ("bob", ⟨5, 0⟩)]
    channels := [("#c", { name := "#c", nicks := [("alice", { chanop := true }), ("bob", {})], modes := ['n', 't'] })]
    lastProcessed := ⟨2, 0⟩
    config := { revision := 1, operators := [("root", "pw")] } }
/-- the posted configuration of the examples -/
def newCfg : Config := { operators := [("root", "pw2")], maxChannels := 5 }
/-- the entry the handler proposes for the current revision 1 -/
def ePosted : Entry := ⟨6, 0, ⟨0, 0⟩, "…toml…", 0, 0, 2, "", some newCfg⟩
/-- a second node that lags: it has applied only the first five entries of `es0` (Bob's session exists but has not registered) -/
def stLag : St := runSt (runEntries {} (es0.take 5))
/-- What is used of a concrete run, or of one entry applied to `stR`, is stated together and evaluated
once: within one evaluation the kernel reduces each `applyEntry st e` a single time (so `stLag`, a
prefix of the run, comes with it). -/
theorem run0B : (runEntries {} es0).isOk = true ∧ runSt (runEntries {} es0) = stR ∧ histB none {} es0 = true ∧
    (resSt (applyEntry stLag ePosted)).config = { operators := [("root", "pw2")], maxChannels := 5, revision := 2 } ∧
    AMap.keys (resSt (applyEntry stLag ePosted)).sessions = [⟨2, 0⟩, ⟨5, 0⟩] := by decide +kernel
theorem run0 : runEntries {} es0 = .ok stR := by
  rw [← run0B.2.1]; exact run_eq_of_isOk run0B.1
theorem wf0 : WfHistory {} es0 := wf_of_histB run0B.2.2.1
/-- `stR` is reachable, hence satisfies the full invariant -/
theorem wfR : SessWf stR := (run_preserves_gp GPInv_init wf0 run0).sessWf
theorem aliceR_stored : AMap.get stR.sessions ⟨2, 0⟩ = some aliceR := by decide +kernel
theorem bobR_stored : AMap.get stR.sessions ⟨5, 0⟩ = some bobR := by decide +kernel
def ctxOf (r : Res Ctx) : Ctx :=
  match r with
  | .ok c => c
  | _ => { st := {}, msgid := 0 }
theorem eq_ok_ctx {r : Res Ctx} (h : r.isOk = true) : r = .ok (ctxOf r) := by
  cases r with
  | ok a => rfl
  | panic s => cases h
  | declined w => cases h

/-- `C16_reject_nop`: a stale revision (0 instead of 1), a missing header and an unparsable body are all
rejected (hypothesis), nothing is proposed -/
example : (handlePostConfig stR (some 0) "…toml…" (some newCfg)).proposal = none :=
  C16_reject_nop stR (some 0) "…toml…" (some newCfg) (by decide)
example : (handlePostConfig stR none "…toml…" (some newCfg)).proposal = none :=
  C16_reject_nop stR none "…toml…" (some newCfg) (by decide)
example : (handlePostConfig stR (some 1) "garbage" none).proposal = none :=
  C16_reject_nop stR (some 1) "garbage" none (by decide)

/-- `C16_plus_one`: the update is accepted on `stR` (hypothesis); applied on the lagging node `stLag` it
installs exactly the posted configuration with revision 2 -/
example : ∃ st2', applyEntry stLag ePosted = .ok (st2', []) ∧ st2'.config.revision = 1 + 1 ∧
    st2'.config = { newCfg with revision := 1 + 1 } ∧ st2'.sessions = stLag.sessions ∧ st2'.channels = stLag.channels :=
  C16_plus_one stR "…toml…" newCfg ePosted rfl stLag
example : (resSt (applyEntry stLag ePosted)).config = { operators := [("root", "pw2")], maxChannels := 5, revision := 2 } ∧
    AMap.keys (resSt (applyEntry stLag ePosted)).sessions = [⟨2, 0⟩, ⟨5, 0⟩] := run0B.2.2.2

/-- `C16_unparsable_skipped`: a Config entry whose text did not parse -/
example : applyEntry stR { ePosted with cfg := none } = .ok (stR, []) :=
  C16_unparsable_skipped stR { ePosted with cfg := none } rfl rfl

/-- `C16_replicas_equal`: `stR` and the same node one entry later (Bob has been deleted, so the states
differ) have equal configurations (hypothesis) and still do after the Config entry -/
def stR' : St := resSt (applyEntry stR (mk 1 11 ⟨5, 0⟩ "expired"))
/-- the DeleteSession entry behind `stR'`, evaluated once -/
theorem delB : (applyEntry stR (mk 1 11 ⟨5, 0⟩ "expired")).isOk = true ∧ stR.config = stR'.config ∧
    (stR ≠ stR' ∧ (resSt (applyEntry stR ePosted)).config = (resSt (applyEntry stR' ePosted)).config) := by decide +kernel
example : ∃ a' b', applyEntry stR ePosted = .ok (a', []) ∧ applyEntry stR' ePosted = .ok (b', []) ∧ a'.config = b'.config :=
  C16_replicas_equal stR stR' ePosted rfl delB.2.1
example : stR ≠ stR' ∧ (resSt (applyEntry stR ePosted)).config = (resSt (applyEntry stR' ePosted)).config := delB.2.2

/-- `C16_gline_sets_ban`: alice (IRC operator) bans Bob's address -/
def cR : Ctx := { st := stR, msgid := 11 }
def mGline : IrcMsg := ⟨none, "GLINE", ["bob", "spam"]⟩
def cBanned : Ctx := { cR with st := { stR with config := { stR.config with banned := AMap.set stR.config.banned bobR.remoteAddr mGline.trailing } } }
theorem killB_ok : (cmdKill cBanned ⟨2, 0⟩ mGline).isOk = true := by decide +kernel
/-- the operator's GLINE and Bob's, each evaluated once -/
theorem glineB : (cmdGline cR ⟨2, 0⟩ mGline).isOk = true ∧
    (ctxOf (cmdGline cR ⟨2, 0⟩ mGline)).st.config.banned = [("10.0.0.2", "spam")] ∧
    (ctxOf (cmdGline cR ⟨2, 0⟩ mGline)).st.config ≠ stR.config := by decide +kernel
theorem glineBobB : (cmdGline cR ⟨5, 0⟩ ⟨none, "GLINE", ["alice", "spam"]⟩).isOk = true ∧
    (ctxOf (cmdGline cR ⟨5, 0⟩ ⟨none, "GLINE", ["alice", "spam"]⟩)).st.config = stR.config := by decide +kernel
example : cmdGline cR ⟨2, 0⟩ mGline = .ok (ctxOf (cmdKill cBanned ⟨2, 0⟩ mGline)) :=
  C16_gline_sets_ban cR ⟨2, 0⟩ ⟨5, 0⟩ mGline aliceR bobR "bob" _ rfl rfl rfl (by decide +kernel) rfl (by decide +kernel) (eq_ok_ctx killB_ok)
example : (ctxOf (cmdGline cR ⟨2, 0⟩ mGline)).st.config.banned = [("10.0.0.2", "spam")] := glineB.2.1

/-- `C16_handlers_keep_config`: alice's KILL of Bob (a handler that changes a lot) on the reached state -/
def mKill : IrcMsg := ⟨none, "KILL", ["bob", "bye"]⟩
theorem kill_ok : (cmdKill cR ⟨2, 0⟩ mKill).isOk = true := by decide +kernel
example : (ctxOf (cmdKill cR ⟨2, 0⟩ mKill)).st.config = stR.config :=
  C16_handlers_keep_config (fname := "cmdKill") rfl (by decide) (c := cR) (sid := ⟨2, 0⟩) (m := mKill) rfl wfR (eq_ok_ctx kill_ok)
/-- … and Bob's `JOIN #d` (creates a channel) -/
def mJoin : IrcMsg := ⟨none, "JOIN", ["#d"]⟩
theorem joinB : (cmdJoin cR ⟨5, 0⟩ mJoin).isOk = true ∧
    AMap.keys (ctxOf (cmdJoin cR ⟨5, 0⟩ mJoin)).st.channels = ["#c", "#d"] := by decide +kernel
theorem join_ok : (cmdJoin cR ⟨5, 0⟩ mJoin).isOk = true := joinB.1
example : (ctxOf (cmdJoin cR ⟨5, 0⟩ mJoin)).st.config = stR.config :=
  C16_handlers_keep_config (fname := "cmdJoin") rfl (by decide) (c := cR) (sid := ⟨5, 0⟩) (m := mJoin) rfl wfR (eq_ok_ctx join_ok)
example : AMap.keys (ctxOf (cmdJoin cR ⟨5, 0⟩ mJoin)).st.channels = ["#c", "#d"] := joinB.2

theorem gline_ok : (cmdGline cR ⟨2, 0⟩ mGline).isOk = true := glineB.1
theorem glineBob_ok : (cmdGline cR ⟨5, 0⟩ ⟨none, "GLINE", ["alice", "spam"]⟩).isOk = true := glineBobB.1
/-- `C16_gline_only_bans`: hypotheses hold for the operator's GLINE (second disjunct: one ban is set) and
for Bob's GLINE (first disjunct: refused) -/
example : (ctxOf (cmdGline cR ⟨2, 0⟩ mGline)).st.config = stR.config ∨
    ∃ s p0 tid t, AMap.get stR.sessions ⟨2, 0⟩ = some s ∧ s.operator = true ∧ param mGline 0 = .ok p0 ∧
      AMap.get stR.nicks (nickToLower p0) = some tid ∧ AMap.get stR.sessions tid = some t ∧ t.remoteAddr ≠ "" ∧
      (ctxOf (cmdGline cR ⟨2, 0⟩ mGline)).st.config =
        { stR.config with banned := AMap.set stR.config.banned t.remoteAddr mGline.trailing } :=
  C16_gline_only_bans (c := cR) wfR (eq_ok_ctx gline_ok)
example : (ctxOf (cmdGline cR ⟨2, 0⟩ mGline)).st.config ≠ stR.config ∧
    (ctxOf (cmdGline cR ⟨5, 0⟩ ⟨none, "GLINE", ["alice", "spam"]⟩)).st.config = stR.config := ⟨glineB.2.2, glineBobB.2⟩
/-- `C16_gline_rest_kept` for both -/
example : { (ctxOf (cmdGline cR ⟨2, 0⟩ mGline)).st.config with banned := [] } = { stR.config with banned := [] } :=
  (C16_gline_rest_kept (c := cR) wfR (eq_ok_ctx gline_ok)).1
example : (ctxOf (cmdGline cR ⟨5, 0⟩ ⟨none, "GLINE", ["alice", "spam"]⟩)).st.config = stR.config :=
  (C16_gline_rest_kept (c := cR) wfR (eq_ok_ctx glineBob_ok)).2 bobR bobR_stored rfl

/-- the same lines as committed entries -/
def eGline : Entry := mk 2 11 ⟨2, 0⟩ "GLINE bob :spam"
def eGlineBob : Entry := mk 2 11 ⟨5, 0⟩ "GLINE alice :spam" "10.0.0.2"
def eKill : Entry := mk 2 11 ⟨2, 0⟩ "KILL bob :bye"
def eDel : Entry := mk 1 11 ⟨5, 0⟩ "expired"
theorem eGlineB : (applyEntry stR eGline).isOk = true ∧
    (resSt (applyEntry stR eGline)).config = { stR.config with banned := [("10.0.0.2", "spam")] } := by decide +kernel
theorem eGline_ok : (applyEntry stR eGline).isOk = true := eGlineB.1
theorem eGlineBob_ok : (applyEntry stR eGlineBob).isOk = true := by decide +kernel
theorem eKill_ok : (applyEntry stR eKill).isOk = true := by decide +kernel
theorem eDel_ok : (applyEntry stR eDel).isOk = true := delB.1
/-- `C16_entry_config_cases`: for the operator's GLINE entry (second disjunct) and for a DeleteSession entry -/
example : (resSt (applyEntry stR eGline)).config = stR.config ∨
    ∃ m s addr reason, eGline.type = 2 ∧ parseMessage eGline.data = some m ∧ toUpper m.command = "GLINE" ∧
      AMap.get stR.sessions eGline.session = some s ∧ s.operator = true ∧
      (resSt (applyEntry stR eGline)).config = { stR.config with banned := AMap.set stR.config.banned addr reason } :=
  C16_entry_config_cases (e := eGline) wfR (entryOk_of_B (by decide)) (by decide) (eq_ok_of_isOk eGline_ok)
example : (resSt (applyEntry stR eGline)).config = { stR.config with banned := [("10.0.0.2", "spam")] } := eGlineB.2
example : (resSt (applyEntry stR eDel)).config = stR.config :=
  (C16_entry_config_cases (e := eDel) wfR (entryOk_of_B (by decide)) (by decide) (eq_ok_of_isOk eDel_ok)).resolve_right
    (fun ⟨_, _, _, _, h2, _⟩ => absurd h2 (by decide))

/-- the hypothesis `hng` of `C16_entry_keeps_config` from Booleans: the line is not a GLINE, or the session
is not an IRC operator -/
theorem hng_of_B {st : St} {e : Entry}
    (h : (match parseMessage e.data with
          | some m => toUpper m.command != "GLINE"
          | none => true) = true ∨
         (match AMap.get st.sessions e.session with
          | some s => !s.operator
          | none => true) = true) :
    ¬(e.type = 2 ∧ ∃ m s, parseMessage e.data = some m ∧ toUpper m.command = "GLINE" ∧
      AMap.get st.sessions e.session = some s ∧ s.operator = true) := by
  rintro ⟨_, m, s, hm, hc, hs, hop⟩
  rw [hm, hs] at h
  rcases h with h | h
  · simp [hc] at h
  · simp [hop] at h
/-- `C16_entry_keeps_config`: the operator's KILL (not a GLINE), Bob's GLINE (not an operator), DeleteSession -/
example : (resSt (applyEntry stR eKill)).config = stR.config :=
  C16_entry_keeps_config (e := eKill) wfR (entryOk_of_B (by decide)) (by decide) (hng_of_B (Or.inl (by decide +kernel)))
    (eq_ok_of_isOk eKill_ok)
example : (resSt (applyEntry stR eGlineBob)).config = stR.config :=
  C16_entry_keeps_config (e := eGlineBob) wfR (entryOk_of_B (by decide)) (by decide) (hng_of_B (Or.inr (by decide +kernel)))
    (eq_ok_of_isOk eGlineBob_ok)
example : (resSt (applyEntry stR eDel)).config = stR.config :=
  C16_entry_keeps_config (e := eDel) wfR (entryOk_of_B (by decide)) (by decide) (fun h => by cases h.1)
    (eq_ok_of_isOk eDel_ok)

/-- `C16_config_entry_frame` on the reached state with the posted entry -/
theorem ePosted_ok : (applyEntry stR ePosted).isOk = true := by decide +kernel
example : resSt (applyEntry stR ePosted) = { stR with config := { newCfg with revision := 2 } } ∧
    resOut (applyEntry stR ePosted) = [] ∧ (resSt (applyEntry stR ePosted)).sessions = stR.sessions ∧
    (resSt (applyEntry stR ePosted)).nicks = stR.nicks ∧ (resSt (applyEntry stR ePosted)).channels = stR.channels ∧
    (resSt (applyEntry stR ePosted)).svsholds = stR.svsholds ∧
    (resSt (applyEntry stR ePosted)).lastProcessed = stR.lastProcessed :=
  C16_config_entry_frame (e := ePosted) (cfg := newCfg) rfl rfl (eq_ok_of_isOk ePosted_ok)

/-- a continuation without Config entries and GLINEs: Bob talks, joins `#d`, is killed by alice, a message of
death, a new session that registers -/
def es1 : List Entry := [mk 2 11 ⟨5, 0⟩ "PRIVMSG #c :hi" "10.0.0.2", mk 2 12 ⟨5, 0⟩ "JOIN #d" "10.0.0.2",
  mk 2 13 ⟨2, 0⟩ "KILL bob :bye", mk 5 14 ⟨2, 0⟩ "boom", mk 0 15 ⟨0, 0⟩ "authC", mk 2 16 ⟨15, 0⟩ "NICK carol",
  mk 2 17 ⟨15, 0⟩ "USER c 0 * :Carol"]
theorem run1B : (runEntries stR es1).isOk = true ∧ histB none stR es1 = true ∧
    (runSt (runEntries stR es1)).sessions.map (fun p => (p.1, p.2.nick)) = [(⟨2, 0⟩, "alice"), (⟨15, 0⟩, "carol")] ∧
    AMap.keys (runSt (runEntries stR es1)).channels = ["#c"] ∧
    es1.all (fun e => e.type != 6 && (match parseMessage e.data with
      | some m => toUpper m.command != "GLINE"
      | none => true)) = true := by decide +kernel
theorem run1_ok : (runEntries stR es1).isOk = true := run1B.1
theorem wf1 : WfHistory stR es1 := wf_of_histB run1B.2.1
theorem quiet1 : ∀ e ∈ es1, e.type ≠ 6 ∧ ∀ m, parseMessage e.data = some m → toUpper m.command ≠ "GLINE" := by
  intro e he
  have h1 := List.all_eq_true.1 run1B.2.2.2.2 e he
  simp only [Bool.and_eq_true, bne_iff_ne, ne_eq] at h1
  refine ⟨h1.1, fun m hm => ?_⟩
  have h2 := h1.2
  rw [hm] at h2
  simpa using h2
/-- `C16_history_keeps_config` along `es1` from the reached state (all four hypotheses discharged) -/
example : (runSt (runEntries stR es1)).config = stR.config :=
  C16_history_keeps_config wfR wf1 quiet1 (run_eq_of_isOk run1_ok)
example : (runSt (runEntries stR es1)).sessions.map (fun p => (p.1, p.2.nick)) = [(⟨2, 0⟩, "alice"), (⟨15, 0⟩, "carol")] ∧
    AMap.keys (runSt (runEntries stR es1)).channels = ["#c"] := ⟨run1B.2.2.1, run1B.2.2.2.1⟩
end Ex

end Robust.Props.C16
