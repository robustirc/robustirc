import Robust.Props.C02
import Robust.Props.C04
import Robust.Gen.Exprs
/-!
# C05 — acknowledged messages survive crashes and fail-over, exactly once, everywhere

The end-to-end promise is a composition.  The pieces that are theorems elsewhere:

* C02: for every schedule of commits, snapshots, failed snapshot writes, restores and restarts
  (= process kills: a restart re-reads the durable log and the newest snapshot), a node's state is
  the plain replay of its committed log, and its log copy / output store hold exactly the commands
  not yet folded into a snapshot;
* C09: the durable log store is a faithful (index ↦ entry) map across close/reopen/kill;
* C04: a client that reads over any number of connections, cut anywhere, on nodes of any lag,
  receives a prefix of its filtered stream, nothing twice, nothing skipped; C08: GetNext;
* C10: a retried POST is acknowledged without being proposed again; C01: apply is deterministic.

What this file adds is the network level: several nodes whose committed logs are prefixes of one
log `L` (the one thing assumed of raft: log matching / leader completeness, i.e. an entry that was
acknowledged is in the log of every node that has caught up to its index).  For every fault
schedule on every node: an acknowledged command is in the node's state exactly once, forever; the
applied sequences of any two nodes are prefixes of one another (same order everywhere); and two nodes
hold the same output batches wherever neither has compacted them.
-/
namespace Robust.Props.C05
open Robust.Fsm Robust.Props.C02

theorem commits_append (a b : List Op) : commits (a ++ b) = commits a ++ commits b := by
  induction a with
  | nil => rfl
  | cons o r ih => cases o <;> simp [commits, ih]

/-- a node of the network: its life is any well-formed schedule of commits and faults, and what it
has committed so far is a prefix of the network's log `L` -/
structure NodeLife (L : List LogEntry) where
  ops : List Op
  wf : WfOps ops
  k : Nat
  pre : commits ops = L.take k

def NodeLife.node {L : List LogEntry} (n : NodeLife L) : Node := ({} : Node).run n.ops

/-- (1) whatever happened to the node (kills, restarts, snapshots, failed snapshot writes, restores), its
state is the replay of the first `k` entries of the network's log -/
theorem C05_node_is_replay {L : List LogEntry} (n : NodeLife L) :
    n.node.live = replayLive (L.take n.k) ∧ n.node.exp = replayExp (L.take n.k) := by
  have h := C02_state_eq_replay n.ops n.wf
  simp only at h
  rw [← n.pre]
  exact ⟨h.2.1, h.2.2⟩

/-- (2) an acknowledged command is never lost: once a node has applied it, it stays part of the node's
state through every continuation of the node's life — more traffic, kills and restarts, snapshots,
restores — -/
theorem C05_acked_never_lost (ops more : List Op) (hw : WfOps (ops ++ more)) (e : LogEntry)
    (he : e ∈ commits ops) (hc : e.isCmd = true) :
    e.idx ∈ (({} : Node).run (ops ++ more)).live := by
  have h := (C02_state_eq_replay (ops ++ more) hw)
  simp only at h
  rw [h.2.1, commits_append]
  unfold replayLive
  exact List.mem_map.2 ⟨e, List.mem_filter.2 ⟨List.mem_append_left _ he, hc⟩, rfl⟩

/-- (3) … and exactly once: the state holds no command twice -/
theorem C05_exactly_once_in_state (ops : List Op) (hw : WfOps ops) :
    (({} : Node).run ops).live.Nodup := by
  have h := (C02_state_eq_replay ops hw)
  simp only at h
  rw [h.2.1]
  unfold replayLive
  have hs : ((commits ops).map (·.idx)).Pairwise (· < ·) := hw.1
  have : (((commits ops).filter (·.isCmd)).map (·.idx)).Pairwise (· < ·) :=
    List.Pairwise.sublist (List.Sublist.map _ List.filter_sublist) hs
  exact this.imp (fun h => Nat.ne_of_lt h)

theorem replayLive_take_prefix (L : List LogEntry) {a b : Nat} (h : a ≤ b) :
    replayLive (L.take a) <+: replayLive (L.take b) := by
  unfold replayLive
  have : L.take a <+: L.take b := (List.take_prefix_take_left (l := L) h)
  obtain ⟨t, ht⟩ := this
  rw [← ht, List.filter_append, List.map_append]
  exact List.prefix_append _ _

/-- (4) same order everywhere: of any two nodes, whatever faults each of them went through, one has
applied a prefix of what the other has applied -/
theorem C05_same_order_everywhere {L : List LogEntry} (n₁ n₂ : NodeLife L) :
    n₁.node.live <+: n₂.node.live ∨ n₂.node.live <+: n₁.node.live := by
  rw [(C05_node_is_replay n₁).1, (C05_node_is_replay n₂).1]
  rcases Nat.le_total n₁.k n₂.k with h | h
  · exact Or.inl (replayLive_take_prefix L h)
  · exact Or.inr (replayLive_take_prefix L h)

/-- (5) a node that has caught up to an acknowledged command holds it -/
theorem C05_caught_up_node_has_it {L : List LogEntry} (n : NodeLife L) (e : LogEntry) (hc : e.isCmd = true)
    (he : e ∈ L.take n.k) : e.idx ∈ n.node.live := by
  rw [(C05_node_is_replay n).1]
  unfold replayLive
  exact List.mem_map.2 ⟨e, List.mem_filter.2 ⟨he, hc⟩, rfl⟩

/-- what one node serves: its log copy is the committed commands above its compaction boundary, and for each
of them it holds the output batch -/
theorem NodeLife.serves {L : List LogEntry} (n : NodeLife L) :
    ∃ b, n.node.irc = (L.take n.k).filter (fun e => e.isCmd && decide (b < e.idx)) ∧
      ∀ e ∈ L.take n.k, e.isCmd = true → b < e.idx → e.idx ∈ n.node.out := by
  obtain ⟨b, hb, _⟩ := C02_unfolded_exact n.ops n.wf
  have hirc : n.node.irc = (L.take n.k).filter (fun e => e.isCmd && decide (b < e.idx)) := by
    show (({} : Node).run n.ops).irc = _
    rw [hb, n.pre]
  refine ⟨b, hirc, fun e he hc hlt => ((C02_unfolded_kept n.ops n.wf).1 e.idx).2 (List.mem_map.2 ⟨e, ?_, rfl⟩)⟩
  show e ∈ n.node.irc
  rw [hirc]
  exact List.mem_filter.2 ⟨he, by simp [hc, hlt]⟩

/-- (6) the output a node serves: a node's log copy is the committed commands above its compaction boundary
`b` (that is what ties `b` to the node: with the boundaries left unconstrained the statement holds of any pair
of nodes, see the last example on it in `Ex`), and for every such command the node
holds the output batch; so two nodes serve the same batches wherever neither has compacted -/
theorem C05_nodes_serve_the_same_output {L : List LogEntry} (n₁ n₂ : NodeLife L) :
    ∃ b₁ b₂,
      n₁.node.irc = (L.take n₁.k).filter (fun e => e.isCmd && decide (b₁ < e.idx)) ∧
      n₂.node.irc = (L.take n₂.k).filter (fun e => e.isCmd && decide (b₂ < e.idx)) ∧
      ∀ e ∈ L.take (min n₁.k n₂.k), e.isCmd = true → b₁ < e.idx → b₂ < e.idx →
        (e.idx ∈ n₁.node.out ∧ e.idx ∈ n₂.node.out) := by
  obtain ⟨b₁, h₁, o₁⟩ := n₁.serves
  obtain ⟨b₂, h₂, o₂⟩ := n₂.serves
  exact ⟨b₁, b₂, h₁, h₂, fun e he hc hb₁ hb₂ =>
    ⟨o₁ e ((List.take_prefix_take_left (l := L) (Nat.min_le_left _ _)).subset he) hc hb₁,
     o₂ e ((List.take_prefix_take_left (l := L) (Nat.min_le_right _ _)).subset he) hc hb₂⟩⟩

/-- (7) and only old output is ever compacted away: a snapshot keeps every command (and its output)
that is younger than the session expiration plus the sweep interval — a live session's unread
messages are younger than that (restated from C02) -/
theorem C05_recent_output_survives_snapshots (ops : List Op) (h : WfOps ops) (n' : Node) (now : Int)
    (hs : (({} : Node).run ops).snapshot now = some n') (e : LogEntry)
    (he : e ∈ (({} : Node).run ops).irc)
    (hnew : e.ts > now - ((if (({} : Node).run ops).exp = 0 then 600000000000 else (({} : Node).run ops).exp)
              + expireSessionsInterval)) :
    e ∈ n'.irc ∧ (e.idx ∈ (({} : Node).run ops).out → e.idx ∈ n'.out) :=
  C02_recent_kept_reachable ops h n' now hs e he hnew

/-- (8) the client side (restated from C04 so that this module's audit covers it): over any number of
connections, cut anywhere, to nodes of any lag, the client has received a prefix of its stream -/
theorem C05_client_exactly_once (net : Stream.Resume.Net) (h : Stream.Resume.WfNet net) (session : Nat) (start : Nat × Nat)
    (hs : 0 < start.1) (sched : List (Bool × Nat)) :
    ∃ n, Robust.Props.C04.client net session start sched [] =
      ((Robust.Props.C04.owed net start.1 start.2).filter (Stream.Resume.interesting session)).take n :=
  Robust.Props.C04.C04_client_exactly_once net h session start hs sched

/-- regenerated from api.go: a POST is acknowledged only after raft reported the entry committed and the
FSM's response was checked — `applyMessageWait` waits on `f.Error()` itself (no goroutine, select or timer
that could let it return while the entry is still in flight: a client that is told "failed" retries, and a
retry of an entry that commits later is a duplicate), and the id is taken only afterwards -/
theorem C05_ack_after_commit :
    Robust.Gen.Exprs.fact "apply.wait" = "nil != recv.raftNode.Apply(_).Error() => return recv.raftNode.Apply(_).Error()" ∧
    Robust.Gen.Exprs.fact "apply.async" = "0" ∧
    Robust.Gen.Exprs.fact "apply.idAfterErrorCheck" = "true" := ⟨rfl, rfl, rfl⟩

/-! non-vacuity: a three-entry log, one node that was killed and restarted after a snapshot, one that
lags behind -/
def e1 : LogEntry := ⟨1, 100, true, none⟩
def e2 : LogEntry := ⟨2, 200, true, none⟩
def e3 : LogEntry := ⟨3, 300, true, none⟩
def exL : List LogEntry := [e1, e2, e3]

def nA : NodeLife exL := ⟨[.commit e1, .commit e2, .snapshot 100000000000000, .persist, .restart, .commit e3, .restart],
  by unfold WfOps; simp [commits, e1, e2, e3], 3, by simp [commits, exL]⟩
def nB : NodeLife exL := ⟨[.commit e1, .restart, .commit e2], by unfold WfOps; simp [commits, e1, e2], 2, by simp [commits, exL]⟩

example : nB.node.live <+: nA.node.live := by
  rcases C05_same_order_everywhere nA nB with h | h
  · have h1 : nA.node.live = [1, 2, 3] := by decide +kernel
    have h2 : nB.node.live = [1, 2] := by decide +kernel
    rw [h1, h2]; decide
  · exact h
example : nA.node.live = [1, 2, 3] ∧ nB.node.live = [1, 2] := by decide +kernel

/-! ## non-vacuity

A five-entry network log with a raft-internal entry (`l3`, not a command) and a network configuration that
changes the session expiration (`l4`).  Node A: snapshot that folds only the old part, persist, kill and
restart, a second snapshot whose write fails.  Node B lags (three entries), was killed once, snapshotted and
had raft re-install its newest snapshot. -/
namespace Ex
def l1 : LogEntry := ⟨1, 100, true, none⟩
def l2 : LogEntry := ⟨2, 200, true, none⟩
def l3 : LogEntry := ⟨3, 250, false, none⟩
def l4 : LogEntry := ⟨4, 300, true, some 700000000000⟩
def l5 : LogEntry := ⟨5, 400, true, none⟩
def L : List LogEntry := [l1, l2, l3, l4, l5]
def opsA : List Op := [.commit l1, .commit l2, .snapshot 610000000150, .persist, .commit l3, .commit l4, .restart,
  .commit l5, .snapshot 610000000150, .persistFail]
def opsB : List Op := [.commit l1, .restart, .commit l2, .snapshot 610000000050, .persist, .commit l3, .restoreLatest]
theorem wfA : WfOps opsA := by unfold WfOps; decide
theorem wfB : WfOps opsB := by unfold WfOps; decide
/-- the two nodes as lives over `L` (the structure fields `wf` and `pre` are the hypotheses) -/
def nA : NodeLife L := ⟨opsA, wfA, 5, by decide⟩
def nB : NodeLife L := ⟨opsB, wfB, 3, by decide⟩
/-- what the nodes hold: A has folded entry 1 into its snapshot state, B nothing yet -/
example : nA.node.live = [1, 2, 4, 5] ∧ nA.node.out = [2, 4, 5] ∧ nA.node.irc.map (·.idx) = [2, 4, 5] ∧
    nA.node.exp = 700000000000 ∧ nA.node.persisted.map (fun s => (s.index, s.stateIdx, s.state)) = [(2, 1, [1])] := by decide +kernel
example : nB.node.live = [1, 2] ∧ nB.node.out = [1, 2] ∧ nB.node.exp = 600000000000 ∧
    nB.node.persisted.map (fun s => (s.index, s.stateIdx, s.state)) = [(2, 0, [])] := by decide +kernel

example : nA.node.live = replayLive (L.take 5) ∧ nA.node.exp = replayExp (L.take 5) := C05_node_is_replay nA
example : nB.node.live = replayLive (L.take 3) ∧ nB.node.exp = replayExp (L.take 3) := C05_node_is_replay nB
example : replayLive (L.take 5) = [1, 2, 4, 5] ∧ replayExp (L.take 5) = 700000000000 ∧ replayLive (L.take 3) = [1, 2] := by decide

/-- `C05_acked_never_lost`: entry 2 was applied during the first four steps of A's life; it is still there after
the rest of it (raft-internal entry, config, kill, restart, second snapshot) -/
example : l2.idx ∈ (({} : Node).run (opsA.take 4 ++ opsA.drop 4)).live :=
  C05_acked_never_lost (opsA.take 4) (opsA.drop 4) wfA l2 (by decide) rfl
example : (({} : Node).run opsA).live.Nodup := C05_exactly_once_in_state opsA wfA
example : nB.node.live <+: nA.node.live :=
  (C05_same_order_everywhere nA nB).resolve_left (by decide +kernel)
/-- `C05_caught_up_node_has_it`: B has caught up to entry 2 (but not to 4) -/
example : l2.idx ∈ nB.node.live := C05_caught_up_node_has_it nB l2 rfl (by decide)
example : l4 ∉ L.take nB.k ∧ l4.idx ∉ nB.node.live := by decide

/-- `C05_nodes_serve_the_same_output` on the example nodes: the boundaries are determined by the nodes' log
copies (A has compacted up to 1, B nothing), and above both every command's batch is held by both -/
example : ∃ b₁ b₂,
    nA.node.irc = (L.take nA.k).filter (fun e => e.isCmd && decide (b₁ < e.idx)) ∧
    nB.node.irc = (L.take nB.k).filter (fun e => e.isCmd && decide (b₂ < e.idx)) ∧
    ∀ e ∈ L.take (min nA.k nB.k), e.isCmd = true → b₁ < e.idx → b₂ < e.idx →
      (e.idx ∈ nA.node.out ∧ e.idx ∈ nB.node.out) := C05_nodes_serve_the_same_output nA nB
/-- … concretely, with the nodes' real compaction boundaries (A: 1, B: 0): -/
example : nA.node.irc = (L.take nA.k).filter (fun e => e.isCmd && decide (1 < e.idx)) ∧
    nB.node.irc = (L.take nB.k).filter (fun e => e.isCmd && decide (0 < e.idx)) ∧
    ∀ e ∈ L.take (min nA.k nB.k), e.isCmd = true → 1 < e.idx → 0 < e.idx →
      (e.idx ∈ nA.node.out ∧ e.idx ∈ nB.node.out) := by decide +kernel
/-! why the tie matters: without it a statement of this shape holds for *any* predicate `P` in place of "both
nodes hold the batch" (pick a boundary above every index of `L`) -/
theorem le_foldr_max (l : List Nat) : ∀ x ∈ l, x ≤ l.foldr max 0 := by
  induction l with
  | nil => intro x hx; cases hx
  | cons a l ih =>
    intro x hx
    simp only [List.foldr_cons]
    rcases List.mem_cons.1 hx with rfl | h
    · exact Nat.le_max_left _ _
    · exact Nat.le_trans (ih x h) (Nat.le_max_right _ _)
example (L : List LogEntry) (k : Nat) (P : LogEntry → Prop) :
    ∃ b₁ b₂ : Nat, ∀ e ∈ L.take k, e.isCmd = true → b₁ < e.idx → b₂ < e.idx → P e := by
  refine ⟨(L.map (·.idx)).foldr max 0, 0, fun e he _ hb _ => ?_⟩
  have := le_foldr_max (L.map (·.idx)) e.idx (List.mem_map.2 ⟨e, (List.take_subset k L) he, rfl⟩)
  omega

theorem some_getD_of_isSome {α : Type} {o : Option α} {d : α} (h : o.isSome = true) : o = some (o.getD d) := by
  cases o with
  | none => cases h
  | some a => rfl
/-- `C05_recent_output_survives_snapshots`: a third snapshot of node A at `now = 710 s + 350 ns` (expiration is
700 s by then, horizon 350 ns) succeeds (`hs`); entry 5 (ts 400) is in the log copy (`he`) and newer than the
horizon (`hnew`): it and its output survive, while entries 2 and 4 are folded -/
def nA' : Node := ((({} : Node).run opsA).snapshot 710000000350).getD {}
example : l5 ∈ nA'.irc ∧ (l5.idx ∈ (({} : Node).run opsA).out → l5.idx ∈ nA'.out) :=
  C05_recent_output_survives_snapshots opsA wfA nA' 710000000350 (some_getD_of_isSome (by decide)) l5 (by decide) (by decide)
example : nA'.irc.map (·.idx) = [5] ∧ nA'.out = [5] ∧ (({} : Node).run opsA).out = [2, 4, 5] ∧ nA'.live = [1, 2, 4, 5] := by decide +kernel

/-- `C05_client_exactly_once`: four batches (ids 2, 5, 6, 9), two sessions; the client of session 1 starts at
`(1, 0)` and reads over four connections — cut inside batch 2 on a lagging node, cut after batch 5, cut at once,
then uncut -/
def mm (i r : Nat) (rc : List Nat) : Stream.Resume.M := ⟨i, r, rc⟩
def net4 : Stream.Resume.Net :=
  [[mm 2 1 [1], mm 2 2 [2], mm 2 3 [1]], [mm 5 1 [2]], [mm 6 1 [1], mm 6 2 [1, 2]], [mm 9 1 [2], mm 9 2 [1]]]
theorem net4_wf : Stream.Resume.WfNet net4 := by
  unfold Stream.Resume.WfNet Stream.Resume.WfBatch; decide
def sched4 : List (Bool × Nat) := [(false, 2), (true, 2), (true, 0), (true, 9)]
example : ∃ n, Robust.Props.C04.client net4 1 (1, 0) sched4 [] =
    ((Robust.Props.C04.owed net4 1 0).filter (Stream.Resume.interesting 1)).take n :=
  C05_client_exactly_once net4 net4_wf 1 (1, 0) (by decide) sched4
example : Robust.Props.C04.client net4 1 (1, 0) sched4 [] = [mm 2 1 [1], mm 2 3 [1], mm 6 1 [1], mm 6 2 [1, 2], mm 9 2 [1]] ∧
    (Robust.Props.C04.owed net4 1 0).filter (Stream.Resume.interesting 1) =
      [mm 2 1 [1], mm 2 3 [1], mm 6 1 [1], mm 6 2 [1, 2], mm 9 2 [1]] := by decide +kernel
end Ex

end Robust.Props.C05
