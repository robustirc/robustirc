import Robust.Store.ListView
/-!
C09: the LevelDB-backed raft `LogStore`/`StableStore` refines two partial maps
(`logView : index → entry`, `stableView : key → value`) under the representation invariant `WF`.
-/
namespace Robust.Props.C09
open Robust Robust.Bytes Robust.Codec Robust.Store

-- the theorem statements carry `WF` hypotheses uniformly, also where a proof does not need them
set_option linter.unusedVariables false

theorem C09_be64_lt (a b : Nat) (ha : a < 2^64) (hb : b < 2^64) :
    lexLt (Bytes.be64 a) (Bytes.be64 b) = true ↔ a < b := be64_lt a b ha hb

-- AUDIT: the hypotheses can only hold together when `a = b` (that is the conclusion), so every instance
-- is "degenerate" by design; `Ex` shows one, and that the bounds are needed (`be64` wraps at 2^64).
theorem C09_be64_inj (a b : Nat) (ha : a < 2^64) (hb : b < 2^64)
    (h : Bytes.be64 a = Bytes.be64 b) : a = b := be64_inj a b ha hb h

/-- log entries and stable keys never shadow each other -/
theorem C09_key_disjoint (i : Nat) (k : Bytes) : Bytes.be64 i ≠ stablePrefix ++ k :=
  be64_ne_stable i k

theorem C09_log_key_not_stable (i : Nat) : isStable (Bytes.be64 i) = false := isStable_be64 i

theorem C09_stable_key_is_stable (k : Bytes) : isStable (stablePrefix ++ k) = true :=
  isStable_stable k

theorem C09_wf_empty (p : Bool) : WF (Store.empty p) := by
  refine ⟨List.Pairwise.nil, fun k v h => ?_⟩
  cases h

theorem wf_put_log (s : Store) (p : Bool) (f : Fmt) (e : LogEntry) (h : WF s)
    (hi : e.index < 2^64) : WF ⟨kvPut s.kv (be64 e.index) (.log f e), p⟩ :=
  ⟨sorted_kvPut _ _ _ h.1, typed_kvPut_log _ _ _ h.2 hi⟩

theorem C09_wf_storeLogProto (s : Store) (e : LogEntry) (h : WF s) (hi : e.index < 2^64) :
    WF (s.storeLogProto e) := wf_put_log s _ _ e h hi

theorem C09_wf_storeLogs (s : Store) (es : List LogEntry) (h : WF s)
    (hi : ∀ e ∈ es, e.index < 2^64) : WF (s.storeLogs es) :=
  have hf := foldl_put_log _ (fun _ => ()) (fun _ _ => ()) (fun _ _ _ _ _ => rfl) es s.kv h.1 h.2 hi
  ⟨hf.1, hf.2.1⟩

theorem C09_wf_deleteRange (s : Store) (a b : Nat) (h : WF s) : WF (s.deleteRange a b) :=
  ⟨sorted_filter _ _ h.1, typed_filter _ _ h.2⟩

theorem C09_wf_set (s : Store) (k v : Bytes) (h : WF s) : WF (s.set k v) :=
  ⟨sorted_kvPut _ _ _ h.1, typed_kvPut_raw _ _ _ h.2⟩

theorem C09_getLog (s : Store) (i : Nat) (h : WF s) (hi : i < 2^64) :
    s.getLog i = match logView s i with | some e => .ok e | none => .error .notFound := by
  unfold Store.getLog logView
  cases hg : kvGet s.kv (be64 i) with
  | none => rfl
  | some v =>
    obtain ⟨f, e, hv⟩ := typed_log_key _ h.2 i hi v (kvGet_some_mem _ _ _ hg)
    subst hv; rfl

theorem C09_get (s : Store) (k : Bytes) (h : WF s) : s.get k = .ok (stableView s k) := by
  unfold Store.get stableView
  cases hg : kvGet s.kv (stablePrefix ++ k) with
  | none => rfl
  | some v =>
    obtain ⟨bs, hv⟩ := typed_stable_key _ h.2 k v (kvGet_some_mem _ _ _ hg)
    subst hv; rfl

theorem logView_put_log (s : Store) (p : Bool) (f : Fmt) (e : LogEntry) (hi : e.index < 2^64)
    (i : Nat) (hi' : i < 2^64) :
    logView ⟨kvPut s.kv (be64 e.index) (.log f e), p⟩ i
      = if i = e.index then some e else logView s i := by
  unfold logView
  simp only [kvGet_kvPut]
  by_cases hie : i = e.index
  · subst hie; simp
  · rw [if_neg hie, if_neg (fun hk => hie (be64_inj _ _ hi' hi hk))]

theorem stableView_put_log (s : Store) (p : Bool) (f : Fmt) (e : LogEntry) (k : Bytes) :
    stableView ⟨kvPut s.kv (be64 e.index) (.log f e), p⟩ k = stableView s k := by
  unfold stableView
  rw [kvGet_kvPut_other _ _ _ _ (fun hk => be64_ne_stable _ _ hk.symm)]

theorem C09_storeLogProto_view (s : Store) (e : LogEntry) (h : WF s) (hi : e.index < 2^64)
    (i : Nat) (hi' : i < 2^64) :
    logView (s.storeLogProto e) i = if i = e.index then some e else logView s i :=
  logView_put_log s _ _ e hi i hi'

theorem C09_storeLogProto_stable (s : Store) (e : LogEntry) (h : WF s) (k : Bytes) :
    stableView (s.storeLogProto e) k = stableView s k :=
  stableView_put_log s _ _ e k

theorem storeLogs_cons (s : Store) (e : LogEntry) (es : List LogEntry) :
    s.storeLogs (e :: es)
      = Store.storeLogs ⟨kvPut s.kv (be64 e.index) (.log (fmtOf s.useProto) e), s.useProto⟩ es := rfl

/-- later entries of a batch win -/
theorem C09_storeLogs_view (s : Store) (es : List LogEntry) (h : WF s)
    (hi : ∀ e ∈ es, e.index < 2^64) (i : Nat) (hi' : i < 2^64) :
    logView (s.storeLogs es) i
      = match es.reverse.find? (fun e => e.index == i) with
        | some e => some e
        | none => logView s i := by
  induction es generalizing s with
  | nil => rfl
  | cons e es ih =>
    have he := hi e List.mem_cons_self
    have hes : ∀ e' ∈ es, e'.index < 2^64 := fun e' he' => hi e' (List.mem_cons_of_mem _ he')
    rw [storeLogs_cons, ih _ (wf_put_log s _ _ e h he) hes]
    rw [List.reverse_cons, List.find?_append]
    cases hf : es.reverse.find? (fun e => e.index == i) with
    | some e' => rfl
    | none =>
      simp only [Option.none_or, List.find?_cons, List.find?_nil]
      rw [logView_put_log s _ _ e he i hi']
      by_cases hie : i = e.index
      · subst hie; simp
      · have : (e.index == i) = false := by simpa using fun hh => hie hh.symm
        rw [this, if_neg hie]

theorem C09_storeLogs_stable (s : Store) (es : List LogEntry) (h : WF s) (k : Bytes) :
    stableView (s.storeLogs es) k = stableView s k := by
  clear h
  induction es generalizing s with
  | nil => rfl
  | cons e es ih => rw [storeLogs_cons, ih, stableView_put_log]

theorem C09_set_view (s : Store) (k v : Bytes) (h : WF s) (k' : Bytes) :
    stableView (s.set k v) k' = if k' = k then some v else stableView s k' := by
  unfold stableView Store.set
  simp only [kvGet_kvPut, List.append_cancel_left_eq]
  by_cases hk : k' = k
  · rw [if_pos hk, if_pos hk]
  · rw [if_neg hk, if_neg hk]

theorem C09_set_log (s : Store) (k v : Bytes) (h : WF s) (i : Nat) :
    logView (s.set k v) i = logView s i := by
  unfold logView Store.set
  simp only [kvGet_kvPut_other _ _ _ _ (be64_ne_stable i k)]

theorem C09_uint64_roundtrip (s : Store) (k : Bytes) (v : Nat) (h : WF s) (hv : v < 2^64) :
    (s.setUint64 k v).getUint64 k = .ok v := by
  unfold Store.getUint64 Store.setUint64 Store.set
  simp only [kvGet_kvPut_same, be64_length, if_true, rdBe64_be64' v hv]

theorem C09_getUint64_missing (s : Store) (k : Bytes) (h : WF s) (hm : stableView s k = none) :
    s.getUint64 k = .ok 0 := by
  unfold stableView at hm
  unfold Store.getUint64
  cases hg : kvGet s.kv (stablePrefix ++ k) with
  | none => rfl
  | some v =>
    obtain ⟨bs, hv⟩ := typed_stable_key _ h.2 k v (kvGet_some_mem _ _ _ hg)
    subst hv; rw [hg] at hm; cases hm

/-- exactly the indexes in [a,b], including b = 2^64-1 -/
theorem C09_deleteRange_view (s : Store) (a b : Nat) (h : WF s) (ha : a < 2^64) (hb : b < 2^64)
    (i : Nat) (hi : i < 2^64) :
    logView (s.deleteRange a b) i = if a ≤ i ∧ i ≤ b then none else logView s i := by
  have hc : (!(decide (a ≤ i) && decide (i ≤ b))) = true ↔ ¬(a ≤ i ∧ i ≤ b) := by
    rw [Bool.not_eq_true', ← Bool.not_eq_true, Bool.and_eq_true, decide_eq_true_iff,
      decide_eq_true_iff]
  unfold logView
  rw [deleteRange_kv, kvGet_filter s.kv (delKeep a b), delKeep_be64 a b i ha hb hi]
  by_cases hab : a ≤ i ∧ i ≤ b
  · rw [if_neg (mt hc.1 (not_not_intro hab)), if_pos hab]
  · rw [if_pos (hc.2 hab), if_neg hab]

theorem C09_deleteRange_stable (s : Store) (a b : Nat) (h : WF s) (k : Bytes) :
    stableView (s.deleteRange a b) k = stableView s k := by
  unfold stableView
  rw [deleteRange_kv, kvGet_filter s.kv (delKeep a b)]
  simp only [delKeep, isStable_stable, Bool.not_true, Bool.and_false, Bool.not_false, if_true]

theorem C09_firstIndex (s : Store) (h : WF s) :
    (∀ i, i < 2^64 → logView s i = none) → s.firstIndex = .ok 0 := by
  intro hn
  rw [firstIndex_eq s h.2, logIndexes_nil s h hn]; rfl

theorem C09_firstIndex_least (s : Store) (h : WF s) (i : Nat) (hi : i < 2^64) (e : LogEntry)
    (hv : logView s i = some e) :
    ∃ n, s.firstIndex = .ok n ∧ n ≤ i ∧ (logView s n).isSome ∧
      ∀ j, j < 2^64 → (logView s j).isSome → n ≤ j := by
  have hv' : (logView s i).isSome := by rw [hv]; rfl
  obtain ⟨h2, h3⟩ := head_extreme s h (logIndexes s) (· < ·) (kvIndexes_sorted s.kv h.1 h.2)
    (fun _ => Iff.rfl) i hi hv'
  have key : ∀ j, j < 2^64 → (logView s j).isSome → (logIndexes s).head?.getD 0 ≤ j :=
    fun j hj hs => (h3 j hj hs).elim (fun e => Nat.le_of_eq e.symm) Nat.le_of_lt
  exact ⟨_, firstIndex_eq s h.2, key i hi hv', h2, key⟩

theorem C09_lastIndex (s : Store) (h : WF s) :
    (∀ i, i < 2^64 → logView s i = none) → s.lastIndex = .ok 0 := by
  intro hn
  rw [lastIndex_eq s h.2, logIndexes_nil s h hn]; rfl

theorem C09_lastIndex_greatest (s : Store) (h : WF s) (i : Nat) (hi : i < 2^64) (e : LogEntry)
    (hv : logView s i = some e) :
    ∃ n, s.lastIndex = .ok n ∧ i ≤ n ∧ (logView s n).isSome ∧
      ∀ j, j < 2^64 → (logView s j).isSome → j ≤ n := by
  have hv' : (logView s i).isSome := by rw [hv]; rfl
  obtain ⟨h2, h3⟩ := head_extreme s h (logIndexes s).reverse (· > ·)
    (List.pairwise_reverse.2 (kvIndexes_sorted s.kv h.1 h.2)) (fun _ => List.mem_reverse) i hi hv'
  rw [List.head?_reverse] at h2 h3
  have key : ∀ j, j < 2^64 → (logView s j).isSome → j ≤ (logIndexes s).getLast?.getD 0 :=
    fun j hj hs => (h3 j hj hs).elim Nat.le_of_eq Nat.le_of_lt
  exact ⟨_, lastIndex_eq s h.2, key i hi hv', h2, key⟩

/-! ### conversion JSON → protobuf and reopen keep the abstract contents
(entries decode to the same replicated message) -/

/-- what a reader decodes from the payload of the entry at `idx`: the encoding is forgotten and
the id defaulting of `NewMessageFromBytes` applied -/
def Data.sem (idx : Nat) : Data → Data
  | .msg _ m => .msg .proto (m.withDefaultId idx)
  | .raw bs => .raw bs

def LogEntry.sem (e : LogEntry) : LogEntry := { e with data := Data.sem e.index e.data }

theorem withDefaultId_idem (m : RMsg) (i : Nat) :
    (m.withDefaultId i).withDefaultId i = m.withDefaultId i := by
  unfold RMsg.withDefaultId
  by_cases h : m.id = 0
  · rw [if_pos h]
    by_cases hi : i = 0
    · subst hi; simp
    · simp [hi]
  · rw [if_neg h, if_neg h]

/-- a pending write: replaces the value under an existing log key of `s` by a protobuf-encoded
entry with the same meaning -/
def Good (s : Store) (p : Bytes × Val) : Prop :=
  ∃ f e e', e'.index < 2^64 ∧ p = (be64 e'.index, Val.log .proto e') ∧
    (be64 e'.index, Val.log f e) ∈ s.kv ∧ LogEntry.sem e' = LogEntry.sem e

/-- `db` is a well-formed database with the same abstract contents as `s` -/
def Equiv (s : Store) (db : KV) : Prop :=
  WF ⟨db, s.useProto⟩ ∧
  (∀ i, i < 2^64 →
    (logView ⟨db, s.useProto⟩ i).map LogEntry.sem = (logView s i).map LogEntry.sem) ∧
  ∀ k, stableView ⟨db, s.useProto⟩ k = stableView s k

theorem equiv_put (s : Store) (h : WF s) (db : KV) (p : Bytes × Val) (hd : Equiv s db)
    (hp : Good s p) : Equiv s (kvPut db p.1 p.2) := by
  obtain ⟨f, e, e', hi, rfl, hm, hsem⟩ := hp
  obtain ⟨h1, h2, h3⟩ := hd
  refine ⟨wf_put_log ⟨db, s.useProto⟩ _ _ e' h1 hi, fun j hj => ?_, fun k => ?_⟩
  · rw [logView_put_log ⟨db, s.useProto⟩ _ _ e' hi j hj]
    by_cases hje : j = e'.index
    · subst hje
      rw [if_pos rfl, logView_of_mem s h.1 _ f e hm]
      simp only [Option.map_some, hsem]
    · rw [if_neg hje]; exact h2 j hj
  · rw [stableView_put_log ⟨db, s.useProto⟩]; exact h3 k

theorem equiv_flush (s : Store) (h : WF s) (pending : List (Bytes × Val)) (db : KV)
    (hd : Equiv s db) (hp : ∀ p ∈ pending, Good s p) :
    Equiv s (pending.foldl (fun m p => kvPut m p.1 p.2) db) :=
  List.foldlRecOn (motive := Equiv s) pending _ hd fun db hd p hm => equiv_put s h db p hd (hp p hm)

theorem convertEntry_good (s : Store) (h : WF s) (k : Bytes) (f : Fmt) (e : LogEntry)
    (hm : (k, Val.log f e) ∈ s.kv) (nv : Val) (hc : convertEntry f e = some (some nv)) :
    Good s (k, nv) := by
  have hk : k = be64 e.index ∧ e.index < 2^64 := by
    rcases h.2 _ _ hm with ⟨i, f', e0, hi, hk, hv, he⟩ | ⟨k', bs, _, hv⟩
    · cases hv; subst he; exact ⟨hk, hi⟩
    · cases hv
  obtain ⟨rfl, hi⟩ := hk
  unfold convertEntry at hc
  split at hc
  · split at hc
    · cases hc; exact ⟨f, e, e, hi, rfl, hm, rfl⟩
    · cases hc
  · split at hc
    · split at hc
      · rename_i g m hdata
        cases hc
        refine ⟨f, e, { e with data := .msg .proto (m.withDefaultId e.index) }, hi, rfl, hm, ?_⟩
        simp only [LogEntry.sem, Data.sem, hdata, withDefaultId_idem]
      · cases hc
    · cases hc

theorem convertLoop_nil (db : KV) (pending : List (Bytes × Val)) :
    convertLoop db pending [] = pending.foldl (fun m p => kvPut m p.1 p.2) db := rfl

theorem convertLoop_cons (db : KV) (pending : List (Bytes × Val)) (k : Bytes) (v : Val)
    (rest : KV) :
    convertLoop db pending ((k, v) :: rest) =
      if isStable k then pending.foldl (fun m p => kvPut m p.1 p.2) db
      else match v with
        | .raw _ => db
        | .log f e =>
          match convertEntry f e with
          | none => db
          | some w =>
            if e.type = 0 && (match w with | some nv => pending ++ [(k, nv)] | none => pending).length > 100 then
              convertLoop ((match w with | some nv => pending ++ [(k, nv)] | none => pending).foldl
                (fun (m : KV) (p : Bytes × Val) => kvPut m p.1 p.2) db) [] rest
            else convertLoop db (match w with | some nv => pending ++ [(k, nv)] | none => pending) rest := rfl

theorem equiv_convertLoop (s : Store) (h : WF s) (rest : KV) (db : KV)
    (pending : List (Bytes × Val)) (hd : Equiv s db) (hp : ∀ p ∈ pending, Good s p)
    (hr : ∀ x ∈ rest, x ∈ s.kv) : Equiv s (convertLoop db pending rest) := by
  induction rest generalizing db pending with
  | nil => rw [convertLoop_nil]; exact equiv_flush s h pending db hd hp
  | cons x rest ih =>
    obtain ⟨k, v⟩ := x
    have hr' : ∀ x ∈ rest, x ∈ s.kv := fun x hx => hr x (List.mem_cons_of_mem _ hx)
    rw [convertLoop_cons]
    split
    · exact equiv_flush s h pending db hd hp
    · split
      · exact hd
      · rename_i f e
        split
        · exact hd
        · rename_i w hw
          have hp' : ∀ p ∈ (match w with | some nv => pending ++ [(k, nv)] | none => pending),
              Good s p := by
            intro p hpm
            cases w with
            | none => exact hp p hpm
            | some nv =>
              rcases List.mem_append.1 hpm with hpm | hpm
              · exact hp p hpm
              · rw [List.mem_singleton.1 hpm]
                exact convertEntry_good s h k f e (hr _ List.mem_cons_self) nv hw
          generalize (match w with | some nv => pending ++ [(k, nv)] | none => pending) = pd
            at hp' ⊢
          split
          · exact ih _ [] (equiv_flush s h pd db hd hp') (fun _ hq => by cases hq) hr'
          · exact ih db pd hd hp' hr'

theorem equiv_convert (s : Store) (h : WF s) : Equiv s s.convertToProto.kv :=
  equiv_convertLoop s h _ s.kv [] ⟨h, fun _ _ => rfl, fun _ => rfl⟩ (fun _ hq => by cases hq)
    (fun x hx => List.dropWhile_subset _ hx)

/-! ## the bulk iterator (`GetBulkIterator(start, limit)`, read by FSM.Snapshot, Persist and Restore) -/

/-- a log index is visited iff it is stored and lies in `[start, limit)` -/
theorem C09_bulk_log_mem (s : Store) (a b i : Nat) (ha : a < 2^64) (hb : b < 2^64) (hi : i < 2^64) :
    be64 i ∈ s.bulkKeys a b ↔ (∃ v, (be64 i, v) ∈ s.kv) ∧ a ≤ i ∧ i < b := by
  rw [mem_bulkKeys, inRange_be64 a i (some b) ha hi (fun l hl => Option.some.inj hl ▸ hb), Option.all_some,
    Bool.and_eq_true, decide_eq_true_iff, decide_eq_true_iff]

/-- an empty or inverted range visits no log entry: `limit ≤ start` is not "no upper bound" (the snapshot
code passes `last+1` and, when everything was compacted, `first = last+1`) -/
theorem C09_bulk_empty (s : Store) (a b i : Nat) (ha : a < 2^64) (hb : b < 2^64) (hi : i < 2^64) (h : b ≤ a) :
    be64 i ∉ s.bulkKeys a b := by
  rw [C09_bulk_log_mem s a b i ha hb hi]; omega

example : (Store.storeLogs (Store.empty true) [⟨5, 1, 0, .raw [], [], 0, 0⟩, ⟨7, 1, 0, .raw [], [], 0, 0⟩]).bulkKeys 5 7 = [be64 5] := by decide +kernel
example : (Store.storeLogs (Store.empty true) [⟨5, 1, 0, .raw [], [], 0, 0⟩, ⟨7, 1, 0, .raw [], [], 0, 0⟩]).bulkKeys 8 8 = [] := by decide +kernel

theorem C09_convert_view (s : Store) (h : WF s) (i : Nat) (hi : i < 2^64) :
    (logView s.convertToProto i).map LogEntry.sem = (logView s i).map LogEntry.sem :=
  (equiv_convert s h).2.1 i hi

theorem C09_convert_stable (s : Store) (h : WF s) (k : Bytes) :
    stableView s.convertToProto k = stableView s k :=
  (equiv_convert s h).2.2 k

theorem C09_wf_convert (s : Store) (h : WF s) : WF s.convertToProto :=
  (equiv_convert s h).1

theorem C09_reopen_view (s : Store) (p : Bool) (h : WF s) (i : Nat) (hi : i < 2^64) :
    (logView (s.reopen p) i).map LogEntry.sem = (logView s i).map LogEntry.sem := by
  unfold Store.reopen
  cases p with
  | false => rfl
  | true => exact C09_convert_view ⟨s.kv, true⟩ h i hi

namespace Ex

/-- a command whose id is absent (0): the reader defaults it to the raft index -/
def m1 : RMsg := ⟨0, 0, 7, 1, 6, [80, 73, 78, 71], 1700000000000000000, [], [], 99, 0, []⟩
def m2 : RMsg := ⟨6, 0, 7, 2, 6, [74, 79, 73, 78], 1700000001000000000, [], [], 100, 0, []⟩
def e5 : LogEntry := ⟨5, 2, 0, .msg .json m1, [], 1700000000, 5⟩
def e6 : LogEntry := ⟨6, 2, 0, .msg .json m2, [], 1700000001, 0⟩
/-- a raft-internal entry (type 1) with an opaque payload -/
def e7 : LogEntry := ⟨7, 3, 1, .raw [1, 2], [], 1700000002, 0⟩
/-- a second write to index 7 (same batch: the later one wins) -/
def e7b : LogEntry := ⟨7, 4, 1, .raw [3], [], 1700000003, 0⟩
def e9 : LogEntry := ⟨9, 4, 0, .msg .proto m2, [], 1700000004, 0⟩

/-- "CurrentTerm" / "LastVoteCand" / "LastVoteTerm" -/
def kTerm : Bytes := [67, 117, 114, 114, 101, 110, 116, 84, 101, 114, 109]
def kCand : Bytes := [76, 97, 115, 116, 86, 111, 116, 101, 67, 97, 110, 100]
def kVoteTerm : Bytes := [76, 97, 115, 116, 86, 111, 116, 101, 84, 101, 114, 109]

/-- a legacy (JSON) store holding two stable keys and the log entries 5, 6, 7 -/
def s0 : Store :=
  (((Store.empty false).setUint64 kTerm 3).set kCand [110, 49]).storeLogs [e5, e7, e6, e7b]

/-- the invariant of the populated store, obtained by running the operations -/
theorem wf0 : WF s0 :=
  C09_wf_storeLogs _ _ (C09_wf_set _ _ _ (C09_wf_set _ _ _ (C09_wf_empty false))) (by decide)

/-- the database really holds five keys: three log keys first, then two stable keys -/
example : s0.kv.map (·.1) = [be64 5, be64 6, be64 7, stablePrefix ++ kTerm, stablePrefix ++ kCand] := by decide +kernel

/-- a store holding only stable keys -/
def sStable : Store := ((Store.empty false).setUint64 kTerm 3).set kCand [110, 49]
theorem wfStable : WF sStable := C09_wf_set _ _ _ (C09_wf_set _ _ _ (C09_wf_empty false))
theorem stable_no_logs : ∀ i, i < 2^64 → logView sStable i = none := by
  intro i _
  show logView (((Store.empty false).set kTerm (be64 3)).set kCand [110, 49]) i = none
  rw [C09_set_log _ _ _ (C09_wf_set _ _ _ (C09_wf_empty false)), C09_set_log _ _ _ (C09_wf_empty false)]
  rfl

example : lexLt (be64 255) (be64 256) = true := (C09_be64_lt 255 256 (by decide) (by decide)).2 (by decide)
example : (255 : Nat) < 4294967296 := (C09_be64_lt 255 4294967296 (by decide) (by decide)).1 (by decide)
/-- `C09_be64_inj`: its three hypotheses can only hold together when `a = b` (that is the statement); an
instance with syntactically different arguments … -/
example : 2 + 3 = 5 := C09_be64_inj (2 + 3) 5 (by decide) (by decide) (by decide)
/-- … and the bounds are needed: beyond 64 bits the encoding wraps around -/
example : be64 (18446744073709551616 + 5) = be64 5 := by decide

example : WF (s0.storeLogProto e9) := C09_wf_storeLogProto s0 e9 wf0 (by decide)
example : WF (s0.storeLogs [e9, e5]) := C09_wf_storeLogs s0 [e9, e5] wf0 (by decide)
example : WF (s0.deleteRange 6 7) := C09_wf_deleteRange s0 6 7 wf0
example : WF (s0.set kVoteTerm (be64 2)) := C09_wf_set s0 kVoteTerm (be64 2) wf0

example : s0.getLog 6 = (match logView s0 6 with | some e => .ok e | none => .error .notFound) :=
  C09_getLog s0 6 wf0 (by decide)
example : logView s0 6 = some e6 ∧ logView s0 7 = some e7b ∧ logView s0 8 = none := by decide +kernel
example : s0.getLog 6 = .ok e6 := (C09_getLog s0 6 wf0 (by decide)).trans rfl
example : s0.getLog 8 = .error .notFound := (C09_getLog s0 8 wf0 (by decide)).trans rfl
example : s0.get kCand = .ok (some [110, 49]) := (C09_get s0 kCand wf0).trans rfl
example : s0.get kVoteTerm = .ok none := (C09_get s0 kVoteTerm wf0).trans rfl

example : logView (s0.storeLogProto e9) 9 = some e9 :=
  (C09_storeLogProto_view s0 e9 wf0 (by decide) 9 (by decide)).trans rfl
example : logView (s0.storeLogProto e9) 5 = some e5 :=
  (C09_storeLogProto_view s0 e9 wf0 (by decide +kernel) 5 (by decide +kernel)).trans (by decide +kernel)
example : stableView (s0.storeLogProto e9) kTerm = some (be64 3) :=
  (C09_storeLogProto_stable s0 e9 wf0 kTerm).trans (by decide +kernel)

/-- a batch that writes index 7 twice and overwrites the stored entry 5 -/
example : logView (s0.storeLogs [e7, e9, e7b, { e5 with term := 8 }]) 7 = some e7b :=
  (C09_storeLogs_view s0 _ wf0 (by decide) 7 (by decide)).trans (by decide)
example : logView (s0.storeLogs [e7, e9, e7b, { e5 with term := 8 }]) 5 = some { e5 with term := 8 } :=
  (C09_storeLogs_view s0 _ wf0 (by decide) 5 (by decide)).trans (by decide)
example : logView (s0.storeLogs [e7, e9, e7b, { e5 with term := 8 }]) 6 = some e6 :=
  (C09_storeLogs_view s0 _ wf0 (by decide +kernel) 6 (by decide +kernel)).trans (by decide +kernel)
example : stableView (s0.storeLogs [e7, e9]) kCand = some [110, 49] :=
  (C09_storeLogs_stable s0 _ wf0 kCand).trans (by decide +kernel)

example : stableView (s0.set kCand [110, 50]) kCand = some [110, 50] :=
  (C09_set_view s0 kCand [110, 50] wf0 kCand).trans (by decide)
example : stableView (s0.set kCand [110, 50]) kTerm = some (be64 3) :=
  (C09_set_view s0 kCand [110, 50] wf0 kTerm).trans (by decide +kernel)
example : logView (s0.set kCand [110, 50]) 6 = some e6 := (C09_set_log s0 kCand [110, 50] wf0 6).trans (by decide +kernel)

example : (s0.setUint64 kTerm 4).getUint64 kTerm = .ok 4 := C09_uint64_roundtrip s0 kTerm 4 wf0 (by decide)
/-- reading back the value stored when `s0` was built -/
example : s0.getUint64 kTerm = .ok 3 := rfl
example : s0.getUint64 kVoteTerm = .ok 0 := C09_getUint64_missing s0 kVoteTerm wf0 (by decide +kernel)

example : logView (s0.deleteRange 6 7) 6 = none :=
  (C09_deleteRange_view s0 6 7 wf0 (by decide) (by decide) 6 (by decide)).trans (by decide)
example : logView (s0.deleteRange 6 7) 5 = some e5 :=
  (C09_deleteRange_view s0 6 7 wf0 (by decide +kernel) (by decide +kernel) 5 (by decide +kernel)).trans (by decide +kernel)
/-- the upper bound `MaxUint64` (no `max+1`) -/
example : logView (s0.deleteRange 6 18446744073709551615) 7 = none :=
  (C09_deleteRange_view s0 6 18446744073709551615 wf0 (by decide) (by decide) 7 (by decide)).trans (by decide)
example : stableView (s0.deleteRange 0 18446744073709551615) kTerm = some (be64 3) :=
  (C09_deleteRange_stable s0 0 18446744073709551615 wf0 kTerm).trans (by decide +kernel)

/-- no log entries, but a non-empty database (stable keys only) -/
example : sStable.firstIndex = .ok 0 := C09_firstIndex sStable wfStable stable_no_logs
example : sStable.lastIndex = .ok 0 := C09_lastIndex sStable wfStable stable_no_logs
example : sStable.kv.length = 2 := by decide

/-- the same after every entry of the populated store was deleted -/
theorem deleted_no_logs : ∀ i, i < 2^64 → logView (s0.deleteRange 0 18446744073709551615) i = none := by
  intro i hi
  rw [C09_deleteRange_view s0 0 18446744073709551615 wf0 (by decide) (by decide) i hi, if_pos (by omega)]
example : (s0.deleteRange 0 18446744073709551615).firstIndex = .ok 0 :=
  C09_firstIndex _ (C09_wf_deleteRange s0 _ _ wf0) deleted_no_logs
example : (s0.deleteRange 0 18446744073709551615).lastIndex = .ok 0 :=
  C09_lastIndex _ (C09_wf_deleteRange s0 _ _ wf0) deleted_no_logs

example : ∃ n, s0.firstIndex = .ok n ∧ n ≤ 6 ∧ (logView s0 n).isSome ∧
    ∀ j, j < 2^64 → (logView s0 j).isSome → n ≤ j :=
  C09_firstIndex_least s0 wf0 6 (by decide +kernel) e6 (by decide +kernel)
example : ∃ n, s0.lastIndex = .ok n ∧ 6 ≤ n ∧ (logView s0 n).isSome ∧
    ∀ j, j < 2^64 → (logView s0 j).isSome → j ≤ n :=
  C09_lastIndex_greatest s0 wf0 6 (by decide +kernel) e6 (by decide +kernel)
/-- the scans skip the stable keys (which sort *after* the log keys) and find 5 and 7 -/
example : s0.firstIndex = .ok 5 ∧ s0.lastIndex = .ok 7 := ⟨rfl, rfl⟩

example : be64 6 ∈ s0.bulkKeys 6 8 :=
  (C09_bulk_log_mem s0 6 8 6 (by decide +kernel) (by decide +kernel) (by decide +kernel)).2 ⟨⟨.log .json e6, by decide +kernel⟩, by decide +kernel, by decide +kernel⟩
example : be64 5 ∉ s0.bulkKeys 6 8 := fun h =>
  absurd ((C09_bulk_log_mem s0 6 8 5 (by decide) (by decide) (by decide)).1 h).2.1 (by decide)
example : s0.bulkKeys 6 8 = [be64 6, be64 7] := by decide +kernel
example : be64 6 ∉ s0.bulkKeys 8 6 := C09_bulk_empty s0 8 6 6 (by decide) (by decide) (by decide) (by decide)
example : be64 6 ∉ s0.bulkKeys 6 6 := C09_bulk_empty s0 6 6 6 (by decide) (by decide) (by decide) (by decide)

example : (logView s0.convertToProto 5).map LogEntry.sem = (logView s0 5).map LogEntry.sem :=
  C09_convert_view s0 wf0 5 (by decide)
/-- the conversion really rewrites the entry (new encoding, id defaulted to the index), so the
equality above is not an equality of identical stores -/
example : logView s0.convertToProto 5 = some { e5 with data := .msg .proto { m1 with id := 5 } } ∧
    logView s0.convertToProto 5 ≠ logView s0 5 ∧
    s0.convertToProto.kv.map (·.2) ≠ s0.kv.map (·.2) := by decide +kernel
example : stableView s0.convertToProto kCand = some [110, 49] := (C09_convert_stable s0 wf0 kCand).trans (by decide +kernel)
example : WF s0.convertToProto := C09_wf_convert s0 wf0
example : (logView (s0.reopen true) 6).map LogEntry.sem = (logView s0 6).map LogEntry.sem :=
  C09_reopen_view s0 true wf0 6 (by decide)
example : logView (s0.reopen true) 6 = some { e6 with data := .msg .proto m2 } := by decide +kernel
example : (logView (s0.reopen false) 6).map LogEntry.sem = (logView s0 6).map LogEntry.sem :=
  C09_reopen_view s0 false wf0 6 (by decide)

end Ex

end Robust.Props.C09
