import Robust.Stream.Sys
/-!
The state invariant `Inv` of the output-stream model (`Robust.Stream.OS`), what `Add`, `Delete` and a read
through the cache do to a state that satisfies it, and the specifications `P1Spec` / `P2Spec` of the two
phases of `GetNext` (with `Dangling` and the range search `OS.search` they speak of), for the C08 theorems
(`Robust.Props.C08`).
-/
namespace Robust
namespace Stream

structure Inv (s : OS) : Prop where
  sorted : SMap.Sorted s.db
  /-- key = id of the first message of the batch -/
  keyId : ∀ k b, SMap.get s.db k = some b → b.id? = some k ∧ k < noNext
  lastIs : ∃ lid lb, s.db.getLast? = some (lid, lb) ∧ s.last.id? = some lid ∧
    lb.msgs = s.last.msgs ∧ lb.next = noNext ∧ s.last.next = noNext
  link : ∀ k b, SMap.get s.db k = some b →
    (b.next = noNext ∧ (∀ k' ∈ SMap.keys s.db, k' ≤ k)) ∨
    (k < b.next ∧ b.next < noNext ∧ ∀ k' ∈ SMap.keys s.db, k < k' → b.next ≤ k')
  /-- what the cache holds under a key is what the database holds under it (the cache may hold less) -/
  cacheOk : ∀ k c, SMap.get s.cache k = some c → SMap.get s.db k = some c

/-- the batch stored under `c` points to an id that is not stored (its successor was deleted) -/
def Dangling (s : OS) (c : Nat) : Prop :=
  ∃ b, SMap.get s.db c = some b ∧ b.next < noNext ∧ b.next ∉ SMap.keys s.db

namespace Inv
variable {s : OS}

theorem key_lt (h : Inv s) (k : Nat) (hk : k ∈ SMap.keys s.db) : k < noNext := by
  obtain ⟨b, hb⟩ := SMap.mem_keys_get _ _ hk
  exact (h.keyId k b hb).2

theorem noNext_notMem (h : Inv s) : noNext ∉ SMap.keys s.db := by
  intro hk; have := h.key_lt _ hk; omega

theorem max_of_not_lt (h : Inv s) (k : Nat) (b : Batch) (hb : SMap.get s.db k = some b)
    (hn : ¬ b.next < noNext) : ∀ k' ∈ SMap.keys s.db, k' ≤ k := by
  rcases h.link k b hb with ⟨_, hm⟩ | ⟨_, h2, _⟩
  · exact hm
  · exact absurd h2 hn

theorem succ_of_lt (h : Inv s) (k : Nat) (b : Batch) (hb : SMap.get s.db k = some b)
    (hn : b.next < noNext) : k < b.next ∧ ∀ k' ∈ SMap.keys s.db, k < k' → b.next ≤ k' := by
  rcases h.link k b hb with ⟨h1, _⟩ | ⟨h1, _, h3⟩
  · omega
  · exact ⟨h1, h3⟩

theorem next_of_max (h : Inv s) (k : Nat) (b : Batch) (hb : SMap.get s.db k = some b)
    (hmax : ∀ k' ∈ SMap.keys s.db, k' ≤ k) : b.next = noNext := by
  obtain ⟨lid, lb, h1, _, _, h4, _⟩ := h.lastIs
  have := SMap.getLast_of_max _ h.sorted k b hb hmax
  rw [h1] at this; cases this; exact h4

/-- `db` and `last` carry the invariant; any cache that is coherent with `db` will do -/
theorem withCache (h : Inv s) (c : SMap Batch)
    (hc : ∀ k b, SMap.get c k = some b → SMap.get s.db k = some b) : Inv { s with cache := c } :=
  ⟨h.sorted, h.keyId, h.lastIs, h.link, hc⟩

end Inv

/-- `getUnlocked` reads through the cache: the answer is what `db` stores, and the state afterwards
differs in the cache only.  The lemmas on the phases of `GetNext` are therefore stated on states
`{ s with cache := c }`, whose `db` is `s.db` by reduction. -/
theorem getU_eq (s : OS) (k : Nat) (h : Inv s) :
    ∃ c, s.getU k = ({ s with cache := c }, SMap.get s.db k) ∧ Inv { s with cache := c } := by
  unfold OS.getU
  cases hc : SMap.get s.cache k with
  | some b => exact ⟨s.cache, by rw [h.cacheOk k b hc], h⟩
  | none =>
    cases hd : SMap.get s.db k with
    | none => exact ⟨s.cache, rfl, h⟩
    | some b =>
      refine ⟨_, rfl, h.withCache _ fun k' c' hc' => ?_⟩
      rw [SMap.get_put] at hc'
      split at hc'
      · rename_i hk; subst hk; cases hc'; exact hd
      · exact h.cacheOk k' c' hc'

/-- what `Add msgs` does when `m` is the first message, `lid` the greatest stored key and `lb` its batch:
the batch under `lid` is re-pointed to the new key `m.id`, which holds `msgs` -/
structure AddEffect (s s' : OS) (msgs : List Msg) (m : Msg) (lid : Nat) (lb : Batch) : Prop where
  head : msgs.head? = some m
  lastId : s.last.id? = some lid
  lastGet : SMap.get s.db lid = some lb
  lastMsgs : lb.msgs = s.last.msgs
  max : ∀ k' ∈ SMap.keys s.db, k' ≤ lid
  above : lid < m.id
  bound : m.id < noNext
  last : s'.last = ⟨msgs, noNext⟩
  cache : s'.cache = SMap.erase s.cache lid
  get : ∀ k, SMap.get s'.db k = if k = m.id then some ⟨msgs, noNext⟩
    else if k = lid then some ⟨s.last.msgs, m.id⟩ else SMap.get s.db k
  keys : ∀ k, k ∈ SMap.keys s'.db ↔ k = m.id ∨ k ∈ SMap.keys s.db
  sorted : SMap.Sorted s'.db

theorem add_effect (s s' : OS) (msgs : List Msg) (h : Inv s) (hok : AddOk s msgs)
    (ha : s.add msgs = some s') : ∃ m lid lb, AddEffect s s' msgs m lid lb := by
  obtain ⟨m, hm, hgt, hlt⟩ := hok
  obtain ⟨lid, lb, hl, h1, h3, _, _⟩ := h.lastIs
  obtain ⟨h2, h6⟩ := SMap.getLast_max _ h.sorted _ _ hl
  have hlid : lid ∈ SMap.keys s.db := SMap.get_some_mem _ _ _ h2
  unfold OS.add at ha
  rw [hm, h1] at ha
  simp only [Option.some.injEq] at ha
  subst ha
  refine ⟨m, lid, lb, hm, h1, h2, h3, h6, hgt lid hlid, hlt, rfl, rfl, ?_, ?_, ?_⟩
  · intro k
    simp only [SMap.get_put]
  · intro k
    simp only [SMap.keys_put_mem]
    constructor
    · rintro (hk | hk | hk)
      · exact Or.inl hk
      · subst hk; exact Or.inr hlid
      · exact Or.inr hk
    · rintro (hk | hk)
      · exact Or.inl hk
      · exact Or.inr (Or.inr hk)
  · exact SMap.sorted_put _ _ _ (SMap.sorted_put _ _ _ h.sorted)

/-- what `Delete` does: plain erase, or (tail) re-point to the predecessor; it panics only when asked to
delete the one batch that is stored -/
theorem delete_cases (s : OS) (id : Nat) (h : Inv s) :
    ∃ lid lb, s.last.id? = some lid ∧ SMap.get s.db lid = some lb ∧
      (∀ k' ∈ SMap.keys s.db, k' ≤ lid) ∧
      ((id ≠ lid ∧ s.delete id = some ⟨SMap.erase s.db id, s.last, SMap.erase s.cache id⟩) ∨
       (id = lid ∧ ∃ pk mb, SMap.get s.db pk = some mb ∧ pk < lid ∧
          (∀ k ∈ SMap.keys s.db, k = lid ∨ k ≤ pk) ∧
          s.delete id = some ⟨SMap.erase (SMap.put s.db pk ⟨mb.msgs, noNext⟩) lid, ⟨mb.msgs, noNext⟩,
                SMap.erase (SMap.erase s.cache pk) lid⟩) ∨
       (id = lid ∧ (∀ k ∈ SMap.keys s.db, k = lid) ∧ s.delete id = none)) := by
  obtain ⟨lid, lb, hl1, hl2, _, _, _⟩ := h.lastIs
  obtain ⟨hg, hmax⟩ := SMap.getLast_max _ h.sorted _ _ hl1
  refine ⟨lid, lb, hl2, hg, hmax, ?_⟩
  unfold OS.delete
  rw [hl2]
  simp only
  split
  · rename_i hid
    subst hid
    right
    split
    · rename_i hrev
      rw [List.reverse_eq_nil_iff.1 hrev] at hg; cases hg
    · rename_i e hrev
      have hdb : s.db = [e] := by simpa using congrArg List.reverse hrev
      rw [hdb] at hl1 ⊢
      cases hl1
      exact Or.inr ⟨rfl, fun k hk => by simpa [SMap.keys] using hk, rfl⟩
    · rename_i e1 pk mb rest hrev
      obtain ⟨r1, r2, r3, r4⟩ := SMap.reverse_two _ _ _ _ _ h.sorted hrev
      rw [hl1] at r2
      cases r2
      rw [(h.keyId pk mb r1).1]
      exact Or.inl ⟨rfl, pk, mb, r1, r3, r4, rfl⟩
  · rename_i hid
    exact Or.inl ⟨hid, rfl⟩

/-- what `Delete id` does when it returns: the key `id` goes, the greatest key afterwards is `nl`, and it holds
what was stored under it before (`ob`) with the successor cleared; `last` is that batch -/
structure DeleteEffect (s s' : OS) (id nl : Nat) (ob : Batch) : Prop where
  ne : nl ≠ id
  old : SMap.get s.db nl = some ob
  last : s'.last = ⟨ob.msgs, noNext⟩
  get : ∀ k, SMap.get s'.db k = if k = id then none else if k = nl then some ⟨ob.msgs, noNext⟩ else SMap.get s.db k
  keys : ∀ k, k ∈ SMap.keys s'.db ↔ k ∈ SMap.keys s.db ∧ k ≠ id
  max : ∀ k ∈ SMap.keys s'.db, k ≤ nl
  sorted : SMap.Sorted s'.db
  cacheOk : ∀ k c, SMap.get s'.cache k = some c → SMap.get s'.db k = some c

theorem delete_effect (s s' : OS) (id : Nat) (h : Inv s) (hd : s.delete id = some s') :
    ∃ nl ob, DeleteEffect s s' id nl ob := by
  obtain ⟨lid, lb, hlast, hlb, hmax, hcase⟩ := delete_cases s id h
  rcases hcase with ⟨hne, hdel⟩ | ⟨rfl, pk, mb, hpk, hpklt, hshape, hdel⟩ | ⟨_, _, hdel⟩ <;>
    rw [hdel] at hd <;> cases hd
  · -- plain erase: the greatest key stays, and its batch already is `⟨lb.msgs, noNext⟩`
    obtain ⟨_, _, hl1, hl2, hl3, hl4, hl5⟩ := h.lastIs
    rw [hlast] at hl2; cases hl2
    have hg := (SMap.getLast_max _ h.sorted _ _ hl1).1
    rw [hlb] at hg; cases hg
    have elb : (⟨lb.msgs, noNext⟩ : Batch) = lb := by rw [← hl4]
    have hget : ∀ k, SMap.get (SMap.erase s.db id) k =
        if k = id then none else if k = lid then some ⟨lb.msgs, noNext⟩ else SMap.get s.db k := fun k => by
      rw [SMap.get_erase]
      split
      · rfl
      · split
        · rename_i hk; rw [hk, elb]; exact hlb
        · rfl
    refine ⟨lid, lb, Ne.symm hne, hlb, by rw [hl3, ← hl5], hget,
      SMap.keys_erase_mem _ _, fun k hk => hmax k ((SMap.keys_erase_mem _ _ _).1 hk).1,
      SMap.sorted_erase _ _ h.sorted, fun k c hc => ?_⟩
    rw [SMap.get_erase] at hc ⊢
    split at hc
    · cases hc
    · rename_i hk; rw [if_neg hk]; exact h.cacheOk k c hc
  · -- tail deletion: the predecessor `pk` becomes the greatest key
    have hpkmem : pk ∈ SMap.keys s.db := SMap.get_some_mem _ _ _ hpk
    have hkeys : ∀ k, k ∈ SMap.keys (SMap.erase (SMap.put s.db pk ⟨mb.msgs, noNext⟩) id) ↔
        k ∈ SMap.keys s.db ∧ k ≠ id := fun k => by
      rw [SMap.keys_erase_mem, SMap.keys_put_mem]
      exact ⟨fun ⟨hk, hne⟩ => ⟨hk.elim (fun e => e ▸ hpkmem) (fun hk => hk), hne⟩, fun ⟨hk, hne⟩ => ⟨Or.inr hk, hne⟩⟩
    refine ⟨pk, mb, by omega, hpk, rfl, fun k => by rw [SMap.get_erase, SMap.get_put], hkeys,
      fun k hk => (hshape k ((hkeys k).1 hk).1).resolve_left ((hkeys k).1 hk).2,
      SMap.sorted_erase _ id (SMap.sorted_put _ pk _ h.sorted), fun k c hc => ?_⟩
    simp only [SMap.get_erase] at hc
    split at hc
    · cases hc
    · split at hc
      · cases hc
      · rename_i hk hkp
        rw [SMap.get_erase, SMap.get_put, if_neg hk, if_neg hkp]; exact h.cacheOk k c hc

/-- the range search of phase 1 (the local `search` of `OS.getNextP1`) -/
def OS.search (s : OS) (x : Nat) : OS × P1 :=
  match SMap.firstGt s.db x with
  | some (_, mb) => (s, .ret mb.msgs)
  | none =>
    match s.db.getLast? with
    | none => (s, .panic)
    | some (_, lb) => match lb.id? with
      | some lid => (s, .park lid)
      | none => (s, .panic)

/-- specification of a phase-1 result against the stream `s`; a reader is parked only behind
the greatest stored key, and only if that key is `≤ x` -/
def P1Spec (s : OS) (x : Nat) : P1 → Prop
  | .ret m => leastAbove s x m
  | .park cur => cur ∈ SMap.keys s.db ∧ cur ≤ x ∧ ∀ k ∈ SMap.keys s.db, k ≤ cur
  | .panic => False

theorem search_spec (s : OS) (x : Nat) (h : Inv s) :
    (s.search x).1 = s ∧ P1Spec s x (s.search x).2 := by
  unfold OS.search
  cases hf : SMap.firstGt s.db x with
  | some e =>
    obtain ⟨k, mb⟩ := e
    obtain ⟨f1, f2, f3⟩ := SMap.firstGt_least _ _ h.sorted _ _ hf
    exact ⟨rfl, k, mb, SMap.firstGt_get _ _ h.sorted _ _ hf, rfl, f1, f3⟩
  | none =>
    obtain ⟨lid, lb, hl1, _⟩ := h.lastIs
    obtain ⟨hg, hmax⟩ := SMap.getLast_max _ h.sorted _ _ hl1
    have hm := SMap.get_some_mem _ _ _ hg
    simp only [hl1, (h.keyId lid lb hg).1]
    exact ⟨trivial, hm, SMap.firstGt_none _ _ hf lid hm, hmax⟩

theorem p1_spec (s : OS) (x : Nat) (h : Inv s) :
    ∃ c, (s.getNextP1 x).1 = { s with cache := c } ∧ Inv { s with cache := c } ∧
      P1Spec s x (s.getNextP1 x).2 := by
  unfold OS.getNextP1
  obtain ⟨c1, e1, i1⟩ := getU_eq s x h
  rw [e1]
  cases hx : SMap.get s.db x with
  | none => obtain ⟨e, sp⟩ := search_spec _ x i1; exact ⟨c1, e, i1, sp⟩
  | some c =>
    simp only
    split
    · rename_i hlt
      obtain ⟨c2, e2, i2⟩ := getU_eq _ c.next i1
      rw [e2]
      cases hn : SMap.get s.db c.next with
      | none => obtain ⟨e, sp⟩ := search_spec _ x i2; exact ⟨c2, e, i2, sp⟩
      | some n =>
        obtain ⟨g1, g2⟩ := h.succ_of_lt x c hx hlt
        exact ⟨c2, rfl, i2, c.next, n, hn, rfl, g1, g2⟩
    · rename_i hlt
      rw [(h.keyId x c hx).1]
      exact ⟨c1, rfl, i1, SMap.get_some_mem _ _ _ hx, Nat.le_refl _, h.max_of_not_lt x c hx hlt⟩

/-- specification of the result of a wait-loop stretch entered behind `cur`: it returns the
least stored batch above `x`, blocks only if nothing above `x` is stored, and starts over only
if `cur` has been deleted or the chain from `cur` reaches (at or below `x`) a batch whose
successor has been deleted -/
def P2Spec (s : OS) (x cur : Nat) : P2 → Prop
  | .ret m => leastAbove s x m
  | .wait c => c ∈ SMap.keys s.db ∧ c ≤ x ∧ noneAbove s x
  | .restart => cur ∉ SMap.keys s.db ∨ ∃ c, cur ≤ c ∧ c ≤ x ∧ Dangling s c
  | .panic => False

theorem p2_gen (x : Nat) : ∀ (fuel : Nat) (s : OS) (cur : Nat), Inv s → cur ≤ x →
    ((SMap.keys s.db).filter (fun k => cur < k)).length < fuel →
    ∃ c, (s.getNextP2 x fuel cur).1 = { s with cache := c } ∧ Inv { s with cache := c } ∧
      P2Spec s x cur (s.getNextP2 x fuel cur).2 := by
  intro fuel
  induction fuel with
  | zero => intro s cur _ _ hf; exact absurd hf (Nat.not_lt_zero _)
  | succ fuel ih =>
    intro s cur h hc hf
    rw [OS.getNextP2]
    obtain ⟨c1, e1, i1⟩ := getU_eq s cur h
    rw [e1]
    cases hcur : SMap.get s.db cur with
    | none => exact ⟨c1, rfl, i1, Or.inl ((SMap.get_none_iff _ _).1 hcur)⟩
    | some c =>
      simp only
      obtain ⟨c2, e2, i2⟩ := getU_eq _ c.next i1
      rw [e2]
      cases hn : SMap.get s.db c.next with
      | none =>
        simp only
        split
        · rename_i hlt
          exact ⟨c2, rfl, i2, Or.inr ⟨cur, Nat.le_refl _, hc, c, hcur, hlt, (SMap.get_none_iff _ _).1 hn⟩⟩
        · rename_i hlt
          exact ⟨c2, rfl, i2, SMap.get_some_mem _ _ _ hcur, hc,
            fun k hk => Nat.le_trans (h.max_of_not_lt cur c hcur hlt k hk) hc⟩
      | some n =>
        simp only
        have hmem := SMap.get_some_mem _ _ _ hn
        obtain ⟨g1, g2⟩ := h.succ_of_lt cur c hcur (h.key_lt _ hmem)
        rw [(h.keyId c.next n hn).1]
        simp only
        split
        · rename_i hle
          -- the chain continues at `c.next ≤ x`: fewer keys lie above it
          obtain ⟨c3, e3, i3, sp3⟩ := ih _ c.next i2 hle (by
            have := SMap.filter_gt_length_lt (SMap.keys s.db) cur c.next g1 hmem
            show ((SMap.keys s.db).filter _).length < fuel
            omega)
          refine ⟨c3, e3, i3, ?_⟩
          generalize (OS.getNextP2 _ x fuel c.next).2 = r at sp3
          cases r with
          | ret m => exact sp3
          | wait c' => exact sp3
          | restart =>
            rcases sp3 with h1 | ⟨c', h1, h2, h3⟩
            · exact absurd hmem h1
            · exact Or.inr ⟨c', by omega, h2, h3⟩
          | panic => exact sp3
        · rename_i hgt
          exact ⟨c2, rfl, i2, c.next, n, hn, rfl, by omega, fun k' hk' hlt => g2 k' hk' (by omega)⟩

theorem p2_of_max (s : OS) (x fuel cur : Nat) (h : Inv s) (hm : cur ∈ SMap.keys s.db)
    (hmax : ∀ k ∈ SMap.keys s.db, k ≤ cur) : (s.getNextP2 x (fuel + 1) cur).2 = .wait cur := by
  rw [OS.getNextP2]
  obtain ⟨c1, e1, i1⟩ := getU_eq s cur h
  rw [e1]
  cases hcur : SMap.get s.db cur with
  | none => exact absurd hm ((SMap.get_none_iff _ _).1 hcur)
  | some c =>
    simp only
    have hn := h.next_of_max cur c hcur hmax
    obtain ⟨c2, e2, i2⟩ := getU_eq _ c.next i1
    rw [e2, hn, (SMap.get_none_iff _ _).2 h.noNext_notMem]
    simp only [if_neg (Nat.lt_irrefl _)]

theorem p2_spec (s : OS) (x cur : Nat) (h : Inv s) (hc : cur ≤ x) :
    ∃ c, (s.getNextP2 x (s.db.length + 1) cur).1 = { s with cache := c } ∧ Inv { s with cache := c } ∧
      P2Spec s x cur (s.getNextP2 x (s.db.length + 1) cur).2 := by
  apply p2_gen x _ s cur h hc
  have h1 := List.length_filter_le (fun k => decide (cur < k)) (SMap.keys s.db)
  have h2 : (SMap.keys s.db).length = s.db.length := by simp [SMap.keys]
  omega

end Stream
end Robust
