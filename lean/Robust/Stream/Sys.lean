import Robust.Stream.OS
/-!
The concurrent system: one `OutputStream` and any number of `GetNext` calls in flight.
Every transition is one lock region of the Go code (writers: `Add`, `Delete`, `Get`,
`InterruptGetNext`; readers: phase 1, or one write-locked stretch of the wait loop), so every
interleaving of the real lock-protected steps is a path of `Step`.
-/
namespace Robust.Stream
open Robust

/-- precondition of `Add` stated by the property: non-empty, id above every stored id -/
def AddOk (s : OS) (msgs : List Msg) : Prop :=
  ∃ m, msgs.head? = some m ∧ (∀ k ∈ SMap.keys s.db, k < m.id) ∧ m.id < noNext

inductive PC where
  | ready (cur : Option Nat)   -- runnable: `none` = about to run phase 1; `some c` = about to run a wait-loop stretch behind `c`
  | waiting (cur : Nat)        -- blocked in `Cond.Wait` behind `c`, not signalled since it blocked
  | returned (msgs : Option (List Msg))  -- `none` = returned `[]`
  | crashed
  deriving Repr, DecidableEq

structure RThread where
  x : Nat
  cancelled : Bool
  pc : PC
  deriving Repr, DecidableEq

structure Sys where
  os : OS
  rs : List RThread
  deriving Repr

/-- `Cond.Broadcast`: every waiter becomes runnable -/
def signal (t : RThread) : RThread :=
  match t.pc with
  | .waiting c => { t with pc := .ready (some c) }
  | _ => t

/-- one atomic step of reader `t` against stream `os` (only defined for runnable readers) -/
def readerStep (os : OS) (t : RThread) : OS × RThread :=
  match t.pc with
  | .ready none =>
    match os.getNextP1 t.x with
    | (os1, .ret m) => (os1, { t with pc := .returned (some m) })
    | (os1, .park c) => (os1, { t with pc := .ready (some c) })
    | (os1, .panic) => (os1, { t with pc := .crashed })
  | .ready (some c) =>
    match os.getNextP2 t.x (os.db.length + 1) c with
    | (os1, .ret m) => (os1, { t with pc := .returned (some m) })
    | (os1, .wait c') => (os1, { t with pc := if t.cancelled then .returned none else .waiting c' })
    | (os1, .restart) => (os1, { t with pc := .ready none })
    | (os1, .panic) => (os1, { t with pc := .crashed })
  | _ => (os, t)

inductive Step : Sys → Sys → Prop where
  | add (σ : Sys) (msgs : List Msg) (os' : OS) : AddOk σ.os msgs → σ.os.add msgs = some os' →
      Step σ ⟨os', σ.rs.map signal⟩
  | delete (σ : Sys) (id : Nat) (os' : OS) : id ≠ 0 → σ.os.delete id = some os' → Step σ ⟨os', σ.rs⟩
  | get (σ : Sys) (id : Nat) : Step σ ⟨(σ.os.get id).1, σ.rs⟩
  | interrupt (σ : Sys) : Step σ ⟨σ.os, σ.rs.map signal⟩
  | call (σ : Sys) (x : Nat) : Step σ ⟨σ.os, σ.rs ++ [⟨x, false, .ready none⟩]⟩
  | cancel (σ : Sys) (i : Nat) (t : RThread) : σ.rs[i]? = some t →
      Step σ ⟨σ.os, σ.rs.set i { t with cancelled := true }⟩
  | reader (σ : Sys) (i : Nat) (t : RThread) (c : Option Nat) : σ.rs[i]? = some t → t.pc = .ready c →
      Step σ ⟨(readerStep σ.os t).1, σ.rs.set i (readerStep σ.os t).2⟩

inductive Reach : Sys → Prop where
  | init : Reach ⟨OS.init, []⟩
  | step (σ σ' : Sys) : Reach σ → Step σ σ' → Reach σ'

/-- the batch with the least stored id greater than `x`, if any -/
def leastAbove (s : OS) (x : Nat) (m : List Msg) : Prop :=
  ∃ k b, SMap.get s.db k = some b ∧ b.msgs = m ∧ x < k ∧ ∀ k' ∈ SMap.keys s.db, x < k' → k ≤ k'

def noneAbove (s : OS) (x : Nat) : Prop := ∀ k ∈ SMap.keys s.db, k ≤ x

end Robust.Stream
