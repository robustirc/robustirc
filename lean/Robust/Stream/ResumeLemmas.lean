import Robust.Stream.Resume
/-!
Helper lemmas for C04 (resume exactly-once) about the model in `Robust.Stream.Resume`.
-/
namespace Robust.Stream.Resume

def above (x : Nat) (b : List M) : Bool :=
  match batchId b with
  | some i => x < i
  | none => false

theorem succBatch_eq (net : Net) (x : Nat) : succBatch net x = (net.filter (above x)).head? := by
  rw [List.head?_filter]; rfl

theorem getBatch_eq (net : Net) (i : Nat) :
    getBatch net i = (net.filter (fun b => batchId b == some i)).head? := by
  rw [List.head?_filter]; rfl

theorem WfBatch.exists_id {b : List M} (h : WfBatch b) :
    ∃ i, batchId b = some i ∧ ∀ m ∈ b, m.id = i := by
  obtain ⟨hne, hj⟩ := h
  cases b with
  | nil => exact absurd rfl hne
  | cons x xs =>
    refine ⟨x.id, rfl, ?_⟩
    intro m hm
    obtain ⟨j, hlt, rfl⟩ := List.getElem_of_mem hm
    have := (hj j hlt).2
    simpa [batchId] using this

theorem WfBatch.reply_getElem {b : List M} (h : WfBatch b) (j : Nat) (hj : j < b.length) :
    (b[j]).reply = j + 1 := (h.2 j hj).1

/-- replies are numbered from 1: those above `r` are all but the first `r` messages -/
theorem WfBatch.filter_reply {b : List M} (h : WfBatch b) (r : Nat) :
    b.filter (fun m => decide (r < m.reply)) = b.drop r := by
  conv => lhs; rw [← List.take_append_drop r b]
  rw [List.filter_append, List.filter_eq_nil_iff.2, List.filter_eq_self.2, List.nil_append]
  · intro m hm
    obtain ⟨j, hj, rfl⟩ := List.mem_drop_iff_getElem.1 hm
    rw [h.reply_getElem]; exact decide_eq_true (by omega)
  · intro m hm
    obtain ⟨j, hj, rfl⟩ := List.mem_take_iff_getElem.1 hm
    rw [h.reply_getElem]; exact fun hd => absurd (of_decide_eq_true hd) (by omega)

theorem WfBatch.filter_after_same {b : List M} (h : WfBatch b) {i : Nat} (hi : batchId b = some i)
    (r : Nat) : b.filter (after i r) = b.drop r := by
  rw [← h.filter_reply r]
  obtain ⟨i', hi', hall⟩ := h.exists_id
  have : i' = i := by rw [hi] at hi'; exact (Option.some.inj hi').symm
  subst this
  apply List.filter_congr
  intro m hm
  simp [after, hall m hm]

theorem WfBatch.filter_after_gt {b : List M} (h : WfBatch b) {i j : Nat} (hj : batchId b = some j)
    (hlt : i < j) (r : Nat) : b.filter (after i r) = b := by
  obtain ⟨j', hj', hall⟩ := h.exists_id
  have : j' = j := by rw [hj] at hj'; exact (Option.some.inj hj').symm
  subst this
  rw [List.filter_eq_self]
  intro m hm
  simp [after, hall m hm, hlt]

theorem WfBatch.filter_id_gt {b : List M} (h : WfBatch b) (x : Nat) :
    b.filter (fun m => decide (x < m.id)) = if above x b then b else [] := by
  obtain ⟨j, hj, hall⟩ := h.exists_id
  by_cases hx : x < j
  · have : above x b = true := by simp [above, hj, hx]
    rw [this, if_pos rfl, List.filter_eq_self]
    intro m hm; simp [hall m hm, hx]
  · have : above x b = false := by simp [above, hj, hx]
    rw [this, List.filter_eq_nil_iff.2]
    · simp
    · intro m hm; simp [hall m hm, hx]

theorem above_mono {x j : Nat} (hxj : x ≤ j) {c : List M} (h : above j c = true) : above x c = true := by
  unfold above at *
  cases hc : batchId c with
  | none => simp [hc] at h
  | some k => simp [hc] at h ⊢; omega

theorem WfNet.sorted {net : Net} (h : WfNet net) :
    net.Pairwise (fun a b => ∀ i, batchId a = some i → ∀ j, batchId b = some j → i < j) :=
  List.pairwise_filterMap.1 h.2

theorem filter_above_above (net : Net) {x j : Nat} (hxj : x ≤ j) :
    (net.filter (above x)).filter (above j) = net.filter (above j) := by
  rw [List.filter_filter]
  apply List.filter_congr
  intro c _
  cases hc : above j c with
  | false => simp
  | true => simp [above_mono hxj hc]

theorem flat_filter_id_gt {net : Net} (h : ∀ b ∈ net, WfBatch b) (x : Nat) :
    (flat net).filter (fun m => decide (x < m.id)) = (net.filter (above x)).flatten := by
  induction net with
  | nil => rfl
  | cons b net ih =>
    have hb := h b (List.mem_cons_self)
    have ih' := ih (fun c hc => h c (List.mem_cons_of_mem _ hc))
    unfold flat at *
    rw [List.flatten_cons, List.filter_append, ih', hb.filter_id_gt, List.filter_cons]
    cases above x b <;> simp

theorem filter_above_cons {net : Net} (h : WfNet net) (x : Nat) {b : List M} {L' : List (List M)}
    (hL : net.filter (above x) = b :: L') :
    WfBatch b ∧ ∃ j, batchId b = some j ∧ (∀ m ∈ b, m.id = j) ∧ x < j ∧ net.filter (above j) = L' ∧
      ∃ m ms, b = m :: ms ∧ m.id = j := by
  have hbmem : b ∈ net.filter (above x) := by rw [hL]; exact List.mem_cons_self
  obtain ⟨hbnet, hbx⟩ := List.mem_filter.1 hbmem
  have hwb := h.1 b hbnet
  obtain ⟨j, hj, hall⟩ := hwb.exists_id
  have hxj : x < j := by simpa [above, hj] using hbx
  obtain ⟨m, ms, hb⟩ := List.exists_cons_of_ne_nil hwb.1
  refine ⟨hwb, j, hj, hall, hxj, ?_, m, ms, hb, hall m (hb ▸ List.mem_cons_self)⟩
  have hsorted := (h.sorted).filter (above x)
  rw [hL, List.pairwise_cons] at hsorted
  rw [← filter_above_above net (Nat.le_of_lt hxj), hL, List.filter_cons]
  have hbj : above j b = false := by simp [above, hj]
  rw [hbj]
  simp only [Bool.false_eq_true, if_false]
  rw [List.filter_eq_self]
  intro c hc
  have hcnet : c ∈ net := by
    have : c ∈ net.filter (above x) := by rw [hL]; exact List.mem_cons_of_mem _ hc
    exact (List.mem_filter.1 this).1
  obtain ⟨k, hk, _⟩ := (h.1 c hcnet).exists_id
  have := hsorted.1 c hc j hj k hk
  simp [above, hk, this]

theorem filter_above_nil_flat {net : Net} (h : WfNet net) (x : Nat)
    (hL : net.filter (above x) = []) : (flat net).filter (fun m => decide (x < m.id)) = [] := by
  rw [flat_filter_id_gt h.1, hL]; rfl

theorem filter_after_of_gt (net : Net) {i j : Nat} (hij : i ≤ j) (r : Nat) :
    ((flat net).filter (fun m => decide (j < m.id))).filter (after i r)
      = (flat net).filter (fun m => decide (j < m.id)) := by
  rw [List.filter_eq_self]
  intro m hm
  have := (List.mem_filter.1 hm).2
  simp at this
  simp [after]; omega

theorem filter_after_eq {net : Net} (i r : Nat) (hi : 0 < i) :
    (flat net).filter (after i r)
      = ((flat net).filter (fun m => decide (i - 1 < m.id))).filter (after i r) := by
  rw [List.filter_filter]
  apply List.filter_congr
  intro m _
  cases hm : after i r m with
  | false => simp
  | true =>
    simp [after] at hm
    simp; omega

theorem filter_after_nil {net : Net} (h : WfNet net) (i r : Nat) (hi : 0 < i)
    (hL : net.filter (above (i - 1)) = []) : (flat net).filter (after i r) = [] := by
  rw [filter_after_eq i r hi, filter_above_nil_flat h _ hL]; rfl

theorem filter_after_cons {net : Net} (h : WfNet net) (i r : Nat) (hi : 0 < i)
    {b : List M} {L' : List (List M)} (hL : net.filter (above (i - 1)) = b :: L') :
    ∃ j, batchId b = some j ∧ i ≤ j ∧
      (flat net).filter (after i r)
        = (if j = i then b.drop r else b) ++ (flat net).filter (fun m => decide (j < m.id)) := by
  obtain ⟨hwb, j, hj, hall, hlt, hL', -⟩ := filter_above_cons h (i - 1) hL
  refine ⟨j, hj, by omega, ?_⟩
  rw [filter_after_eq i r hi, flat_filter_id_gt h.1 (i - 1), hL, List.flatten_cons,
    List.filter_append, ← hL', ← flat_filter_id_gt h.1 j, filter_after_of_gt net (by omega) r]
  congr 1
  by_cases hji : j = i
  · subst hji; rw [if_pos rfl]; exact hwb.filter_after_same hj r
  · rw [if_neg hji]; exact hwb.filter_after_gt hj (by omega) r

/-- what a connection in state `s` still has to deliver -/
def pending (net : Net) (s : CState) : List M :=
  if s.seen then (flat net).filter (fun m => decide (s.lastId < m.id))
  else (flat net).filter (after s.lastId s.lastReply)

/-- termination measure: batches above the threshold, plus one if the resume batch is not yet passed -/
def fuel (net : Net) (s : CState) : Nat :=
  (net.filter (above s.lastId)).length + (if s.seen then 0 else 1)

theorem succBatch_of_nil {net : Net} {x : Nat} (hL : net.filter (above x) = []) :
    succBatch net x = none := by rw [succBatch_eq, hL]; rfl

theorem succBatch_of_cons {net : Net} {x : Nat} {b : List M} {L' : List (List M)}
    (hL : net.filter (above x) = b :: L') : succBatch net x = some b := by
  rw [succBatch_eq, hL]; rfl

theorem connStep_seen {net : Net} (h : WfNet net) (i r : Nat) :
    match connStep net ⟨i, r, true⟩ with
    | none => pending net ⟨i, r, true⟩ = []
    | some (s', out) => pending net ⟨i, r, true⟩ = out ++ pending net s' ∧ s'.seen = true ∧
        i < s'.lastId ∧ out ≠ [] ∧ fuel net s' < fuel net ⟨i, r, true⟩ := by
  cases hL : net.filter (above i) with
  | nil =>
    have hc : connStep net ⟨i, r, true⟩ = none := by
      simp [connStep, succBatch_of_nil hL]
    rw [hc]
    simpa [pending] using filter_above_nil_flat h i hL
  | cons b L' =>
    obtain ⟨-, j, -, -, hlt, hL', m, ms, rfl, hm⟩ := filter_above_cons h i hL
    have hnlt : ¬ m.id < i := by omega
    have hc : connStep net ⟨i, r, true⟩ = some (⟨m.id, m.reply, true⟩, m :: ms) := by
      simp [connStep, succBatch_of_cons hL, hnlt]
    rw [hc]
    refine ⟨?_, rfl, by simp [hm, hlt], by simp, ?_⟩
    · simp only [pending, if_true, hm]
      rw [flat_filter_id_gt h.1 i, hL, flat_filter_id_gt h.1 j, hL']
      rfl
    · simp [fuel, hm, hL, hL']

theorem fuel_le {net : Net} {i j : Nat} (hij : i ≤ j) :
    (net.filter (above j)).length ≤ (net.filter (above i)).length := by
  rw [← filter_above_above net hij]; exact List.length_filter_le _ _

theorem connStep_unseen_at {net : Net} (h : WfNet net) (i r : Nat) (hi : 0 < i)
    {b : List M} {L' : List (List M)} (hL : net.filter (above (i - 1)) = b :: L')
    (hbi : batchId b = some i) :
    ∃ r', connStep net ⟨i, r, false⟩ = some (⟨i, r', true⟩, b.drop r) := by
  have hfrm : (if (!false && decide (i > 0)) = true then i - 1 else i) = i - 1 := by simp [hi]
  obtain ⟨-, j', hj', hall, -, -, m, ms, rfl, hm⟩ := filter_above_cons h (i - 1) hL
  have : j' = i := by rw [hbi] at hj'; exact (Option.some.inj hj').symm
  subst this
  cases hd : (m :: ms).drop r with
  | nil =>
    refine ⟨r, ?_⟩
    simp only [connStep, hfrm, succBatch_of_cons hL, hd]
    simp [hm]
  | cons m' ms' =>
    have hm' : m'.id = j' :=
      hall m' (List.mem_of_mem_drop (by rw [hd]; exact List.mem_cons_self))
    have hr : ¬ r ≥ (m :: ms).length := by
      intro hge
      rw [List.drop_eq_nil_of_le hge] at hd
      cases hd
    refine ⟨m'.reply, ?_⟩
    simp only [connStep, hfrm, succBatch_of_cons hL, hd]
    simp [hm, hm']
    simpa using hr

theorem connStep_unseen {net : Net} (h : WfNet net) (i r : Nat) (hi : 0 < i) :
    match connStep net ⟨i, r, false⟩ with
    | none => pending net ⟨i, r, false⟩ = []
    | some (s', out) => pending net ⟨i, r, false⟩ = out ++ pending net s' ∧ s'.seen = true ∧
        i ≤ s'.lastId ∧ fuel net s' < fuel net ⟨i, r, false⟩ := by
  have hfrm : (if (!false && decide (i > 0)) = true then i - 1 else i) = i - 1 := by simp [hi]
  cases hL : net.filter (above (i - 1)) with
  | nil =>
    have hc : connStep net ⟨i, r, false⟩ = none := by
      simp only [connStep, hfrm, succBatch_of_nil hL]
    rw [hc]
    simpa [pending] using filter_after_nil h i r hi hL
  | cons b L' =>
    obtain ⟨j, hj, hij, heq⟩ := filter_after_cons h i r hi hL
    by_cases hji : j = i
    · -- the resume batch itself: its tail is delivered
      subst hji
      obtain ⟨r', hc⟩ := connStep_unseen_at h j r hi hL hj
      rw [hc]
      rw [if_pos rfl] at heq
      exact ⟨by simpa [pending] using heq, rfl, Nat.le_refl _, by simp [fuel]⟩
    · -- the resume batch is gone: the next one is delivered whole
      obtain ⟨-, j', hj', -, -, -, m, ms, rfl, hm⟩ := filter_above_cons h (i - 1) hL
      have : j' = j := by rw [hj] at hj'; exact (Option.some.inj hj').symm
      subst this
      rw [if_neg hji] at heq
      have hc : connStep net ⟨i, r, false⟩ = some (⟨m.id, m.reply, true⟩, m :: ms) := by
        simp only [connStep, hfrm, succBatch_of_cons hL]
        simp [hm, hji]
        omega
      rw [hc]
      refine ⟨by simpa [pending, hm] using heq, rfl, by simp [hm, hij], ?_⟩
      have := @fuel_le net i j' hij
      simp [fuel, hm]; omega

/-- states reachable in a connection that resumes at an id `> 0` -/
def Inv (s : CState) : Prop := s.seen = true ∨ 0 < s.lastId

theorem connStep_spec {net : Net} (h : WfNet net) (s : CState) (hinv : Inv s) :
    match connStep net s with
    | none => pending net s = []
    | some (s', out) => pending net s = out ++ pending net s' ∧ Inv s' ∧ fuel net s' < fuel net s := by
  obtain ⟨i, r, seen⟩ := s
  cases seen with
  | true =>
    have := connStep_seen h i r
    split at this
    · next hc => exact this
    · next s' out hc => exact ⟨this.1, Or.inl this.2.1, this.2.2.2.2⟩
  | false =>
    have hi : 0 < i := by cases hinv with
      | inl h => cases h
      | inr h => exact h
    have := connStep_unseen h i r hi
    split at this
    · next hc => exact this
    · next s' out hc => exact ⟨this.1, Or.inl this.2.1, this.2.2.2⟩

theorem connRun_prefix {net : Net} (h : WfNet net) :
    ∀ (k : Nat) (s : CState), Inv s → ∃ n, connRun net s k = (pending net s).take n := by
  intro k
  induction k with
  | zero => intro s _; exact ⟨0, by simp [connRun]⟩
  | succ k ih =>
    intro s hinv
    have hs := connStep_spec h s hinv
    cases hc : connStep net s with
    | none => exact ⟨0, by simp [connRun, hc]⟩
    | some p =>
      obtain ⟨s', out⟩ := p
      rw [hc] at hs
      obtain ⟨hp, hinv', _⟩ := hs
      obtain ⟨n, hn⟩ := ih s' hinv'
      refine ⟨out.length + n, ?_⟩
      simp only [connRun, hc]
      rw [hn, hp, List.take_length_add_append]

theorem connRun_complete {net : Net} (h : WfNet net) :
    ∀ (k : Nat) (s : CState), Inv s → fuel net s < k → connRun net s k = pending net s := by
  intro k
  induction k with
  | zero => intro s _ hk; exact absurd hk (Nat.not_lt_zero _)
  | succ k ih =>
    intro s hinv hk
    have hs := connStep_spec h s hinv
    cases hc : connStep net s with
    | none =>
      rw [hc] at hs
      simp [connRun, hc, hs]
    | some p =>
      obtain ⟨s', out⟩ := p
      rw [hc] at hs
      obtain ⟨hp, hinv', hfuel⟩ := hs
      simp only [connRun, hc]
      rw [ih s' hinv' (by omega), hp]

theorem conn_eq (net : Net) (found : Bool) (i r k : Nat) :
    conn net found i r k = (connInit net found i r).2 ++ connRun net (connInit net found i r).1 k := rfl

theorem fuel_le_length (net : Net) (s : CState) : fuel net s ≤ net.length + 1 := by
  unfold fuel
  have := List.length_filter_le (above s.lastId) net
  split <;> omega

theorem getBatch_some {net : Net} (h : WfNet net) {i : Nat} (hi : 0 < i) {b : List M}
    (hb : getBatch net i = some b) :
    batchId b = some i ∧ ∃ L', net.filter (above (i - 1)) = b :: L' := by
  have hbi : batchId b = some i := by simpa using List.find?_some hb
  have hbnet : b ∈ net := List.mem_of_find?_eq_some hb
  refine ⟨hbi, ?_⟩
  have hbL : b ∈ net.filter (above (i - 1)) :=
    List.mem_filter.2 ⟨hbnet, by simp [above, hbi]; omega⟩
  cases hL : net.filter (above (i - 1)) with
  | nil => rw [hL] at hbL; cases hbL
  | cons c L' =>
    obtain ⟨_, j, hj, _, hlt, hL', -⟩ := filter_above_cons h (i - 1) hL
    rw [hL] at hbL
    cases List.mem_cons.1 hbL with
    | inl heq => exact ⟨L', by rw [heq]⟩
    | inr hmem =>
      rw [← hL'] at hmem
      have := (List.mem_filter.1 hmem).2
      simp [above, hbi] at this
      omega

theorem connInit_found {net : Net} {i : Nat} {b : List M} (hb : getBatch net i = some b) (r : Nat) :
    connInit net true i r = (⟨i, r, true⟩, b.drop r) := by
  simp only [connInit, hb, if_true]
  by_cases hr : r < b.length
  · rw [if_pos hr]
  · rw [if_neg hr, List.drop_eq_nil_of_le (by omega)]

theorem connInit_spec {net : Net} (h : WfNet net) (found : Bool) (i r : Nat) (hi : 0 < i) :
    (flat net).filter (after i r)
        = (connInit net found i r).2 ++ pending net (connInit net found i r).1
      ∧ Inv (connInit net found i r).1 := by
  have hunseen : (flat net).filter (after i r) = [] ++ pending net ⟨i, r, false⟩ ∧ Inv ⟨i, r, false⟩ :=
    ⟨by simp [pending], Or.inr hi⟩
  cases found with
  | false => exact hunseen
  | true =>
    cases hb : getBatch net i with
    | none =>
      have : connInit net true i r = (⟨i, r, false⟩, []) := by simp [connInit, hb]
      rw [this]; exact hunseen
    | some b =>
      rw [connInit_found hb]
      refine ⟨?_, Or.inl rfl⟩
      obtain ⟨hbi, L', hL⟩ := getBatch_some h hi hb
      obtain ⟨j, hj, _, heq⟩ := filter_after_cons h i r hi hL
      have : j = i := by rw [hbi] at hj; exact (Option.some.inj hj).symm
      subst this
      rw [if_pos rfl] at heq
      simp only [pending, if_true]
      exact heq

theorem connStep_seen_indep (net : Net) (i r r' : Nat) :
    (connStep net ⟨i, r, true⟩ = none ∧ connStep net ⟨i, r', true⟩ = none) ∨
    (connStep net ⟨i, r, true⟩ = some (⟨i, r, true⟩, []) ∧
      connStep net ⟨i, r', true⟩ = some (⟨i, r', true⟩, [])) ∨
    (∃ p, connStep net ⟨i, r, true⟩ = some p ∧ connStep net ⟨i, r', true⟩ = some p) := by
  simp only [connStep]
  cases succBatch net (if (!true && decide (i > 0)) = true then i - 1 else i) with
  | none => exact Or.inl ⟨rfl, rfl⟩
  | some b =>
    cases b with
    | nil => exact Or.inl ⟨rfl, rfl⟩
    | cons m ms =>
      by_cases hlt : m.id < i
      · exact Or.inr (Or.inl ⟨by simp [hlt], by simp [hlt]⟩)
      · exact Or.inr (Or.inr ⟨(⟨m.id, m.reply, true⟩, m :: ms), by simp [hlt], by simp [hlt]⟩)

/-- once the resume batch is passed, `lastReply` is dead state -/
theorem connRun_seen_indep (net : Net) (i r r' : Nat) :
    ∀ k, connRun net ⟨i, r, true⟩ k = connRun net ⟨i, r', true⟩ k := by
  intro k
  induction k with
  | zero => rfl
  | succ k ih =>
    rcases connStep_seen_indep net i r r' with ⟨h1, h2⟩ | ⟨h1, h2⟩ | ⟨p, h1, h2⟩
    · simp only [connRun, h1, h2]
    · simp only [connRun, h1, h2, ih]
    · simp only [connRun, h1, h2]

theorem after_irrefl (m : M) : after m.id m.reply m = false := by simp [after]

theorem after_asymm {x m : M} (h : after x.id x.reply m = true) : after m.id m.reply x = false := by
  simp [after] at h ⊢
  omega

theorem after_trans {a b : Nat} {m x : M} (h1 : after a b m = true)
    (h2 : after m.id m.reply x = true) : after a b x = true := by
  simp [after] at h1 h2 ⊢
  omega

theorem after_id_le {a b : Nat} {m : M} (h : after a b m = true) : a ≤ m.id := by
  simp [after] at h; omega

theorem flat_sorted {net : Net} (h : WfNet net) :
    (flat net).Pairwise (fun m m' => after m.id m.reply m' = true) := by
  unfold flat
  rw [List.pairwise_flatten]
  constructor
  · intro b hb
    have hwb := h.1 b hb
    obtain ⟨i, _, hall⟩ := hwb.exists_id
    rw [List.pairwise_iff_getElem]
    intro j k hj hk hjk
    have h1 := hall _ (List.getElem_mem hj)
    have h2 := hall _ (List.getElem_mem hk)
    have h3 := hwb.reply_getElem j hj
    have h4 := hwb.reply_getElem k hk
    simp [after, h1, h2, h3, h4, hjk]
  · refine List.Pairwise.imp_of_mem ?_ h.sorted
    intro a b ha hb hab x hx y hy
    obtain ⟨i, hi, halla⟩ := (h.1 a ha).exists_id
    obtain ⟨j, hj, hallb⟩ := (h.1 b hb).exists_id
    have := hab i hi j hj
    simp [after, halla x hx, hallb y hy, this]

/-- resuming after the last *interesting* message before a cut re-offers exactly the interesting
messages beyond the cut -/
theorem sorted_resume (I : M → Bool) (F : List M)
    (hF : F.Pairwise (fun m m' => after m.id m.reply m' = true)) :
    ∀ (cut : Nat) (m : M), ((F.take cut).filter I).getLast? = some m →
      m ∈ F ∧ (F.filter (after m.id m.reply)).filter I = (F.drop cut).filter I := by
  induction F with
  | nil => intro cut m hm; simp at hm
  | cons x F' ih =>
    intro cut m hm
    cases cut with
    | zero => simp at hm
    | succ c =>
      rw [List.pairwise_cons] at hF
      rw [List.take_succ_cons, List.filter_cons] at hm
      rw [List.drop_succ_cons]
      cases hG : ((F'.take c).filter I).getLast? with
      | some m' =>
        have hmm : m' = m := by
          have hne : (F'.take c).filter I ≠ [] := by
            intro hnil; rw [hnil] at hG; cases hG
          split at hm
          · rw [List.getLast?_cons_of_ne_nil hne, hG] at hm; exact Option.some.inj hm
          · rw [hG] at hm; exact Option.some.inj hm
        subst hmm
        obtain ⟨hmem, hih⟩ := ih hF.2 c m' hG
        refine ⟨List.mem_cons_of_mem _ hmem, ?_⟩
        rw [List.filter_cons, after_asymm (hF.1 m' hmem)]
        simpa using hih
      | none =>
        have hnil : (F'.take c).filter I = [] := List.getLast?_eq_none_iff.1 hG
        rw [hnil] at hm
        by_cases hIx : I x = true
        · rw [if_pos hIx] at hm
          have hxm : x = m := by simpa using hm
          subst hxm
          refine ⟨List.mem_cons_self, ?_⟩
          rw [List.filter_cons, after_irrefl]
          simp only [Bool.false_eq_true, if_false]
          rw [List.filter_eq_self.2 (fun y hy => hF.1 y hy)]
          conv => lhs; rw [← List.take_append_drop c F', List.filter_append, hnil, List.nil_append]
        · rw [if_neg hIx] at hm; simp at hm

theorem resume_after_cut {net : Net} (h : WfNet net) (a b : Nat) (I : M → Bool) (cut : Nat) (m : M)
    (hlast : ((((flat net).filter (after a b)).take cut).filter I).getLast? = some m) :
    after a b m = true ∧
      ((flat net).filter (after m.id m.reply)).filter I
        = (((flat net).filter (after a b)).drop cut).filter I := by
  have hF := (flat_sorted h).filter (after a b)
  obtain ⟨hmem, heq⟩ := sorted_resume I _ hF cut m hlast
  have ham : after a b m = true := (List.mem_filter.1 hmem).2
  refine ⟨ham, ?_⟩
  rw [← heq]
  congr 1
  rw [List.filter_filter]
  apply List.filter_congr
  intro x _
  cases hx : after m.id m.reply x with
  | false => simp
  | true => simp [after_trans ham hx]

end Robust.Stream.Resume
