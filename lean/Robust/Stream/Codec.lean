import Robust.Base.Bytes
/-!
Byte-exact model of `internal/outputstream/serialization.go`
(`messageBatch.marshal` / `unmarshalMessageBatch`).

`rcpt` is `InterestingFor` in map-iteration order: `marshal` writes the *keys* only, whatever
the stored boolean is, and `unmarshal` stores `true` for every key it reads.
`none` models a Go panic (slice bounds out of range on a short buffer).
-/
namespace Robust.Stream
open Robust Robust.Bytes

structure Msg where
  id : Nat
  reply : Nat
  data : Bytes
  rcpt : List (Nat × Bool)
  deriving Repr, DecidableEq

structure Batch where
  msgs : List Msg
  next : Nat
  deriving Repr, DecidableEq

/-- `math.MaxUint64`: "no next message yet" -/
def noNext : Nat := 18446744073709551615

def marshalMsg (m : Msg) : Bytes :=
  le64 m.id ++ le64 m.reply ++ le64 m.data.length ++ m.data ++ le64 m.rcpt.length ++
    m.rcpt.flatMap (fun r => le64 r.1)

def marshal (b : Batch) : Bytes :=
  le64 b.next ++ le64 b.msgs.length ++ b.msgs.flatMap marshalMsg

def rdBytes (n : Nat) (bs : Bytes) : Option (Bytes × Bytes) :=
  if n ≤ bs.length then some (bs.take n, bs.drop n) else none

def rdRcpts : Nat → Bytes → Option (List (Nat × Bool) × Bytes)
  | 0, bs => some ([], bs)
  | k + 1, bs =>
    match rdLe64 bs with
    | none => none
    | some (r, bs) =>
      match rdRcpts k bs with
      | none => none
      | some (rs, bs) => some ((r, true) :: rs, bs)

def rdMsg (bs : Bytes) : Option (Msg × Bytes) :=
  match rdLe64 bs with
  | none => none
  | some (id, bs) =>
  match rdLe64 bs with
  | none => none
  | some (reply, bs) =>
  match rdLe64 bs with
  | none => none
  | some (len, bs) =>
  match rdBytes len bs with
  | none => none
  | some (data, bs) =>
  match rdLe64 bs with
  | none => none
  | some (nr, bs) =>
  match rdRcpts nr bs with
  | none => none
  | some (rcpt, bs) => some (⟨id, reply, data, rcpt⟩, bs)

def rdMsgs : Nat → Bytes → Option (List Msg × Bytes)
  | 0, bs => some ([], bs)
  | k + 1, bs =>
    match rdMsg bs with
    | none => none
    | some (m, bs) =>
      match rdMsgs k bs with
      | none => none
      | some (ms, bs) => some (m :: ms, bs)

def unmarshal (bs : Bytes) : Option Batch :=
  match rdLe64 bs with
  | none => none
  | some (next, bs) =>
  match rdLe64 bs with
  | none => none
  | some (n, bs) =>
  match rdMsgs n bs with
  | none => none
  | some (ms, _) => some ⟨ms, next⟩

/-- Every integer fits its 8-byte slot (true of Go `uint64`s and of slice lengths). -/
def WfMsg (m : Msg) : Prop :=
  m.id < 2 ^ 64 ∧ m.reply < 2 ^ 64 ∧ m.data.length < 2 ^ 64 ∧ m.rcpt.length < 2 ^ 64 ∧
    ∀ r ∈ m.rcpt, r.1 < 2 ^ 64

def WfBatch (b : Batch) : Prop :=
  b.next < 2 ^ 64 ∧ b.msgs.length < 2 ^ 64 ∧ ∀ m ∈ b.msgs, WfMsg m

/-- what `unmarshal` makes of the recipient flags -/
def Msg.allTrue (m : Msg) : Msg := { m with rcpt := m.rcpt.map fun r => (r.1, true) }
def Batch.allTrue (b : Batch) : Batch := { b with msgs := b.msgs.map Msg.allTrue }

theorem rdBytes_append (d rest : Bytes) : rdBytes d.length (d ++ rest) = some (d, rest) := by
  simp [rdBytes]

theorem rdRcpts_marshal (rs : List (Nat × Bool)) (h : ∀ r ∈ rs, r.1 < 2 ^ 64) (rest : Bytes) :
    rdRcpts rs.length (rs.flatMap (fun r => le64 r.1) ++ rest) =
      some (rs.map (fun r => (r.1, true)), rest) := by
  induction rs with
  | nil => simp [rdRcpts]
  | cons r rs ih =>
    have hr : r.1 < 2 ^ 64 := h r (by simp)
    have ih' := ih (fun x hx => h x (by simp [hx]))
    simp only [List.length_cons, List.flatMap_cons, List.append_assoc, rdRcpts,
      rdLe64_le64 r.1 hr, ih', List.map_cons]

theorem rdMsg_marshal (m : Msg) (h : WfMsg m) (rest : Bytes) :
    rdMsg (marshalMsg m ++ rest) = some (m.allTrue, rest) := by
  obtain ⟨h1, h2, h3, h4, h5⟩ := h
  simp only [marshalMsg, List.append_assoc, rdMsg, rdLe64_le64 _ h1, rdLe64_le64 _ h2,
    rdLe64_le64 _ h3, rdBytes_append, rdLe64_le64 _ h4, rdRcpts_marshal _ h5, Msg.allTrue]

theorem rdMsgs_marshal (ms : List Msg) (h : ∀ m ∈ ms, WfMsg m) (rest : Bytes) :
    rdMsgs ms.length (ms.flatMap marshalMsg ++ rest) = some (ms.map Msg.allTrue, rest) := by
  induction ms with
  | nil => simp [rdMsgs]
  | cons m ms ih =>
    have hm := h m (by simp)
    have ih' := ih (fun x hx => h x (by simp [hx]))
    simp only [List.length_cons, List.flatMap_cons, List.append_assoc, rdMsgs,
      rdMsg_marshal m hm, ih', List.map_cons]

theorem unmarshal_marshal (b : Batch) (h : WfBatch b) : unmarshal (marshal b) = some b.allTrue := by
  obtain ⟨h1, h2, h3⟩ := h
  have := rdMsgs_marshal b.msgs h3 []
  simp only [List.append_nil] at this
  simp only [marshal, List.append_assoc, unmarshal, rdLe64_le64 _ h1, rdLe64_le64 _ h2, this,
    Batch.allTrue]

theorem rcpt_allTrue (rs : List (Nat × Bool)) (h : ∀ r ∈ rs, r.2 = true) :
    rs.map (fun r => (r.1, true)) = rs := by
  have : ∀ r ∈ rs, (r.1, true) = id r := fun r hr => by rw [← h r hr]; rfl
  rw [List.map_congr_left this, List.map_id]

theorem Msg.allTrue_eq (m : Msg) (h : ∀ r ∈ m.rcpt, r.2 = true) : m.allTrue = m := by
  obtain ⟨id, reply, data, rcpt⟩ := m
  simp only [Msg.allTrue, Msg.mk.injEq, true_and]
  exact rcpt_allTrue rcpt h

theorem Batch.allTrue_eq (b : Batch) (h : ∀ m ∈ b.msgs, ∀ r ∈ m.rcpt, r.2 = true) : b.allTrue = b := by
  have : ∀ m ∈ b.msgs, m.allTrue = id m := fun m hm => Msg.allTrue_eq m (h m hm)
  rw [Batch.allTrue, List.map_congr_left this, List.map_id]

end Robust.Stream
