/-! Association lists: lookup, and sorted insert for lists kept sorted by a strict total order `lt` on the
keys.  Instances: `SMap` (keys `Nat`, order `<`) and the LevelDB key space `Store.KV` (keys byte strings,
order `lexLt`), whose own `get`/`put` are equal to these (`SMap.get_eq`, `SMap.put_eq`, `Store.kvGet_eq`,
`Store.kvPut_eq`) and whose `Sorted` unfolds to `Sorted lt`; and the unsorted `Irc.AMap` for lookup
(`AMap.get_eq`), where distinct keys are `Sorted (· ≠ ·)`. -/
namespace Robust.AList
variable {κ ν : Type} [DecidableEq κ]

def get : List (κ × ν) → κ → Option ν
  | [], _ => none
  | (k', v) :: t, k => if k' = k then some v else get t k

def put (lt : κ → κ → Prop) [DecidableRel lt] : List (κ × ν) → κ → ν → List (κ × ν)
  | [], k, v => [(k, v)]
  | (k', v') :: t, k, v =>
    if lt k k' then (k, v) :: (k', v') :: t
    else if k = k' then (k, v) :: t
    else (k', v') :: put lt t k v

def Sorted (lt : κ → κ → Prop) (m : List (κ × ν)) : Prop := (m.map (·.1)).Pairwise lt

omit [DecidableEq κ] in
theorem sorted_cons {lt : κ → κ → Prop} (k : κ) (v : ν) (t : List (κ × ν)) :
    Sorted lt ((k, v) :: t) ↔ (∀ p ∈ t, lt k p.1) ∧ Sorted lt t := by
  simp only [Sorted, List.map_cons, List.pairwise_cons, List.mem_map]
  constructor
  · rintro ⟨h1, h2⟩; exact ⟨fun p hp => h1 _ ⟨p, hp, rfl⟩, h2⟩
  · rintro ⟨h1, h2⟩; exact ⟨fun a ⟨p, hp, e⟩ => e ▸ h1 p hp, h2⟩

theorem get_some_mem (m : List (κ × ν)) (k : κ) (v : ν) (h : get m k = some v) : (k, v) ∈ m := by
  induction m with
  | nil => cases h
  | cons e t ih =>
    obtain ⟨k', v'⟩ := e
    rw [get] at h
    split at h
    · rename_i hk; subst hk; cases h; exact List.mem_cons_self
    · exact List.mem_cons_of_mem _ (ih h)

theorem get_of_mem_keys (m : List (κ × ν)) (k : κ) (h : k ∈ m.map (·.1)) : ∃ v, get m k = some v := by
  induction m with
  | nil => cases h
  | cons e t ih =>
    obtain ⟨k', v'⟩ := e
    rw [get]
    split
    · exact ⟨v', rfl⟩
    · rename_i hne
      rcases List.mem_cons.1 h with rfl | h
      · exact absurd rfl hne
      · exact ih h

omit [DecidableEq κ] in
theorem sorted_filter {lt : κ → κ → Prop} (m : List (κ × ν)) (p : κ × ν → Bool) (h : Sorted lt m) :
    Sorted lt (m.filter p) :=
  List.Pairwise.sublist (List.Sublist.map _ List.filter_sublist) h

/-- in a sorted list the first entry under a key is the only one -/
theorem mem_get {lt : κ → κ → Prop} (irrefl : ∀ a, ¬lt a a) (m : List (κ × ν)) (k : κ) (v : ν)
    (hs : Sorted lt m) (h : (k, v) ∈ m) : get m k = some v := by
  induction m with
  | nil => cases h
  | cons e t ih =>
    obtain ⟨k', v'⟩ := e
    rw [sorted_cons] at hs
    rw [get]
    rcases List.mem_cons.1 h with h | h
    · cases h; rw [if_pos rfl]
    · rw [if_neg (fun (e : k' = k) => irrefl k (e ▸ hs.1 _ h)), ih hs.2 h]

section put
variable (lt : κ → κ → Prop) [DecidableRel lt]

theorem mem_put (m : List (κ × ν)) (k : κ) (v : ν) (p : κ × ν) :
    p ∈ put lt m k v → p = (k, v) ∨ p ∈ m := by
  induction m with
  | nil => exact fun h => Or.inl (List.mem_singleton.1 h)
  | cons e t ih =>
    obtain ⟨k', v'⟩ := e
    rw [put]
    split
    · exact fun h => (List.mem_cons.1 h).imp_right id
    · split
      · exact fun h => (List.mem_cons.1 h).imp_right (List.mem_cons_of_mem _)
      · intro h
        rcases List.mem_cons.1 h with h | h
        · exact Or.inr (h ▸ List.mem_cons_self)
        · exact (ih h).imp_right (List.mem_cons_of_mem _)

theorem keys_put (m : List (κ × ν)) (k : κ) (v : ν) (x : κ) :
    x ∈ (put lt m k v).map (·.1) ↔ x = k ∨ x ∈ m.map (·.1) := by
  induction m with
  | nil => simp only [put, List.map_cons, List.map_nil, List.mem_singleton, List.not_mem_nil, or_false]
  | cons e t ih =>
    obtain ⟨k', v'⟩ := e
    rw [put]
    split
    · simp only [List.map_cons, List.mem_cons]
    · split
      · rename_i h; subst h
        simp only [List.map_cons, List.mem_cons, ← or_assoc, or_self]
      · simp only [List.map_cons, List.mem_cons, ih, or_left_comm]

theorem sorted_put (trans : ∀ a b c, lt a b → lt b c → lt a c)
    (total : ∀ a b, ¬lt a b → a ≠ b → lt b a) (m : List (κ × ν)) (k : κ) (v : ν)
    (h : Sorted lt m) : Sorted lt (put lt m k v) := by
  induction m with
  | nil => exact List.pairwise_singleton _ _
  | cons e t ih =>
    obtain ⟨k', v'⟩ := e
    have h' := (sorted_cons _ _ _).1 h
    rw [put]
    split
    · rename_i hlt
      refine (sorted_cons _ _ _).2 ⟨fun p hp => ?_, h⟩
      rcases List.mem_cons.1 hp with rfl | hp
      · exact hlt
      · exact trans _ _ _ hlt (h'.1 p hp)
    · split
      · rename_i heq; subst heq
        exact (sorted_cons _ _ _).2 h'
      · rename_i hlt hne
        refine (sorted_cons _ _ _).2 ⟨fun p hp => ?_, ih h'.2⟩
        rcases mem_put lt _ _ _ _ hp with rfl | hp
        · exact total _ _ hlt hne
        · exact h'.1 p hp

theorem get_put (m : List (κ × ν)) (k : κ) (v : ν) (x : κ) :
    get (put lt m k v) x = if x = k then some v else get m x := by
  induction m with
  | nil => rw [put, get]; exact ite_congr (propext eq_comm) (fun _ => rfl) (fun _ => rfl)
  | cons e t ih =>
    obtain ⟨k', v'⟩ := e
    rw [put]
    split
    · rw [get]; exact ite_congr (propext eq_comm) (fun _ => rfl) (fun _ => rfl)
    · split
      · rename_i heq; subst heq
        rw [get, get]
        by_cases hx : x = k
        · rw [if_pos hx, if_pos hx.symm]
        · rw [if_neg hx, if_neg (Ne.symm hx), if_neg (Ne.symm hx)]
      · rename_i hne
        rw [get, get, ih]
        split
        · rename_i hx; subst hx; rw [if_neg (Ne.symm hne)]
        · rfl

end put

theorem get_filter (m : List (κ × ν)) (q : κ → Bool) (k : κ) :
    get (m.filter (fun e => q e.1)) k = if q k = true then get m k else none := by
  induction m with
  | nil => rw [List.filter_nil, get, ite_self]
  | cons e t ih =>
    obtain ⟨k', v'⟩ := e
    rw [List.filter_cons, get]
    by_cases hk : k' = k
    · subst hk
      rw [if_pos rfl]
      split
      · rw [get, if_pos rfl]
      · rename_i hq; rw [ih, if_neg hq]
    · rw [if_neg hk]
      split
      · rw [get, if_neg hk, ih]
      · exact ih

end Robust.AList
