/-! Byte strings and the fixed-width integer codecs used by robustirc
(`binary.LittleEndian` in the output store, `binary.BigEndian` for LevelDB keys). -/
namespace Robust

abbrev Bytes := List UInt8

namespace Bytes

def byteAt (n i : Nat) : UInt8 := UInt8.ofNat (n / 256 ^ i % 256)

/-- `binary.LittleEndian.PutUint64` -/
def le64 (n : Nat) : Bytes :=
  [byteAt n 0, byteAt n 1, byteAt n 2, byteAt n 3, byteAt n 4, byteAt n 5, byteAt n 6, byteAt n 7]

/-- `binary.BigEndian.PutUint64` -/
def be64 (n : Nat) : Bytes :=
  [byteAt n 7, byteAt n 6, byteAt n 5, byteAt n 4, byteAt n 3, byteAt n 2, byteAt n 1, byteAt n 0]

/-- `binary.LittleEndian.Uint64(buf)`: `none` models the slice-bounds panic on a short buffer. -/
def rdLe64 : Bytes → Option (Nat × Bytes)
  | b0 :: b1 :: b2 :: b3 :: b4 :: b5 :: b6 :: b7 :: rest =>
    some (b0.toNat + 256 * (b1.toNat + 256 * (b2.toNat + 256 * (b3.toNat + 256 * (b4.toNat
      + 256 * (b5.toNat + 256 * (b6.toNat + 256 * b7.toNat)))))), rest)
  | _ => none

def rdBe64 : Bytes → Option (Nat × Bytes)
  | b7 :: b6 :: b5 :: b4 :: b3 :: b2 :: b1 :: b0 :: rest =>
    some (b0.toNat + 256 * (b1.toNat + 256 * (b2.toNat + 256 * (b3.toNat + 256 * (b4.toNat
      + 256 * (b5.toNat + 256 * (b6.toNat + 256 * b7.toNat)))))), rest)
  | _ => none

theorem byteAt_toNat (n i : Nat) : (byteAt n i).toNat = n / 256 ^ i % 256 := by
  unfold byteAt
  rw [UInt8.toNat_ofNat']
  exact Nat.mod_eq_of_lt (Nat.mod_lt _ (by decide))

def leVal : Bytes → Nat
  | [] => 0
  | b :: bs => b.toNat + 256 * leVal bs

def beVal (bs : Bytes) : Nat := leVal bs.reverse

def digits (n i : Nat) : Nat → Bytes
  | 0 => []
  | k + 1 => byteAt n i :: digits n (i + 1) k

theorem leVal_digits (n i k : Nat) : leVal (digits n i k) = n / 256 ^ i % 256 ^ k := by
  induction k generalizing i with
  | zero => rw [digits, leVal, Nat.pow_zero, Nat.mod_one]
  | succ k ih =>
    rw [digits, leVal, ih, byteAt_toNat, Nat.pow_succ 256 i, ← Nat.div_div_eq_div_mul,
      Nat.pow_succ 256 k, Nat.mul_comm (256 ^ k), Nat.mod_mul]

theorem leVal_append (a b : Bytes) : leVal (a ++ b) = leVal a + 256 ^ a.length * leVal b := by
  induction a with
  | nil => rw [List.nil_append, leVal, List.length_nil, Nat.pow_zero, Nat.one_mul, Nat.zero_add]
  | cons x xs ih =>
    rw [List.cons_append, leVal, leVal, ih, List.length_cons, Nat.pow_succ, Nat.mul_add,
      Nat.add_assoc, ← Nat.mul_assoc 256, Nat.mul_comm 256 (256 ^ xs.length)]

theorem leVal_lt (a : Bytes) : leVal a < 256 ^ a.length := by
  induction a with
  | nil => exact Nat.zero_lt_one
  | cons x xs ih =>
    have hx : x.toNat < 256 := x.toNat_lt
    rw [leVal, List.length_cons, Nat.pow_succ]
    omega

theorem beVal_cons (x : UInt8) (xs : Bytes) :
    beVal (x :: xs) = x.toNat * 256 ^ xs.length + beVal xs := by
  rw [beVal, List.reverse_cons, leVal_append, List.length_reverse, leVal, leVal, Nat.mul_zero,
    Nat.add_zero, Nat.add_comm, Nat.mul_comm, beVal]

theorem beVal_lt (a : Bytes) : beVal a < 256 ^ a.length :=
  List.length_reverse ▸ leVal_lt a.reverse

/-! The next four: `le64 n` is `digits n 0 8`, `be64 n` its reverse, and the readers return `leVal` resp.
`beVal` of the first eight bytes, all by unfolding. -/

theorem leVal_le64 (n : Nat) (h : n < 2 ^ 64) : leVal (le64 n) = n := by
  rw [show le64 n = digits n 0 8 from rfl, leVal_digits, Nat.pow_zero, Nat.div_one]
  exact Nat.mod_eq_of_lt h

theorem beVal_be64 (n : Nat) (h : n < 2 ^ 64) : beVal (be64 n) = n :=
  leVal_le64 n h

theorem rdLe64_le64 (n : Nat) (h : n < 2 ^ 64) (rest : Bytes) :
    rdLe64 (le64 n ++ rest) = some (n, rest) := by
  rw [show rdLe64 (le64 n ++ rest) = some (leVal (le64 n), rest) from rfl, leVal_le64 n h]

theorem rdBe64_be64 (n : Nat) (h : n < 2 ^ 64) (rest : Bytes) :
    rdBe64 (be64 n ++ rest) = some (n, rest) := by
  rw [show rdBe64 (be64 n ++ rest) = some (beVal (be64 n), rest) from rfl, beVal_be64 n h]

theorem rdBe64_be64' (n : Nat) (h : n < 2 ^ 64) : rdBe64 (be64 n) = some (n, []) := by
  have := rdBe64_be64 n h []
  rwa [List.append_nil] at this

theorem be64_inj (a b : Nat) (ha : a < 2 ^ 64) (hb : b < 2 ^ 64) (h : be64 a = be64 b) : a = b := by
  rw [← beVal_be64 a ha, h, beVal_be64 b hb]

theorem le64_length (n : Nat) : (le64 n).length = 8 := rfl
theorem be64_length (n : Nat) : (be64 n).length = 8 := rfl

end Bytes
end Robust
