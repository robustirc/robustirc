import Robust.Base.AList
/-! Finite maps with `Nat` keys as key-sorted association lists: the model of a LevelDB
keyspace with 8-byte big-endian keys (iteration order = numeric order), also used (order
ignored) for in-memory Go maps. -/
namespace Robust

abbrev SMap (α : Type) := List (Nat × α)

namespace SMap
variable {α : Type}

def get (m : SMap α) (k : Nat) : Option α :=
  match m with
  | [] => none
  | (k', v) :: t => if k' = k then some v else get t k

def put (m : SMap α) (k : Nat) (v : α) : SMap α :=
  match m with
  | [] => [(k, v)]
  | (k', v') :: t =>
    if k < k' then (k, v) :: (k', v') :: t
    else if k = k' then (k, v) :: t
    else (k', v') :: put t k v

def erase (m : SMap α) (k : Nat) : SMap α := m.filter (fun e => e.1 ≠ k)

/-- first entry with key > x (for a sorted map: the least such key) — LevelDB range seek -/
def firstGt (m : SMap α) (x : Nat) : Option (Nat × α) := m.find? (fun e => x < e.1)

def keys (m : SMap α) : List Nat := m.map (·.1)

def Sorted (m : SMap α) : Prop := (keys m).Pairwise (· < ·)

theorem get_cons (k' : Nat) (v : α) (t : SMap α) (k : Nat) :
    get ((k', v) :: t) k = if k = k' then some v else get t k := by
  simp only [get, eq_comm]

theorem keys_cons (e : Nat × α) (t : SMap α) : keys (e :: t) = e.1 :: keys t := rfl

theorem sorted_cons {e : Nat × α} {t : SMap α} :
    Sorted (e :: t) ↔ (∀ k ∈ keys t, e.1 < k) ∧ Sorted t := List.pairwise_cons

theorem get_eq (m : SMap α) (k : Nat) : get m k = AList.get m k := by
  induction m with
  | nil => rfl
  | cons e t ih => obtain ⟨k', v⟩ := e; rw [get, AList.get, ih]

theorem put_eq (m : SMap α) (k : Nat) (v : α) : put m k v = AList.put (· < ·) m k v := by
  induction m with
  | nil => rfl
  | cons e t ih => obtain ⟨k', v'⟩ := e; rw [put, AList.put, ih]

theorem keys_put_mem (m : SMap α) (k : Nat) (v : α) (x : Nat) :
    x ∈ keys (put m k v) ↔ x = k ∨ x ∈ keys m := by
  rw [put_eq]; exact AList.keys_put _ m k v x

theorem sorted_eq (m : SMap α) : Sorted m = AList.Sorted (· < ·) m := rfl

theorem sorted_put (m : SMap α) (k : Nat) (v : α) (h : Sorted m) : Sorted (put m k v) := by
  rw [sorted_eq] at h ⊢
  rw [put_eq]
  exact AList.sorted_put (· < ·) (fun _ _ _ => Nat.lt_trans)
    (fun a b (h1 : ¬a < b) h2 => by omega) m k v h

theorem sorted_erase (m : SMap α) (k : Nat) (h : Sorted m) : Sorted (erase m k) :=
  AList.sorted_filter m _ h

theorem keys_erase_mem (m : SMap α) (k x : Nat) : x ∈ keys (erase m k) ↔ x ∈ keys m ∧ x ≠ k := by
  simp only [keys, erase, List.mem_map, List.mem_filter]
  constructor
  · rintro ⟨e, ⟨he, hne⟩, rfl⟩; exact ⟨⟨e, he, rfl⟩, by simpa using hne⟩
  · rintro ⟨⟨e, he, rfl⟩, hne⟩; exact ⟨e, ⟨he, by simpa using hne⟩, rfl⟩

theorem get_some_mem (m : SMap α) (k : Nat) (v : α) (h : get m k = some v) : k ∈ keys m :=
  List.mem_map_of_mem (f := (·.1)) (AList.get_some_mem m k v (get_eq m k ▸ h))

theorem mem_keys_get (m : SMap α) (k : Nat) (h : k ∈ keys m) : ∃ v, get m k = some v :=
  get_eq m k ▸ AList.get_of_mem_keys m k h

theorem get_none_iff (m : SMap α) (k : Nat) : get m k = none ↔ k ∉ keys m := by
  constructor
  · intro h hm; obtain ⟨v, hv⟩ := mem_keys_get m k hm; rw [h] at hv; cases hv
  · intro h
    cases hg : get m k with
    | none => rfl
    | some v => exact absurd (get_some_mem m k v hg) h

theorem get_put (m : SMap α) (k : Nat) (v : α) (x : Nat) :
    get (put m k v) x = if x = k then some v else get m x := by
  rw [put_eq, get_eq, AList.get_put, get_eq]

theorem get_erase (m : SMap α) (k x : Nat) : get (erase m k) x = if x = k then none else get m x := by
  rw [get_eq, get_eq]
  refine (AList.get_filter m (fun y => decide (y ≠ k)) x).trans ?_
  by_cases hx : x = k
  · rw [if_neg (by simp [hx]), if_pos hx]
  · rw [if_pos (decide_eq_true hx), if_neg hx]

theorem get_put_same (m : SMap α) (k : Nat) (v : α) : get (put m k v) k = some v := by
  rw [get_put, if_pos rfl]

theorem get_put_other (m : SMap α) (k : Nat) (v : α) (x : Nat) (hx : x ≠ k) :
    get (put m k v) x = get m x := by
  rw [get_put, if_neg hx]

theorem get_erase_same (m : SMap α) (k : Nat) : get (erase m k) k = none := by
  rw [get_erase, if_pos rfl]

theorem get_erase_other (m : SMap α) (k x : Nat) (hx : x ≠ k) : get (erase m k) x = get m x := by
  rw [get_erase, if_neg hx]

theorem firstGt_least (m : SMap α) (x : Nat) (h : Sorted m) (k : Nat) (v : α)
    (hf : firstGt m x = some (k, v)) :
    x < k ∧ k ∈ keys m ∧ ∀ k' ∈ keys m, x < k' → k ≤ k' := by
  induction m with
  | nil => simp [firstGt] at hf
  | cons e t ih =>
    obtain ⟨k0, v0⟩ := e
    simp only [Sorted, keys, List.map_cons, List.pairwise_cons] at h
    simp only [firstGt, List.find?_cons] at hf
    by_cases hx : x < k0
    · simp only [hx, decide_true] at hf
      cases hf
      refine ⟨hx, by simp [keys], fun k' hk' _ => ?_⟩
      simp only [keys, List.map_cons, List.mem_cons] at hk'
      rcases hk' with rfl | hk'
      · exact Nat.le_refl _
      · exact Nat.le_of_lt (h.1 k' hk')
    · simp only [hx, decide_false] at hf
      obtain ⟨a, b, c⟩ := ih h.2 hf
      refine ⟨a, by simp only [keys, List.map_cons, List.mem_cons]; right; exact b, fun k' hk' hlt => ?_⟩
      simp only [keys, List.map_cons, List.mem_cons] at hk'
      rcases hk' with rfl | hk'
      · exact absurd hlt hx
      · exact c k' hk' hlt

theorem firstGt_none (m : SMap α) (x : Nat) (hf : firstGt m x = none) : ∀ k ∈ keys m, k ≤ x := by
  intro k hk
  simp only [firstGt, List.find?_eq_none, decide_eq_true_eq] at hf
  simp only [keys, List.mem_map] at hk
  obtain ⟨e, he, rfl⟩ := hk
  exact Nat.le_of_not_lt (hf e he)

/-! ### membership, the greatest key, `firstGt` -/

theorem get_mem (m : SMap α) (k : Nat) (v : α) (h : get m k = some v) : (k, v) ∈ m :=
  AList.get_some_mem m k v (get_eq m k ▸ h)

theorem mem_get_of_sorted (m : SMap α) (k : Nat) (v : α) (hs : Sorted m) (h : (k, v) ∈ m) :
    get m k = some v :=
  (get_eq m k).trans (AList.mem_get (fun a => Nat.lt_irrefl a) m k v hs h)

theorem sorted_concat {m : SMap α} {k : Nat} {v : α} (hs : Sorted (m ++ [(k, v)])) :
    get (m ++ [(k, v)]) k = some v ∧ ∀ k' ∈ keys m, k' < k :=
  ⟨mem_get_of_sorted _ _ _ hs (List.mem_append_right _ List.mem_cons_self), fun k' hk' => by
    unfold Sorted keys at hs
    rw [List.map_append] at hs
    exact (List.pairwise_append.1 hs).2.2 k' hk' k List.mem_cons_self⟩

theorem getLast_max (m : SMap α) (hs : Sorted m) (k : Nat) (v : α)
    (h : m.getLast? = some (k, v)) : get m k = some v ∧ ∀ k' ∈ keys m, k' ≤ k := by
  obtain ⟨ys, rfl⟩ := List.getLast?_eq_some_iff.1 h
  obtain ⟨hg, hlt⟩ := sorted_concat hs
  refine ⟨hg, fun k' hk' => ?_⟩
  rw [keys, List.map_append, List.mem_append] at hk'
  rcases hk' with hk' | hk'
  · exact Nat.le_of_lt (hlt k' hk')
  · exact Nat.le_of_eq (List.mem_singleton.1 hk')

theorem getLast_of_max (m : SMap α) (hs : Sorted m) (k : Nat) (v : α)
    (hg : get m k = some v) (hmax : ∀ k' ∈ keys m, k' ≤ k) : m.getLast? = some (k, v) := by
  cases hl : m.getLast? with
  | none => rw [List.getLast?_eq_none_iff.1 hl] at hg; cases hg
  | some e =>
    obtain ⟨k1, v1⟩ := e
    obtain ⟨hg1, hmax1⟩ := getLast_max m hs k1 v1 hl
    have : k1 = k := Nat.le_antisymm (hmax _ (get_some_mem _ _ _ hg1)) (hmax1 k (get_some_mem _ _ _ hg))
    subst this
    rw [hg] at hg1
    rw [Option.some.inj hg1]

theorem get_map (f : α → β) (m : SMap α) (k : Nat) :
    get (m.map (fun e => (e.1, f e.2))) k = (get m k).map f := by
  induction m with
  | nil => rfl
  | cons e t ih =>
    obtain ⟨k', v'⟩ := e
    simp only [List.map_cons, get_cons]
    split
    · rfl
    · exact ih

theorem firstGt_get (m : SMap α) (x : Nat) (hs : Sorted m) (k : Nat) (v : α)
    (hf : firstGt m x = some (k, v)) : get m k = some v :=
  mem_get_of_sorted m k v hs (List.mem_of_find?_eq_some hf)

/-- the decreasing measure of the `GetNext` chain walk: number of stored keys above `a` -/
theorem filter_gt_length_lt (l : List Nat) (a b : Nat) (hab : a < b) (hb : b ∈ l) :
    (l.filter (fun k => b < k)).length < (l.filter (fun k => a < k)).length := by
  have hsub : (l.filter (fun k => decide (b < k))).Sublist (l.filter (fun k => decide (a < k))) := by
    have : l.filter (fun k => decide (b < k)) =
        (l.filter (fun k => decide (a < k))).filter (fun k => decide (b < k)) := by
      rw [List.filter_filter]
      exact List.filter_congr fun k _ => by by_cases h : b < k <;> simp [h]; omega
    rw [this]; exact List.filter_sublist
  refine Nat.lt_of_le_of_ne hsub.length_le fun heq => ?_
  -- equal lengths would put `b` itself among the keys above `b`
  have : b ∈ l.filter (fun k => decide (b < k)) := by
    rw [hsub.eq_of_length heq]; exact List.mem_filter.2 ⟨hb, decide_eq_true hab⟩
  exact Nat.lt_irrefl b (of_decide_eq_true (List.mem_filter.1 this).2)

/-- shape of a sorted map whose reversal starts with two entries (`i.Last(); i.Prev()`) -/
theorem reverse_two (m : SMap α) (e1 : Nat × α) (pk : Nat) (mb : α) (rest : SMap α)
    (hs : Sorted m) (hr : m.reverse = e1 :: (pk, mb) :: rest) :
    get m pk = some mb ∧ m.getLast? = some e1 ∧ pk < e1.1 ∧ ∀ k ∈ keys m, k = e1.1 ∨ k ≤ pk := by
  have hm : m = (rest.reverse ++ [(pk, mb)]) ++ [e1] := by
    rw [← List.reverse_reverse m, hr]; simp
  subst hm
  obtain ⟨_, hlt⟩ := sorted_concat (v := e1.2) hs
  have hs' : Sorted (rest.reverse ++ [(pk, mb)]) := by
    unfold Sorted keys at hs ⊢
    rw [List.map_append] at hs
    exact (List.pairwise_append.1 hs).1
  obtain ⟨hg, hmax⟩ := getLast_max _ hs' pk mb (by simp)
  refine ⟨mem_get_of_sorted _ _ _ hs (by simp), by simp, hlt pk (get_some_mem _ _ _ hg), fun k hk => ?_⟩
  rw [keys, List.map_append, List.mem_append] at hk
  rcases hk with hk | hk
  · exact Or.inr (hmax k hk)
  · exact Or.inl (List.mem_singleton.1 hk)

end SMap
end Robust
