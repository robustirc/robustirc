import Robust.Store.Lemmas
/-!
The LevelDB store seen as a sorted list: `logIndexes s` are the indexes of the log entries of `s`
in key order, computed from `s.kv` (drop the stable-store keys, decode the others as big-endian
uint64), `logEntries s` the entries themselves.  Here: under `WF` the index list is strictly increasing
and is the `index` image of the entry list; a log write to the database is a sorted insert on both, a
filter on keys a filter; `firstIndex`/`lastIndex` are head and last.  The statements per `LogStore`
operation (what `Robust/Fsm/Model.lean` assumes of the node's log copy) are in `Props/C09List.lean`.
-/
namespace Robust.Store
open Robust Robust.Bytes Robust.Codec

/-- `binary.BigEndian.Uint64(key)` (0 on a short key; never hit under `WF`) -/
def keyNat (k : Bytes) : Nat :=
  match rdBe64 k with
  | some (n, _) => n
  | none => 0

def kvIndexes (m : KV) : List Nat :=
  (m.filter (fun e => !isStable e.1)).map (fun e => keyNat e.1)

def logIndexes (s : Store) : List Nat := kvIndexes s.kv

/-- sorted insert on indexes, replacing an equal element (cf. `Fsm.insertSorted`) -/
def insertNat (i : Nat) : List Nat → List Nat
  | [] => [i]
  | x :: xs => if i < x then i :: x :: xs else if i = x then i :: xs else x :: insertNat i xs

/-- first 8 bytes of `"stablestore-"` (`"stablest"`) as a big-endian uint64: every stable key sorts
strictly between `be64 stableCut` and `be64 (stableCut + 1)` -/
def stableCut : Nat := 0x737461626c657374

theorem keyNat_be64 (n : Nat) (h : n < 2 ^ 64) : keyNat (be64 n) = n := by
  simp only [keyNat, rdBe64_be64' n h]

theorem be64_eq_iff (a b : Nat) (ha : a < 2 ^ 64) (hb : b < 2 ^ 64) : be64 a = be64 b ↔ a = b :=
  ⟨be64_inj a b ha hb, fun h => by rw [h]⟩

theorem kvIndexes_nil : kvIndexes [] = [] := rfl

theorem kvIndexes_cons_stable (k : Bytes) (v : Val) (t : KV) (h : isStable k = true) :
    kvIndexes ((k, v) :: t) = kvIndexes t := by
  simp only [kvIndexes, List.filter_cons, h, Bool.not_true, Bool.false_eq_true, if_false]

theorem kvIndexes_cons_log (i : Nat) (v : Val) (t : KV) (hi : i < 2 ^ 64) :
    kvIndexes ((be64 i, v) :: t) = i :: kvIndexes t := by
  simp only [kvIndexes, List.filter_cons, isStable_be64, Bool.not_false, if_true, List.map_cons,
    keyNat_be64 i hi]

theorem typed_induction {P : KV → Prop} (m : KV) (h : Typed m)
    (nil : P [])
    (log : ∀ i f e t, i < 2 ^ 64 → e.index = i → Typed t → P t → P ((be64 i, .log f e) :: t))
    (stable : ∀ k bs t, isStable k = true → Typed t → P t → P ((k, .raw bs) :: t)) : P m := by
  induction m with
  | nil => exact nil
  | cons p t ih =>
    obtain ⟨k, v⟩ := p
    have ht : Typed t := fun k v hm => h k v (List.mem_cons_of_mem _ hm)
    rcases h k v List.mem_cons_self with ⟨i, f, e, hi, hk, hv, he⟩ | ⟨k', bs, hk, hv⟩
    · subst hk hv; exact log i f e t hi he ht (ih ht)
    · subst hk hv; exact stable _ bs t (isStable_stable k') ht (ih ht)

theorem mem_kvIndexes (m : KV) (h : Typed m) (i : Nat) (hi : i < 2 ^ 64) :
    i ∈ kvIndexes m ↔ ∃ v, (be64 i, v) ∈ m := by
  simp only [kvIndexes, List.mem_map, List.mem_filter]
  constructor
  · rintro ⟨⟨k, v⟩, ⟨hm, hs⟩, hk⟩
    obtain ⟨j, _, _, hj, hkj, _, _⟩ := typed_nonstable m h k v hm (by simpa using hs)
    subst hkj
    simp only [keyNat_be64 j hj] at hk
    subst hk; exact ⟨v, hm⟩
  · rintro ⟨v, hm⟩
    exact ⟨(be64 i, v), ⟨hm, by simp [isStable_be64]⟩, keyNat_be64 i hi⟩

theorem kvIndexes_lt (m : KV) (h : Typed m) (i : Nat) (hm : i ∈ kvIndexes m) : i < 2 ^ 64 := by
  simp only [kvIndexes, List.mem_map, List.mem_filter] at hm
  obtain ⟨⟨k, v⟩, ⟨hm, hs⟩, hk⟩ := hm
  obtain ⟨j, _, _, hj, hkj, _, _⟩ := typed_nonstable m h k v hm (by simpa using hs)
  subst hkj
  simp only [keyNat_be64 j hj] at hk
  subst hk; exact hj

theorem kvIndexes_gt_of_lexLt (t : KV) (h : Typed t) (i : Nat) (hi : i < 2 ^ 64)
    (hlt : ∀ p ∈ t, lexLt (be64 i) p.1 = true) : ∀ j ∈ kvIndexes t, i < j := by
  intro j hj
  have hj' := kvIndexes_lt t h j hj
  obtain ⟨v, hm⟩ := (mem_kvIndexes t h j hj').1 hj
  exact (be64_lt i j hi hj').1 (hlt _ hm)

theorem kvIndexes_sorted (m : KV) (hs : Sorted m) (h : Typed m) :
    (kvIndexes m).Pairwise (· < ·) := by
  revert hs
  refine typed_induction (P := fun m => Sorted m → (kvIndexes m).Pairwise (· < ·)) m h ?_ ?_ ?_
  · intro _; exact List.Pairwise.nil
  · intro i f e t hi _ ht ih hs
    rw [sorted_cons] at hs
    rw [kvIndexes_cons_log i _ t hi, List.pairwise_cons]
    exact ⟨kvIndexes_gt_of_lexLt t ht i hi hs.1, ih hs.2⟩
  · intro k bs t hk _ ih hs
    rw [sorted_cons] at hs
    rw [kvIndexes_cons_stable k _ t hk]
    exact ih hs.2

theorem logKeys_eq (m : KV) (h : Typed m) :
    (m.filter (fun e => !isStable e.1)).map (·.1) = (kvIndexes m).map be64 := by
  refine typed_induction (P := fun m =>
    (m.filter (fun e => !isStable e.1)).map (·.1) = (kvIndexes m).map be64) m h rfl ?_ ?_
  · intro i f e t hi _ _ ih
    rw [kvIndexes_cons_log i _ t hi]
    simp only [List.filter_cons, isStable_be64, Bool.not_false, if_true, List.map_cons, ih]
  · intro k bs t hk _ ih
    rw [kvIndexes_cons_stable k _ t hk]
    simp only [List.filter_cons, hk, Bool.not_true, Bool.false_eq_true, if_false, ih]

theorem scan_head (m : KV) (h : Typed m) :
    (match m.dropWhile (fun e => isStable e.1) with
     | [] => Except.ok 0
     | (k, _) :: _ => keyIndex k) = Except.ok ((kvIndexes m).head?.getD 0) := by
  refine typed_induction (P := fun m =>
    (match m.dropWhile (fun e => isStable e.1) with
     | [] => Except.ok 0
     | (k, _) :: _ => keyIndex k) = Except.ok ((kvIndexes m).head?.getD 0)) m h rfl ?_ ?_
  · intro i f e t hi _ _ _
    rw [kvIndexes_cons_log i _ t hi]
    simp only [List.dropWhile_cons, isStable_be64, Bool.false_eq_true, if_false, keyIndex_be64 i hi,
      List.head?_cons, Option.getD_some]
  · intro k bs t hk _ ih
    rw [kvIndexes_cons_stable k _ t hk]
    simp only [List.dropWhile_cons, hk, if_true]
    exact ih

theorem typed_reverse (m : KV) (h : Typed m) : Typed m.reverse :=
  fun k v hm => h k v (List.mem_reverse.1 hm)

theorem kvIndexes_reverse (m : KV) : kvIndexes m.reverse = (kvIndexes m).reverse := by
  simp only [kvIndexes, List.filter_reverse, List.map_reverse]

theorem firstIndex_eq (s : Store) (h : Typed s.kv) :
    s.firstIndex = .ok ((logIndexes s).head?.getD 0) := scan_head s.kv h

theorem lastIndex_eq (s : Store) (h : Typed s.kv) :
    s.lastIndex = .ok ((logIndexes s).getLast?.getD 0) := by
  have := scan_head s.kv.reverse (typed_reverse _ h)
  rwa [kvIndexes_reverse, List.head?_reverse] at this

theorem mem_logIndexes (s : Store) (h : WF s) (i : Nat) (hi : i < 2 ^ 64) :
    i ∈ logIndexes s ↔ (logView s i).isSome := by
  rw [logIndexes, mem_kvIndexes s.kv h.2 i hi]
  constructor
  · rintro ⟨v, hm⟩
    obtain ⟨f, e, rfl⟩ := typed_log_key _ h.2 i hi v hm
    rw [logView_of_mem s h.1 i f e hm]; rfl
  · intro hs
    cases hv : logView s i with
    | none => rw [hv] at hs; cases hs
    | some e => obtain ⟨f, hf⟩ := logView_eq_some s i e hv; exact ⟨_, hf⟩

theorem logIndexes_nil (s : Store) (h : WF s) (hn : ∀ i, i < 2 ^ 64 → logView s i = none) :
    logIndexes s = [] :=
  List.eq_nil_iff_forall_not_mem.2 fun i hm => by
    have hi := kvIndexes_lt s.kv h.2 i hm
    have := (mem_logIndexes s h i hi).1 hm
    rw [hn i hi] at this; cases this

/-- the head of a rearrangement `l` of the index list that is sorted by `R` is a stored index, and
`R`-below every other stored index (`i` witnesses that the log is not empty) -/
theorem head_extreme (s : Store) (h : WF s) (l : List Nat) (R : Nat → Nat → Prop)
    (hl : l.Pairwise R) (hmem : ∀ j, j ∈ l ↔ j ∈ logIndexes s)
    (i : Nat) (hi : i < 2 ^ 64) (hv : (logView s i).isSome) :
    (logView s (l.head?.getD 0)).isSome ∧
      ∀ j, j < 2 ^ 64 → (logView s j).isSome → j = l.head?.getD 0 ∨ R (l.head?.getD 0) j := by
  have stored : ∀ j, j < 2 ^ 64 → (logView s j).isSome → j ∈ l :=
    fun j hj hs => (hmem j).2 ((mem_logIndexes s h j hj).2 hs)
  cases l with
  | nil => exact absurd (stored i hi hv) List.not_mem_nil
  | cons n t =>
    have hn : n ∈ logIndexes s := (hmem n).1 List.mem_cons_self
    refine ⟨(mem_logIndexes s h n (kvIndexes_lt s.kv h.2 n hn)).1 hn, fun j hj hs => ?_⟩
    rcases List.mem_cons.1 (stored j hj hs) with hjn | hjt
    · exact Or.inl hjn
    · exact Or.inr ((List.pairwise_cons.1 hl).1 j hjt)

theorem stablePrefix_split : stablePrefix = be64 stableCut ++ [111, 114, 101, 45] := by decide

/-- a stable key compares with a log key like `stableCut + ½` with the index -/
theorem lexLt_stable_be64 (k : Bytes) (n : Nat) (hn : n < 2 ^ 64) :
    lexLt (stablePrefix ++ k) (be64 n) = decide (stableCut < n) := by
  rw [stablePrefix_split, List.append_assoc, lexLt_append_left (be64 stableCut) (be64 n) _ rfl,
    be64_lt_dec stableCut n (by decide) hn]

theorem inRange_stable (a b : Nat) (k : Bytes) (ha : a < 2 ^ 64) (hb : b < 2 ^ 64) :
    inRange a (some b) (stablePrefix ++ k) = (decide (a ≤ stableCut) && decide (stableCut < b)) := by
  simp only [inRange, lexLt_stable_be64 k a ha, lexLt_stable_be64 k b hb]
  by_cases h : stableCut < a
  · simp [h, Nat.not_le.2 h]
  · simp [h, Nat.not_lt.1 h]

/-! ### the entries themselves (what `Fsm.Model` keeps in `irc`) -/

def kvEntries (m : KV) : List LogEntry :=
  m.filterMap (fun p => match p.2 with | .log _ e => some e | .raw _ => none)

def logEntries (s : Store) : List LogEntry := kvEntries s.kv

/-- `Fsm.insertSorted` on store entries: sorted insert by index, replacing an entry of equal index -/
def insertEntry (e : LogEntry) : List LogEntry → List LogEntry
  | [] => [e]
  | x :: xs =>
    if e.index < x.index then e :: x :: xs
    else if e.index = x.index then e :: xs
    else x :: insertEntry e xs

theorem kvEntries_cons_log (k : Bytes) (f : Fmt) (e : LogEntry) (t : KV) :
    kvEntries ((k, .log f e) :: t) = e :: kvEntries t := rfl

theorem kvEntries_cons_raw (k bs : Bytes) (t : KV) :
    kvEntries ((k, .raw bs) :: t) = kvEntries t := rfl

theorem kvEntries_index (m : KV) (h : Typed m) : (kvEntries m).map (·.index) = kvIndexes m := by
  refine typed_induction (P := fun m => (kvEntries m).map (·.index) = kvIndexes m) m h rfl ?_ ?_
  · intro i f e t hi he _ ih
    rw [kvEntries_cons_log, kvIndexes_cons_log i _ t hi, List.map_cons, ih, he]
  · intro k bs t hk _ ih
    rw [kvEntries_cons_raw, kvIndexes_cons_stable k _ t hk, ih]

theorem mem_kvEntries (m : KV) (e : LogEntry) : e ∈ kvEntries m ↔ ∃ k f, (k, Val.log f e) ∈ m := by
  simp only [kvEntries, List.mem_filterMap]
  constructor
  · rintro ⟨⟨k, v⟩, hm, hv⟩
    cases v with
    | log f e' => simp only [Option.some.injEq] at hv; subst hv; exact ⟨k, f, hm⟩
    | raw bs => simp at hv
  · rintro ⟨k, f, hm⟩
    exact ⟨(k, .log f e), hm, rfl⟩

theorem insertEntry_of_lt_all (e : LogEntry) (l : List LogEntry) (h : ∀ x ∈ l, e.index < x.index) :
    insertEntry e l = e :: l := by
  cases l with
  | nil => rfl
  | cons x xs => simp only [insertEntry, if_pos (h x List.mem_cons_self)]

theorem insertEntry_index (e : LogEntry) (l : List LogEntry) :
    (insertEntry e l).map (·.index) = insertNat e.index (l.map (·.index)) := by
  induction l with
  | nil => rfl
  | cons x xs ih =>
    simp only [insertEntry, List.map_cons, insertNat]
    split
    · rfl
    · split
      · rfl
      · rw [List.map_cons, ih]

theorem kvEntries_kvPut_log (m : KV) (f : Fmt) (e : LogEntry) (hs : Sorted m) (h : Typed m)
    (hi : e.index < 2 ^ 64) :
    kvEntries (kvPut m (be64 e.index) (.log f e)) = insertEntry e (kvEntries m) := by
  revert hs
  refine typed_induction (P := fun m => Sorted m →
    kvEntries (kvPut m (be64 e.index) (.log f e)) = insertEntry e (kvEntries m)) m h ?_ ?_ ?_
  · intro _; rfl
  · intro j f' e' t hj he' _ ih hs
    rw [sorted_cons] at hs
    rw [kvEntries_cons_log]
    simp only [kvPut, insertEntry, be64_lt_dec e.index j hi hj, decide_eq_true_eq,
      be64_eq_iff e.index j hi hj, he']
    by_cases h1 : e.index < j
    · rw [if_pos h1, if_pos h1]; rfl
    · rw [if_neg h1, if_neg h1]
      by_cases h2 : e.index = j
      · rw [if_pos h2, if_pos h2]; rfl
      · rw [if_neg h2, if_neg h2, kvEntries_cons_log, ih hs.2]
  · intro k bs t hk ht ih hs
    rw [sorted_cons] at hs
    rw [kvEntries_cons_raw]
    simp only [kvPut]
    by_cases h1 : lexLt (be64 e.index) k = true
    · rw [if_pos h1, kvEntries_cons_log, kvEntries_cons_raw]
      refine (insertEntry_of_lt_all e _ ?_).symm
      intro x hx
      have hx' : x.index ∈ kvIndexes t := by
        rw [← kvEntries_index t ht]; exact List.mem_map_of_mem hx
      exact kvIndexes_gt_of_lexLt t ht e.index hi
        (fun p hp => lexLt_trans _ _ _ h1 (hs.1 p hp)) _ hx'
    · rw [if_neg h1]
      have h2 : be64 e.index ≠ k := fun e => by rw [← e, isStable_be64] at hk; cases hk
      rw [if_neg h2, kvEntries_cons_raw, ih hs.2]

theorem kvEntries_filter (m : KV) (h : Typed m) (q : Bytes → Bool) (r : Nat → Bool)
    (hq : ∀ i, i < 2 ^ 64 → q (be64 i) = r i) :
    kvEntries (m.filter (fun e => q e.1)) = (kvEntries m).filter (fun e => r e.index) := by
  refine typed_induction (P := fun m =>
    kvEntries (m.filter (fun e => q e.1)) = (kvEntries m).filter (fun e => r e.index)) m h rfl ?_ ?_
  · intro i f e t hi he _ ih
    rw [kvEntries_cons_log]
    simp only [List.filter_cons, hq i hi, he]
    cases r i with
    | true => simp only [if_true, kvEntries_cons_log, ih]
    | false => simp only [Bool.false_eq_true, if_false, ih]
  · intro k bs t _ _ ih
    rw [kvEntries_cons_raw]
    simp only [List.filter_cons]
    split
    · rw [kvEntries_cons_raw, ih]
    · exact ih

/-! ### the index list is the `index` image of the entry list -/

theorem kvIndexes_kvPut_log (m : KV) (f : Fmt) (e : LogEntry) (hs : Sorted m) (h : Typed m)
    (hi : e.index < 2 ^ 64) :
    kvIndexes (kvPut m (be64 e.index) (.log f e)) = insertNat e.index (kvIndexes m) := by
  rw [← kvEntries_index _ (typed_kvPut_log m f e h hi), kvEntries_kvPut_log m f e hs h hi,
    insertEntry_index, kvEntries_index m h]

theorem kvIndexes_filter (m : KV) (h : Typed m) (q : Bytes → Bool) (r : Nat → Bool)
    (hq : ∀ i, i < 2 ^ 64 → q (be64 i) = r i) :
    kvIndexes (m.filter (fun e => q e.1)) = (kvIndexes m).filter r := by
  rw [← kvEntries_index _ (typed_filter m _ h), kvEntries_filter m h q r hq,
    ← kvEntries_index m h, List.filter_map]
  rfl

end Robust.Store
