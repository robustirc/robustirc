import Robust.Store.LevelDB
import Robust.Base.AList
/-!
Helper lemmas for the LevelDB store model: `lexLt` is a strict total order (its facts are here, next to
the model file that defines it, although they speak of byte strings only), the key encodings are order
preserving / disjoint, `kvGet/kvPut/filter` algebra, the abstraction functions
(`logView`, `stableView`) and the representation invariant `WF`.
-/
namespace Robust.Store
open Robust Robust.Bytes Robust.Codec

theorem lexLt_irrefl (a : Bytes) : lexLt a a = false := by
  induction a with
  | nil => rfl
  | cons x xs ih => simp only [lexLt, UInt8.lt_irrefl, if_false, ih]

theorem lexLt_cons (x y : UInt8) (xs ys : Bytes) :
    lexLt (x :: xs) (y :: ys) = true ↔ x < y ∨ x = y ∧ lexLt xs ys = true := by
  rw [lexLt]
  split
  · rename_i hxy; exact iff_of_true rfl (Or.inl hxy)
  · rename_i hxy
    split
    · rename_i hyx
      refine iff_of_false Bool.false_ne_true ?_
      rintro (h | ⟨rfl, _⟩)
      · exact hxy h
      · exact hxy hyx
    · rename_i hyx
      have he : x = y := UInt8.le_antisymm (UInt8.not_lt.1 hyx) (UInt8.not_lt.1 hxy)
      subst he
      exact ⟨fun h => Or.inr ⟨rfl, h⟩, fun h => h.elim (absurd · hxy) And.right⟩

theorem lexLt_trans : ∀ (a b c : Bytes), lexLt a b = true → lexLt b c = true → lexLt a c = true
  | [], [], _, h, _ => by cases h
  | _ :: _, [], _, h, _ => by cases h
  | _, _ :: _, [], _, h => by cases h
  | [], _ :: _, _ :: _, _, _ => rfl
  | x :: xs, y :: ys, z :: zs, h1, h2 => by
    rw [lexLt_cons] at h1 h2 ⊢
    rcases h1 with h1 | ⟨rfl, h1⟩
    · rcases h2 with h2 | ⟨rfl, _⟩
      · exact Or.inl (UInt8.lt_trans h1 h2)
      · exact Or.inl h1
    · rcases h2 with h2 | ⟨rfl, h2⟩
      · exact Or.inl h2
      · exact Or.inr ⟨rfl, lexLt_trans xs ys zs h1 h2⟩

theorem lexLt_total : ∀ (a b : Bytes), lexLt a b = false → a ≠ b → lexLt b a = true
  | [], [], _, hne => absurd rfl hne
  | [], _ :: _, h, _ => by cases h
  | _ :: _, [], _, _ => rfl
  | x :: xs, y :: ys, h, hne => by
    rw [lexLt_cons]
    rw [← Bool.not_eq_true, lexLt_cons, not_or] at h
    rcases Nat.lt_trichotomy x.toNat y.toNat with hlt | heq | hgt
    · exact absurd (UInt8.lt_iff_toNat_lt.2 hlt) h.1
    · have he := UInt8.toNat_inj.1 heq
      subst he
      refine Or.inr ⟨rfl, lexLt_total xs ys ?_ (fun e => hne (e ▸ rfl))⟩
      rw [← Bool.not_eq_true]; exact fun hl => h.2 ⟨rfl, hl⟩
    · exact Or.inl (UInt8.lt_iff_toNat_lt.2 hgt)
theorem lexLt_asymm (a b : Bytes) (h : lexLt a b = true) : lexLt b a = false := by
  cases hb : lexLt b a with
  | false => rfl
  | true => have := lexLt_trans a b a h hb; rw [lexLt_irrefl] at this; cases this

theorem lexLt_append_left : ∀ (x y r : Bytes), x.length = y.length →
    lexLt (x ++ r) y = lexLt x y
  | [], [], r, _ => by cases r <;> rfl
  | [], _ :: _, _, h => by simp at h
  | _ :: _, [], _, h => by simp at h
  | a :: as, b :: bs, r, h => by
    simp only [List.length_cons, Nat.add_right_cancel_iff] at h
    simp only [List.cons_append, lexLt, lexLt_append_left as bs r h]

theorem isPrefixOf_append (p k : Bytes) : isPrefixOf p (p ++ k) = true := by
  induction p with
  | nil => rfl
  | cons x xs ih => simp [isPrefixOf, ih]

theorem isStable_stable (k : Bytes) : isStable (stablePrefix ++ k) = true :=
  isPrefixOf_append _ _

theorem isPrefixOf_length (p k : Bytes) (h : isPrefixOf p k = true) : p.length ≤ k.length := by
  induction p generalizing k with
  | nil => simp
  | cons x xs ih =>
    cases k with
    | nil => simp [isPrefixOf] at h
    | cons y ys =>
      simp only [isPrefixOf, Bool.and_eq_true] at h
      have := ih ys h.2
      simp only [List.length_cons]; omega

theorem isPrefixOf_eq_append (p k : Bytes) (h : isPrefixOf p k = true) : ∃ r, k = p ++ r := by
  induction p generalizing k with
  | nil => exact ⟨k, rfl⟩
  | cons x xs ih =>
    cases k with
    | nil => simp [isPrefixOf] at h
    | cons y ys =>
      simp only [isPrefixOf, Bool.and_eq_true, beq_iff_eq] at h
      obtain ⟨r, hr⟩ := ih ys h.2
      exact ⟨r, by rw [h.1, hr]; rfl⟩

theorem isStable_be64 (i : Nat) : isStable (be64 i) = false := by
  cases h : isStable (be64 i) with
  | false => rfl
  | true =>
    have := isPrefixOf_length _ _ h
    simp [stablePrefix, be64] at this

theorem be64_ne_stable (i : Nat) (k : Bytes) : be64 i ≠ stablePrefix ++ k := by
  intro h
  have := congrArg List.length h
  simp [stablePrefix, be64] at this

theorem keyIndex_be64 (n : Nat) (h : n < 2 ^ 64) : keyIndex (be64 n) = .ok n := by
  simp only [keyIndex, rdBe64_be64' n h]

theorem lexLt_iff_beVal : ∀ (a b : Bytes), a.length = b.length →
    (lexLt a b = true ↔ beVal a < beVal b)
  | [], [], _ => iff_of_false Bool.false_ne_true (Nat.lt_irrefl _)
  | x :: xs, y :: ys, h => by
    have h := Nat.succ.inj h
    have hxs := beVal_lt xs
    have hys := beVal_lt ys
    rw [lexLt_cons, lexLt_iff_beVal xs ys h, beVal_cons, beVal_cons, UInt8.lt_iff_toNat_lt,
      ← UInt8.toNat_inj]
    rw [h] at hxs ⊢
    generalize 256 ^ ys.length = P at *
    rcases Nat.lt_trichotomy x.toNat y.toNat with hlt | heq | hgt
    · have := Nat.mul_le_mul_right P hlt
      rw [Nat.succ_mul] at this
      exact iff_of_true (Or.inl hlt) (by omega)
    · rw [heq]; omega
    · have := Nat.mul_le_mul_right P hgt
      rw [Nat.succ_mul] at this
      exact iff_of_false (by omega) (by omega)
theorem be64_lt (a b : Nat) (ha : a < 2 ^ 64) (hb : b < 2 ^ 64) :
    lexLt (be64 a) (be64 b) = true ↔ a < b := by
  rw [lexLt_iff_beVal (be64 a) (be64 b) rfl, beVal_be64 a ha, beVal_be64 b hb]

theorem be64_lt_dec (a b : Nat) (ha : a < 2 ^ 64) (hb : b < 2 ^ 64) :
    lexLt (be64 a) (be64 b) = decide (a < b) := by
  rw [Bool.eq_iff_iff, be64_lt a b ha hb, decide_eq_true_iff]

theorem inRange_be64 (a i : Nat) (lim : Option Nat) (ha : a < 2 ^ 64) (hi : i < 2 ^ 64)
    (hl : ∀ l ∈ lim, l < 2 ^ 64) :
    inRange a lim (be64 i)
      = (decide (a ≤ i) && lim.all fun l => decide (i < l)) := by
  unfold inRange
  simp only [be64_lt_dec i a hi ha, ← decide_not, Nat.not_lt]
  cases lim with
  | none => rfl
  | some l => exact congrArg _ (be64_lt_dec i l hi (hl l rfl))

/-- the keys `DeleteRange(a, b)` keeps -/
def delKeep (a b : Nat) (k : Bytes) : Bool :=
  !(inRange a (if b = 18446744073709551615 then none else some (b + 1)) k && !isStable k)

theorem deleteRange_kv (s : Store) (a b : Nat) :
    (s.deleteRange a b).kv = s.kv.filter (fun e => delKeep a b e.1) := rfl

theorem mem_bulkKeys (s : Store) (a b : Nat) (k : Bytes) :
    k ∈ s.bulkKeys a b ↔ (∃ v, (k, v) ∈ s.kv) ∧ inRange a (some b) k = true := by
  unfold Store.bulkKeys
  simp only [List.mem_map, List.mem_filter]
  exact ⟨fun ⟨e, ⟨hm, hin⟩, he⟩ => he ▸ ⟨⟨e.2, hm⟩, hin⟩, fun ⟨⟨v, hm⟩, hin⟩ => ⟨(k, v), ⟨hm, hin⟩, rfl⟩⟩

/-- among the log keys exactly those of the indexes in `[a, b]` go, also for `b = 2^64-1` -/
theorem delKeep_be64 (a b i : Nat) (ha : a < 2 ^ 64) (hb : b < 2 ^ 64) (hi : i < 2 ^ 64) :
    delKeep a b (be64 i) = !(decide (a ≤ i) && decide (i ≤ b)) := by
  rw [delKeep, isStable_be64, Bool.not_false, Bool.and_true]
  split
  · rename_i hmax
    rw [inRange_be64 a i none ha hi (fun _ h => nomatch h), decide_eq_true (p := i ≤ b) (by omega)]
    rfl
  · rename_i hmax
    rw [inRange_be64 a i (some (b + 1)) ha hi (fun l h => by cases h; omega), Option.all_some]
    simp only [Nat.lt_succ_iff]
/-! ### association-list algebra: `KV` is an `AList` ordered by `lexLt` -/

def Sorted (m : KV) : Prop := (m.map (·.1)).Pairwise (fun a b => lexLt a b = true)

/-- the order of the keys as a relation, which is what `AList` is stated over -/
abbrev LexLt (a b : Bytes) : Prop := lexLt a b = true

theorem sorted_eq (m : KV) : Sorted m = AList.Sorted LexLt m := rfl

theorem kvGet_eq (m : KV) (k : Bytes) : kvGet m k = AList.get m k := by
  induction m with
  | nil => rfl
  | cons e t ih => obtain ⟨k', v⟩ := e; rw [kvGet, AList.get, ih]

theorem kvPut_eq (m : KV) (k : Bytes) (v : Val) :
    kvPut m k v = AList.put LexLt m k v := by
  induction m with
  | nil => rfl
  | cons e t ih => obtain ⟨k', v'⟩ := e; rw [kvPut, AList.put, ih]

theorem sorted_cons (k : Bytes) (v : Val) (t : KV) :
    Sorted ((k, v) :: t) ↔ (∀ p ∈ t, lexLt k p.1 = true) ∧ Sorted t := AList.sorted_cons k v t

theorem kvGet_some_mem (m : KV) (k : Bytes) (v : Val) (h : kvGet m k = some v) : (k, v) ∈ m :=
  AList.get_some_mem m k v (kvGet_eq m k ▸ h)

theorem mem_kvGet (m : KV) (k : Bytes) (v : Val) (hs : Sorted m) (h : (k, v) ∈ m) :
    kvGet m k = some v :=
  (kvGet_eq m k).trans (AList.mem_get (fun a h => Bool.false_ne_true (lexLt_irrefl a ▸ h)) m k v hs h)

theorem kvGet_none_of_not_mem (m : KV) (k : Bytes) (h : ∀ v, (k, v) ∉ m) : kvGet m k = none := by
  cases hg : kvGet m k with
  | none => rfl
  | some v => exact absurd (kvGet_some_mem m k v hg) (h v)

theorem mem_kvPut (m : KV) (k : Bytes) (v : Val) (p : Bytes × Val) (h : p ∈ kvPut m k v) :
    p = (k, v) ∨ p ∈ m :=
  AList.mem_put _ m k v p (kvPut_eq m k v ▸ h)

theorem sorted_kvPut (m : KV) (k : Bytes) (v : Val) (h : Sorted m) : Sorted (kvPut m k v) := by
  rw [sorted_eq] at h ⊢
  rw [kvPut_eq]
  exact AList.sorted_put LexLt lexLt_trans
    (fun a b h1 h2 => lexLt_total a b (Bool.eq_false_iff.2 h1) h2) m k v h

theorem kvGet_kvPut (m : KV) (k : Bytes) (v : Val) (x : Bytes) :
    kvGet (kvPut m k v) x = if x = k then some v else kvGet m x := by
  rw [kvPut_eq, kvGet_eq, AList.get_put, kvGet_eq]

theorem kvGet_kvPut_same (m : KV) (k : Bytes) (v : Val) : kvGet (kvPut m k v) k = some v := by
  rw [kvGet_kvPut, if_pos rfl]

theorem kvGet_kvPut_other (m : KV) (k : Bytes) (v : Val) (x : Bytes) (hx : x ≠ k) :
    kvGet (kvPut m k v) x = kvGet m x := by
  rw [kvGet_kvPut, if_neg hx]

theorem kvGet_filter (m : KV) (q : Bytes → Bool) (k : Bytes) :
    kvGet (m.filter (fun e => q e.1)) k = if q k = true then kvGet m k else none := by
  rw [kvGet_eq, kvGet_eq]; exact AList.get_filter m q k

theorem sorted_filter (m : KV) (p : Bytes × Val → Bool) (h : Sorted m) : Sorted (m.filter p) :=
  AList.sorted_filter m p h

/-- abstraction to the spec: a partial map from indexes to entries and one from keys to values -/
def logView (s : Store) (i : Nat) : Option LogEntry :=
  match kvGet s.kv (Bytes.be64 i) with | some (.log _ e) => some e | _ => none

def stableView (s : Store) (k : Bytes) : Option Bytes :=
  match kvGet s.kv (stablePrefix ++ k) with | some (.raw v) => some v | _ => none

/-- representation invariant: keys strictly sorted in lexicographic order; every key is either
`be64 i` (i < 2^64) holding a log value whose `index` is i, or a stable-store key holding a raw
value -/
def WF (s : Store) : Prop :=
  (s.kv.map (·.1)).Pairwise (fun a b => lexLt a b = true) ∧
  ∀ k v, (k, v) ∈ s.kv →
    (∃ i f e, i < 2^64 ∧ k = Bytes.be64 i ∧ v = .log f e ∧ e.index = i) ∨
    (∃ k' bs, k = stablePrefix ++ k' ∧ v = .raw bs)

def Typed (m : KV) : Prop :=
  ∀ k v, (k, v) ∈ m →
    (∃ i f e, i < 2^64 ∧ k = Bytes.be64 i ∧ v = .log f e ∧ e.index = i) ∨
    (∃ k' bs, k = stablePrefix ++ k' ∧ v = .raw bs)

theorem WF_iff (s : Store) : WF s ↔ Sorted s.kv ∧ Typed s.kv := Iff.rfl

theorem typed_kvPut_log (m : KV) (f : Fmt) (e : LogEntry) (h : Typed m) (hi : e.index < 2 ^ 64) :
    Typed (kvPut m (be64 e.index) (.log f e)) := by
  intro k v hm
  rcases mem_kvPut _ _ _ _ hm with hm | hm
  · cases hm; exact Or.inl ⟨e.index, f, e, hi, rfl, rfl, rfl⟩
  · exact h k v hm

/-- A batch of log writes is a fold of single writes: it keeps the database sorted and typed, and an
observation `g` that every single write updates by `step` is updated by the fold of `step`. -/
theorem foldl_put_log {α : Type} (f : Fmt) (g : KV → α) (step : α → LogEntry → α)
    (hstep : ∀ m e, Sorted m → Typed m → e.index < 2 ^ 64 →
      g (kvPut m (be64 e.index) (.log f e)) = step (g m) e)
    (es : List LogEntry) (m : KV) (hs : Sorted m) (h : Typed m)
    (hi : ∀ e ∈ es, e.index < 2 ^ 64) :
    Sorted (es.foldl (fun kv e => kvPut kv (be64 e.index) (.log f e)) m) ∧
    Typed (es.foldl (fun kv e => kvPut kv (be64 e.index) (.log f e)) m) ∧
    g (es.foldl (fun kv e => kvPut kv (be64 e.index) (.log f e)) m) = es.foldl step (g m) := by
  induction es generalizing m with
  | nil => exact ⟨hs, h, rfl⟩
  | cons e es ih =>
    have he := hi e List.mem_cons_self
    rw [List.foldl_cons, List.foldl_cons, ← hstep m e hs h he]
    exact ih _ (sorted_kvPut _ _ _ hs) (typed_kvPut_log _ _ _ h he)
      (fun e' he' => hi e' (List.mem_cons_of_mem _ he'))

theorem typed_kvPut_raw (m : KV) (k bs : Bytes) (h : Typed m) :
    Typed (kvPut m (stablePrefix ++ k) (.raw bs)) := by
  intro k' v hm
  rcases mem_kvPut _ _ _ _ hm with hm | hm
  · cases hm; exact Or.inr ⟨k, bs, rfl, rfl⟩
  · exact h k' v hm

theorem typed_filter (m : KV) (p : Bytes × Val → Bool) (h : Typed m) : Typed (m.filter p) :=
  fun k v hm => h k v (List.mem_filter.1 hm).1

theorem typed_log_key (m : KV) (h : Typed m) (i : Nat) (hi : i < 2 ^ 64) (v : Val)
    (hm : (be64 i, v) ∈ m) : ∃ f e, v = .log f e := by
  rcases h _ _ hm with ⟨j, f, e, hj, hk, hv, _⟩ | ⟨k', bs, hk, _⟩
  · have := be64_inj i j hi hj hk
    subst this; exact ⟨f, e, hv⟩
  · exact absurd hk (be64_ne_stable i k')

theorem typed_stable_key (m : KV) (h : Typed m) (k : Bytes) (v : Val)
    (hm : (stablePrefix ++ k, v) ∈ m) : ∃ bs, v = .raw bs := by
  rcases h _ _ hm with ⟨j, f, e, hj, hk, hv, he⟩ | ⟨k', bs, hk, hv⟩
  · exact absurd hk.symm (be64_ne_stable j k)
  · exact ⟨bs, hv⟩

theorem typed_nonstable (m : KV) (h : Typed m) (k : Bytes) (v : Val) (hm : (k, v) ∈ m)
    (hk : isStable k = false) : ∃ i f e, i < 2 ^ 64 ∧ k = be64 i ∧ v = .log f e ∧ e.index = i := by
  rcases h _ _ hm with h | ⟨k', bs, hk', _⟩
  · exact h
  · rw [hk', isStable_stable] at hk; cases hk

theorem logView_eq_some (s : Store) (i : Nat) (e : LogEntry) (h : logView s i = some e) :
    ∃ f, (be64 i, Val.log f e) ∈ s.kv := by
  unfold logView at h
  split at h
  · rename_i f e' hg; cases h; exact ⟨f, kvGet_some_mem _ _ _ hg⟩
  · cases h

theorem logView_of_mem (s : Store) (hs : Sorted s.kv) (i : Nat) (f : Fmt) (e : LogEntry)
    (hm : (be64 i, Val.log f e) ∈ s.kv) : logView s i = some e := by
  unfold logView; rw [mem_kvGet _ _ _ hs hm]

end Robust.Store
