import Robust.Race.Model

/-!
# Data-race freedom of the lockset discipline (C20)

* `Inv`, `run_inv`: a writer excludes readers in every reachable lock state.
* `no_simultaneous_conflict`: a thread holding a lock exclusively is its only holder.
* `lockset_orders`: two conflicting accesses to a field `f` by different threads in a disciplined
  trace are separated by a release of `G f` by the first thread followed by an acquisition of
  `G f` by the second one.
-/
namespace Robust.Race

theorem step_w {s s' : LS} {e : Ev} (h : step s e = some s') (l : String) :
    s'.w l = s.w l ∨ (∃ t, e = .acqW t l ∧ s.w l = none ∧ s.r l = [] ∧ s'.w l = some t) ∨
      (∃ t, e = .relW t l ∧ s.w l = some t ∧ s'.w l = none) := by
  cases e with
  | acqW t l' =>
    simp only [step] at h
    split at h
    · rename_i hc
      cases h
      by_cases hx : l = l'
      · subst hx; exact Or.inr (Or.inl ⟨t, rfl, hc.1, hc.2, if_pos rfl⟩)
      · exact Or.inl (if_neg hx)
    · cases h
  | relW t l' =>
    simp only [step] at h
    split at h
    · rename_i hc
      cases h
      by_cases hx : l = l'
      · subst hx; exact Or.inr (Or.inr ⟨t, rfl, hc, if_pos rfl⟩)
      · exact Or.inl (if_neg hx)
    · cases h
  | acqR t l' => simp only [step] at h; split at h <;> cases h; exact Or.inl rfl
  | relR t l' => simp only [step] at h; split at h <;> cases h; exact Or.inl rfl
  | rd t f => cases h; exact Or.inl rfl
  | wr t f => cases h; exact Or.inl rfl

theorem step_r {s s' : LS} {e : Ev} (h : step s e = some s') (l : String) :
    s'.r l = s.r l ∨ (∃ t, e = .acqR t l ∧ s.w l = none ∧ s'.r l = t :: s.r l) ∨
      (∃ t, e = .relR t l ∧ s'.r l = (s.r l).erase t) := by
  cases e with
  | acqR t l' =>
    simp only [step] at h
    split at h
    · rename_i hc
      cases h
      by_cases hx : l = l'
      · subst hx; exact Or.inr (Or.inl ⟨t, rfl, hc, if_pos rfl⟩)
      · exact Or.inl (if_neg hx)
    · cases h
  | relR t l' =>
    simp only [step] at h
    split at h
    · cases h
      by_cases hx : l = l'
      · subst hx; exact Or.inr (Or.inr ⟨t, rfl, if_pos rfl⟩)
      · exact Or.inl (if_neg hx)
    · cases h
  | acqW t l' => simp only [step] at h; split at h <;> cases h; exact Or.inl rfl
  | relW t l' => simp only [step] at h; split at h <;> cases h; exact Or.inl rfl
  | rd t f => cases h; exact Or.inl rfl
  | wr t f => cases h; exact Or.inl rfl

theorem relW_of_step {s s' : LS} {e : Ev} {t : Tid} {l : String} (h : step s e = some s')
    (h0 : s.w l = some t) (h1 : s'.w l ≠ some t) : e = .relW t l := by
  rcases step_w h l with hw | ⟨t', _, hn, _⟩ | ⟨t', he, hs, _⟩
  · exact absurd (hw.trans h0) h1
  · rw [hn] at h0; cases h0
  · rw [hs] at h0; cases h0; exact he

theorem acqW_of_step {s s' : LS} {e : Ev} {t : Tid} {l : String} (h : step s e = some s')
    (h0 : s.w l ≠ some t) (h1 : s'.w l = some t) : e = .acqW t l ∧ s.w l = none ∧ s.r l = [] := by
  rcases step_w h l with hw | ⟨t', he, hn, hr, hs⟩ | ⟨t', _, _, hs⟩
  · exact absurd (hw.symm.trans h1) h0
  · rw [hs] at h1; cases h1; exact ⟨he, hn, hr⟩
  · rw [hs] at h1; cases h1

theorem relR_of_step {s s' : LS} {e : Ev} {t : Tid} {l : String} (h : step s e = some s')
    (h0 : t ∈ s.r l) (h1 : t ∉ s'.r l) : e = .relR t l := by
  rcases step_r h l with hr | ⟨t', _, _, hr⟩ | ⟨t', he, hr⟩
  · exact absurd (hr ▸ h0) h1
  · exact absurd (hr ▸ List.mem_cons_of_mem _ h0) h1
  · by_cases ht : t = t'
    · rw [ht]; exact he
    · exact absurd (hr ▸ (List.mem_erase_of_ne ht).2 h0) h1

theorem acq_of_step {s s' : LS} {e : Ev} {t : Tid} {l : String} (h : step s e = some s')
    (h0 : ¬ holds s t l) (h1 : holds s' t l) : isAcq e t l ∧ s.w l = none := by
  rcases h1 with h1 | h1
  · obtain ⟨he, hn, _⟩ := acqW_of_step h (fun hw => h0 (Or.inl hw)) h1
    exact ⟨Or.inl he, hn⟩
  · rcases step_r h l with hr | ⟨t', he, hn, hr⟩ | ⟨t', _, hr⟩
    · exact absurd (Or.inr (hr ▸ h1)) h0
    · rcases List.mem_cons.1 (hr ▸ h1) with rfl | hm
      · exact ⟨Or.inr he, hn⟩
      · exact absurd (Or.inr hm) h0
    · exact absurd (Or.inr (List.mem_of_mem_erase (hr ▸ h1))) h0

theorem run_cons {s s' : LS} {e : Ev} {es : List Ev} (h : run s (e :: es) = some s') :
    ∃ s1, step s e = some s1 ∧ run s1 es = some s' := by
  simp only [run] at h
  cases hs : step s e with
  | none => rw [hs] at h; cases h
  | some s1 => rw [hs] at h; exact ⟨s1, rfl, h⟩

theorem run_append (s : LS) (a b : List Ev) :
    run s (a ++ b) = (run s a).bind (fun s' => run s' b) := by
  induction a generalizing s with
  | nil => rfl
  | cons e es ih =>
    simp only [List.cons_append, run]
    cases step s e with
    | none => rfl
    | some s1 => exact ih s1

theorem run_append_some {s s' : LS} {a b : List Ev} (h : run s (a ++ b) = some s') :
    ∃ sm, run s a = some sm ∧ run sm b = some s' := by
  rw [run_append] at h
  cases hs : run s a with
  | none => rw [hs] at h; cases h
  | some sm => rw [hs] at h; exact ⟨sm, rfl, h⟩

theorem disc_append {G : String → String} {s s' : LS} {a b : List Ev}
    (hr : run s a = some s') (hd : Disciplined G s (a ++ b)) : Disciplined G s' b := by
  induction a generalizing s with
  | nil => cases hr; exact hd
  | cons e es ih =>
    obtain ⟨s1, hs1, hr1⟩ := run_cons hr
    have h2 := hd.2
    rw [hs1] at h2
    exact ih hr1 h2

/-- a run that turns `P` from false to true has a step that does; `orders_core` finds with it the release
by the first thread and the acquisition by the second -/
theorem run_flip {P : LS → Prop} {s s' : LS} {tr : List Ev} (hr : run s tr = some s') (h0 : ¬ P s) (h1 : P s') :
    ∃ tr1 e tr2 sa sb, tr = tr1 ++ e :: tr2 ∧ run s tr1 = some sa ∧ step sa e = some sb ∧ ¬ P sa ∧ P sb := by
  induction tr generalizing s with
  | nil => cases hr; exact absurd h1 h0
  | cons e es ih =>
    obtain ⟨s1, hs1, hr1⟩ := run_cons hr
    by_cases hh : P s1
    · exact ⟨[], e, es, s, s1, rfl, rfl, hs1, h0, hh⟩
    · obtain ⟨tr1, b, tr2, sa, sb, heq, hra, hst, ha, hb⟩ := ih hr1 hh
      exact ⟨e :: tr1, b, tr2, sa, sb, by rw [heq]; rfl, by rw [run, hs1]; exact hra, hst, ha, hb⟩

/-- a writer excludes readers -/
def Inv (s : LS) : Prop := ∀ l t, s.w l = some t → s.r l = []

theorem inv_init : Inv LS.init := by
  intro l t h
  rfl

theorem step_inv {s s' : LS} {e : Ev} (hinv : Inv s) (h : step s e = some s') : Inv s' := by
  intro l u hw
  rcases step_w h l with hw' | ⟨t, rfl, _, hr, _⟩ | ⟨t, _, _, hn⟩
  · -- the writer of `l` is the old one: no reader before, and none can have come
    have hnil := hinv l u (hw' ▸ hw)
    rcases step_r h l with hr | ⟨t, _, hn, _⟩ | ⟨t, _, hr⟩
    · rw [hr, hnil]
    · rw [← hw', hw] at hn; cases hn
    · rw [hr, hnil]; rfl
  · rcases step_r h l with hr' | ⟨_, he, _⟩ | ⟨_, he, _⟩
    · rw [hr', hr]
    · cases he
    · cases he
  · rw [hn] at hw; cases hw

theorem run_inv {s s' : LS} {tr : List Ev} (hinv : Inv s) (h : run s tr = some s') : Inv s' := by
  induction tr generalizing s with
  | nil => cases h; exact hinv
  | cons e es ih =>
    obtain ⟨s1, hs1, hr1⟩ := run_cons h
    exact ih (step_inv hinv hs1) hr1

theorem inv_excl {s : LS} (hinv : Inv s) {t1 t2 : Tid} {l : String}
    (h1 : holdsW s t1 l) (h2 : holds s t2 l) : t1 = t2 := by
  unfold holdsW at h1
  cases h2 with
  | inl h => rw [h1] at h; cases h; rfl
  | inr h => rw [hinv l t1 h1] at h; cases h

theorem no_simultaneous_conflict {tr : List Ev} {s : LS} (h : run LS.init tr = some s) :
    ¬ ∃ t1 t2 l, t1 ≠ t2 ∧ holdsW s t1 l ∧ holds s t2 l := by
  intro ⟨t1, t2, l, hne, h1, h2⟩
  exact hne (inv_excl (run_inv inv_init h) h1 h2)

theorem step_access {s : LS} {e : Ev} {t : Tid} {f : String} (h : isAccess e t f) :
    step s e = some s := by
  cases h with
  | inl h => rw [h]; rfl
  | inr h => rw [h]; rfl

theorem disc_head {G : String → String} {s : LS} {e : Ev} {es : List Ev} {t : Tid} {f : String}
    (hd : Disciplined G s (e :: es)) (h : isAccess e t f) :
    holds s t (G f) ∧ (e = .wr t f → holdsW s t (G f)) := by
  have h1 := hd.1
  cases h with
  | inl h =>
    subst h
    exact ⟨h1, fun h => by cases h⟩
  | inr h =>
    subst h
    exact ⟨Or.inl h1, fun _ => h1⟩

theorem orders_core {s0 s2 : LS} {mid : List Ev} {t1 t2 : Tid} {l : String}
    (hinv : Inv s0) (hr : run s0 mid = some s2) (hne : t1 ≠ t2)
    (hh1 : holds s0 t1 l) (hh2 : holds s2 t2 l)
    (hw : holdsW s0 t1 l ∨ holdsW s2 t2 l) :
    ∃ i j : Nat, i < j ∧ (∃ a, mid[i]? = some a ∧ isRel a t1 l) ∧
      (∃ b, mid[j]? = some b ∧ isAcq b t2 l) := by
  -- it suffices to split `mid` at the acquisition by `t2` and the prefix at a release by `t1`
  suffices h : ∃ u a v b w, mid = (u ++ a :: v) ++ b :: w ∧ isRel a t1 l ∧ isAcq b t2 l by
    obtain ⟨u, a, v, b, w, rfl, ha, hb⟩ := h
    exact ⟨u.length, (u ++ a :: v).length, by simp, ⟨a, by simp, ha⟩, ⟨b, by simp, hb⟩⟩
  cases hh1 with
  | inl hw1 =>
    -- `t1` holds `l` exclusively at the first access: `t2` does not hold it there, acquires it at
    -- some step, and the lock is free before that step
    have hn2 : ¬ holds s0 t2 l := fun h => hne (inv_excl hinv hw1 h)
    obtain ⟨tr1, b, w, sa, sb, rfl, hra, hst, ha, hb⟩ := run_flip (P := (holds · t2 l)) hr hn2 hh2
    obtain ⟨hacq, hnone⟩ := acq_of_step hst ha hb
    obtain ⟨u, a, v, _, _, rfl, _, hst', ha', hb'⟩ :=
      run_flip (P := (·.w l ≠ some t1)) hra (fun h => h hw1) (by rw [hnone]; exact nofun)
    exact ⟨u, a, v, b, w, rfl, Or.inl (relW_of_step hst' (Classical.not_not.1 ha') hb'), hacq⟩
  | inr hr1 =>
    -- `t1` is a reader at the first access: nobody holds `l` exclusively there, so the second
    -- access is the write; `t2` write-acquires `l` at some step, when it has no readers
    have hw0 : s0.w l = none := by
      cases hs : s0.w l with
      | none => rfl
      | some u => rw [hinv l u hs] at hr1; cases hr1
    have hw2 : s2.w l = some t2 := hw.elim (fun h => by rw [holdsW, hw0] at h; cases h) id
    obtain ⟨tr1, b, w, sa, sb, rfl, hra, hst, ha, hb⟩ :=
      run_flip (P := (·.w l = some t2)) hr (by rw [hw0]; exact nofun) hw2
    obtain ⟨hacq, _, hempty⟩ := acqW_of_step hst ha hb
    obtain ⟨u, a, v, _, _, rfl, _, hst', ha', hb'⟩ :=
      run_flip (P := (t1 ∉ ·.r l)) hra (fun h => h hr1) (by rw [hempty]; exact List.not_mem_nil)
    exact ⟨u, a, v, b, w, rfl, Or.inr (relR_of_step hst' (Classical.not_not.1 ha') hb'), Or.inl hacq⟩

/-- **Data-race freedom of the lockset discipline.**  Two conflicting accesses to `f` by different
threads in a disciplined, executable trace are separated by a release of the guard `G f` by the
first thread followed by an acquisition of `G f` by the second. -/
theorem lockset_orders (G : String → String) (pre mid post : List Ev) (e1 e2 : Ev)
    (t1 t2 : Tid) (f : String)
    (hrun : run LS.init (pre ++ e1 :: mid ++ e2 :: post) ≠ none)
    (hd : Disciplined G LS.init (pre ++ e1 :: mid ++ e2 :: post))
    (h1 : isAccess e1 t1 f) (h2 : isAccess e2 t2 f) (hne : t1 ≠ t2)
    (hw : e1 = .wr t1 f ∨ e2 = .wr t2 f) :
    ∃ i j : Nat, i < j ∧ (∃ a, mid[i]? = some a ∧ isRel a t1 (G f)) ∧ (∃ b, mid[j]? = some b ∧ isAcq b t2 (G f)) := by
  have hshape : pre ++ e1 :: mid ++ e2 :: post = pre ++ (e1 :: (mid ++ e2 :: post)) := by
    simp
  rw [hshape] at hrun hd
  obtain ⟨sf, hsf⟩ := Option.ne_none_iff_exists'.1 hrun
  obtain ⟨s0, hr0, hrest⟩ := run_append_some hsf
  obtain ⟨s0', hstep1, hrest⟩ := run_cons hrest
  rw [step_access h1] at hstep1
  cases hstep1
  obtain ⟨s2, hr2, _⟩ := run_append_some hrest
  have hd1 : Disciplined G s0 (e1 :: (mid ++ e2 :: post)) := disc_append hr0 hd
  have hd1' : Disciplined G s0 (mid ++ e2 :: post) := by
    have := hd1.2
    rw [step_access h1] at this
    exact this
  have hd2 : Disciplined G s2 (e2 :: post) := disc_append hr2 hd1'
  obtain ⟨hh1, hw1⟩ := disc_head hd1 h1
  obtain ⟨hh2, hw2⟩ := disc_head hd2 h2
  exact orders_core (run_inv inv_init hr0) hr2 hne hh1 hh2 (hw.imp hw1 hw2)

instance (s : LS) (t : Tid) (l : String) : Decidable (holdsW s t l) :=
  inferInstanceAs (Decidable (s.w l = some t))

instance (s : LS) (t : Tid) (l : String) : Decidable (holds s t l) :=
  inferInstanceAs (Decidable (s.w l = some t ∨ t ∈ s.r l))

/-- `Disciplined` on a concrete trace is decided by running it -/
instance decDisciplined (G : String → String) : ∀ (s : LS) (tr : List Ev), Decidable (Disciplined G s tr)
  | _, [] => isTrue trivial
  | s, e :: es =>
    have : Decidable (match step s e with
        | some s' => Disciplined G s' es
        | none => True) :=
      match step s e with
      | some s' => decDisciplined G s' es
      | none => isTrue trivial
    match e with
    | .wr .. | .rd .. | .acqW .. | .acqR .. | .relW .. | .relR .. => inferInstanceAs (Decidable (_ ∧ _))

/-- a well-synchronised trace: thread 1 writes `x` under `m`, then thread 2 reads `x` under `m` -/
def goodTrace : List Ev :=
  [.acqW 1 "m", .wr 1 "x", .relW 1 "m", .acqR 2 "m", .rd 2 "x", .relR 2 "m"]

/-- thread 2 skips the lock -/
def badTrace : List Ev :=
  [.acqW 1 "m", .wr 1 "x", .relW 1 "m", .rd 2 "x"]

example : (run LS.init goodTrace).isSome = true := rfl

theorem goodTrace_runs : run LS.init goodTrace ≠ none := Option.isSome_iff_ne_none.1 rfl

theorem goodTrace_disciplined : Disciplined (fun _ => "m") LS.init goodTrace := by decide

/-- the hypotheses of `lockset_orders` are satisfiable and its conclusion is witnessed -/
example :
    ∃ i j : Nat, i < j ∧
      (∃ a, [Ev.relW 1 "m", Ev.acqR 2 "m"][i]? = some a ∧ isRel a 1 "m") ∧
      (∃ b, [Ev.relW 1 "m", Ev.acqR 2 "m"][j]? = some b ∧ isAcq b 2 "m") :=
  lockset_orders (fun _ => "m") [.acqW 1 "m"] [.relW 1 "m", .acqR 2 "m"] [.relR 2 "m"]
    (.wr 1 "x") (.rd 2 "x") 1 2 "x" goodTrace_runs goodTrace_disciplined
    (Or.inr rfl) (Or.inl rfl) (by decide) (Or.inl rfl)

/-- … and the witnesses are the expected ones -/
example :
    [Ev.relW 1 "m", Ev.acqR 2 "m"][0]? = some (Ev.relW 1 "m") ∧ isRel (Ev.relW 1 "m") 1 "m" ∧
    [Ev.relW 1 "m", Ev.acqR 2 "m"][1]? = some (Ev.acqR 2 "m") ∧ isAcq (Ev.acqR 2 "m") 2 "m" :=
  ⟨rfl, Or.inl rfl, rfl, Or.inr rfl⟩

theorem badTrace_runs : run LS.init badTrace ≠ none := Option.isSome_iff_ne_none.1 rfl

theorem badTrace_not_disciplined : ¬ Disciplined (fun _ => "m") LS.init badTrace := by decide

theorem badTrace_not_disciplined_any (G : String → String) : ¬ Disciplined G LS.init badTrace := by
  intro h
  by_cases hg : G "x" = "m" <;>
    simp [badTrace, Disciplined, step, holdsW, holds, LS.init, hg] at h

end Robust.Race
