import Robust.Irc.Proofs.Stable
import Robust.Irc.Proofs.UlenBytes
/-!
Length invariant for C15 (clause "every delivered line starts with a prefix and a command"):
every stored session's user name has at most `maxUserLen` (30) characters, and the user name of a
session that a client can act as (`id.reply = 0`; services pseudo-clients have `reply = fnv64 nick`)
contains no space.

The only writers of `Session.username` are `cmdUser` and `cmdServerNick`, both of which store
`truncateUsername _`, the first word of a parameter cut to `maxUserLen` characters (so it contains no space
whatever the parameter was, `truncateUsername_spaceless`); `createSession` starts with `username = ""`.
Everything else keeps the field.

`UOK` is a condition on one session *value*; `UInv st` says that every stored session satisfies it.
This file: the definition, that it is one of the predicates the handlers' ordinary updates keep
(`UInv.stable`, `Stable.lean`), and the two updates that write a user name (`UInv.upd_user`, `UInv.serverNick`).
-/
namespace Robust.Irc
open Robust AMap

def UOK (s : Session) : Prop :=
  s.username.toList.length ≤ maxUserLen ∧ (s.id.reply = 0 → Spaceless s.username)

theorem truncateUsername_length (u : String) : (truncateUsername u).toList.length ≤ maxUserLen := by
  unfold truncateUsername takeChars
  rw [String.toList_ofList, List.length_take]
  exact Nat.min_le_left _ _

theorem truncateUsername_of_short {u : String} (h : u.toList.length ≤ maxUserLen) (hs : Spaceless u) : truncateUsername u = u := by
  unfold truncateUsername takeChars
  rw [firstWord_of_spaceless hs, List.take_of_length_le h, String.ofList_toList]

theorem truncateUsername_spaceless (u : String) : Spaceless (truncateUsername u) :=
  spaceless_takeChars (spaceless_firstWord u) _

theorem UOK.congr {s s' : Session} (h : UOK s) (h3 : s'.username = s.username) (h5 : s'.id = s.id) : UOK s' := by
  unfold UOK at *
  rw [h3, h5]; exact h

def UKeep (f : Session → Session) : Prop := ∀ s, (f s).username = s.username ∧ (f s).id = s.id

theorem UOK.update {s : Session} (h : UOK s) : UOK (updateIrcPrefix s) := h

/-- what `cmdUser` and `cmdServerNick` store, whatever the parameter was -/
theorem UOK.truncated (s : Session) (u : String) : UOK (updateIrcPrefix { s with username := truncateUsername u }) :=
  ⟨truncateUsername_length u, fun _ => truncateUsername_spaceless u⟩

theorem UOK.truncate (s : Session) {u : String} (hu : Spaceless u) :
    UOK (updateIrcPrefix { s with username := truncateUsername u }) :=
  .truncated s u

def UInv (st : St) : Prop := ∀ id s, AMap.get st.sessions id = some s → UOK s

theorem UInv_init : UInv ({} : St) := by intro id s h; simp at h

theorem UInv.of_sessions {st st' : St} (h : UInv st)
    (hs : ∀ id s', AMap.get st'.sessions id = some s' → ∃ s, AMap.get st.sessions id = some s ∧
      s'.username = s.username ∧ s'.id = s.id) : UInv st' := by
  intro id s' hg
  obtain ⟨s, hg0, e3, e5⟩ := hs id s' hg
  exact (h id s hg0).congr e3 e5

/-- only USER and the services' NICK write a user name -/
theorem UInv.stable : Stable UInv :=
  SessAll.stable fun hv h => h.congr (Session.kept_username hv) (Session.kept_id hv)

/-- nick, prefix and the privilege flags are not read -/
theorem UInv.upd (tid : Id) {f : Session → Session} (hf : UKeep f) : Upd UInv tid f :=
  SessAll.upd tid fun s h => h.congr (hf s).1 (hf s).2

theorem UInv.upd_user {sid : Id} {m : IrcMsg} {u : String} :
    Upd UInv sid fun s => updateIrcPrefix { s with username := truncateUsername u, realname := m.trailing } :=
  fun _ h0 _ h1 => SessAll.modS h0 h1 fun s _ _ => UOK.truncated { s with realname := m.trailing } u


theorem UInv.createSession {st st' : St} {id : Id} {auth : String} {ts : Int} (h : UInv st)
    (hr : createSession st id auth ts = some st') : UInv st' :=
  SessAll.createSession h ⟨Nat.zero_le _, fun _ => spaceless_empty⟩ hr

theorem UInv.serverNick {c c2 : Ctx} {m : IrcMsg} {p0 p3 : String} {id : Id} {ts : Int} {st1 : St} (h : UInv c.st)
    (hcs : Robust.Irc.createSession c.st id "" ts = some st1)
    (hm : Robust.Irc.modS { c with st := st1 } id
      (fun ss => updateIrcPrefix { ss with nick := p0, username := truncateUsername p3, realname := m.trailing }) =
        .ok c2) : UInv c2.st :=
  SessAll.modS (c := { c with st := st1 }) (h.createSession hcs) hm fun t _ _ =>
    UOK.truncated { t with nick := p0, realname := m.trailing } p3

theorem UInv.updateLastClientMessageID {st st' : St} {e : Entry} (h : UInv st)
    (hr : updateLastClientMessageID st e = some st') : UInv st' :=
  SessAll.updateLastClientMessageID h (fun _ _ _ _ h => h.congr rfl rfl) hr

theorem UInv.maybeDeleteSession {st : St} (sid : Id) (h : UInv st) (hnd : (AMap.keys st.sessions).Nodup) :
    UInv (maybeDeleteSession st sid) :=
  SessAll.maybeDeleteSession sid h hnd

theorem UInv.withLastProcessed {st : St} (h : UInv st) (x : Id) : UInv { st with lastProcessed := x } := h

instance (s : Session) : Decidable (UOK s) := by unfold UOK; infer_instance

/-- a checkable form for concrete states -/
theorem UInv.of_all {st : St} (h : st.sessions.all (fun e => decide (UOK e.2)) = true) : UInv st := by
  intro id s hg
  have := List.all_eq_true.1 h _ (AMap.mem_of_get hg)
  simpa using this

/-- brute-force walk through a handler whose leaves are output / `putChan` on top of a context `c`
with `h : UInv c.st`: `uinv_auto hr h` -/
macro "uinv_auto" hr:ident h:ident : tactic =>
  `(tactic| repeat' (first
      | split at $hr:ident
      | (obtain ⟨_, _, $hr:ident⟩ := Res.bind_eq_ok.1 $hr:ident)
      | dsimp only at $hr:ident
      | (cases $hr:ident <;> exact $h:ident)))

end Robust.Irc
