import Robust.Irc.SCmds
import Robust.Irc.Proofs.Clean
import Robust.Irc.Proofs.ResSat
/-!
C15, string level: every string operation the handlers use to build an output line or a stored
string keeps `Clean` (no CR / LF / NUL): concatenation, number rendering (`%d`, `%x`), mode strings,
trimming, taking / dropping characters, `strings.Replace`, `extractPassword`, sorting, the mode
parser (`normalizeModes`, `ircParams`), and the accessors of a clean message.
-/
namespace Robust.Irc
open Robust

theorem clean_append_iff {a b : String} : Clean (a ++ b) ↔ Clean a ∧ Clean b := by
  unfold Clean
  rw [String.toList_append]
  constructor
  · intro h
    exact ⟨fun c hc => h c (List.mem_append.2 (Or.inl hc)), fun c hc => h c (List.mem_append.2 (Or.inr hc))⟩
  · rintro ⟨ha, hb⟩ c hc
    rcases List.mem_append.1 hc with hc | hc
    · exact ha c hc
    · exact hb c hc

theorem clean_singleton {c : Char} (h : cleanChar c = true) : Clean (String.singleton c) := by
  intro d hd
  rw [String.toList_singleton, List.mem_singleton] at hd
  subst hd; exact h

theorem clean_char_of_mem {s : String} (h : Clean s) {c : Char} (hc : c ∈ s.toList) : cleanChar c = true :=
  h c hc

theorem cleanChar_of_isDigit {c : Char} (h : c.isDigit = true) : cleanChar c = true := by
  unfold Char.isDigit at h
  simp only [Bool.and_eq_true, decide_eq_true_eq, ge_iff_le] at h
  have h1 : 48 ≤ c.toNat := UInt32.le_iff_toNat_le.mp h.1
  rw [cleanChar_iff]
  omega

theorem clean_natRepr (n : Nat) : Clean (Nat.repr n) := by
  unfold Nat.repr
  apply clean_ofList
  intro c hc
  exact cleanChar_of_isDigit (Nat.isDigit_of_mem_toDigits (by decide) (by decide) hc)

theorem clean_toString_int (i : Int) : Clean (toString i) := by
  show Clean (Int.repr i)
  unfold Int.repr
  cases i with
  | ofNat m => exact clean_natRepr m
  | negSucc m => exact clean_append_iff.2 ⟨clean_lit, clean_natRepr _⟩

theorem clean_hexNat (n : Nat) : Clean (hexNat n) :=
  hexNat_all (by decide : ∀ n, n < 16 → cleanChar (hexDigitLower n) = true) n

theorem clean_modeStr (ms : List Char) : Clean (modeStr ms) := by
  unfold modeStr
  refine clean_append_iff.2 ⟨clean_lit, clean_ofList ?_⟩
  intro c hc
  exact (by decide : ∀ c ∈ charRange 65 122, cleanChar c = true) c (List.mem_filter.1 hc).1

theorem clean_trimSpace {s : String} (h : Clean s) : Clean (trimSpace s) := by
  unfold trimSpace
  exact clean_ofList (((clean_toList h).dropWhile _).reverse.dropWhile _).reverse

theorem clean_takeChars {s : String} (h : Clean s) (n : Nat) : Clean (takeChars s n) :=
  clean_ofList ((clean_toList h).take n)

theorem clean_firstWord {s : String} (h : Clean s) : Clean (firstWord s) := by
  unfold firstWord
  exact clean_ofList ((clean_toList h).sub fun _ hc => (List.takeWhile_sublist _).subset hc)

theorem clean_dropChars {s : String} (h : Clean s) (n : Nat) : Clean (dropChars s n) :=
  clean_ofList ((clean_toList h).drop n)

theorem clean_chanToLower {s : String} (h : Clean s) : Clean (chanToLower s) := clean_toLower h

theorem clean_nickToLower {s : String} (h : Clean s) : Clean (nickToLower s) := by
  unfold nickToLower
  apply clean_ofList
  intro c hc
  obtain ⟨d, hd, rfl⟩ := List.mem_map.mp hc
  have hd' := clean_toLower h d hd
  split
  · decide
  · split
    · decide
    · split
      · decide
      · exact hd'

theorem replaceAll_go_clean (nw : String) (o : List Char) (hn : Clean nw) :
    ∀ (fuel : Nat) (cs acc : List Char), CleanL cs → CleanL acc → CleanL (replaceAll.go nw o cs acc fuel)
  | 0, cs, acc, hcs, hacc => by
    unfold replaceAll.go
    intro c hc
    rcases List.mem_append.1 hc with hc | hc
    · exact hacc c (List.mem_reverse.1 hc)
    · exact hcs c hc
  | fuel + 1, cs, acc, hcs, hacc => by
    unfold replaceAll.go
    split
    · apply replaceAll_go_clean nw o hn fuel _ _ (hcs.drop _)
      intro c hc
      rcases List.mem_append.1 hc with hc | hc
      · exact hn c (List.mem_reverse.1 hc)
      · exact hacc c hc
    · split
      · exact hacc.reverse
      · rename_i c rest
        apply replaceAll_go_clean nw o hn fuel _ _ (hcs.sub fun _ h => List.mem_cons_of_mem _ h)
        intro d hd
        rcases List.mem_cons.1 hd with rfl | hd
        · exact hcs _ (List.mem_cons_self ..)
        · exact hacc d hd

theorem clean_replaceAll {s old nw : String} (hs : Clean s) (hn : Clean nw) : Clean (replaceAll s old nw) := by
  unfold replaceAll
  exact clean_ofList (replaceAll_go_clean nw old.toList hn _ _ _ hs CleanL.nil)

theorem clean_extractPassword {password : String} (pfx : String) (h : Clean password) :
    Clean (extractPassword password pfx) := by
  unfold extractPassword
  refine foldl_invariant (I := Clean) _ clean_empty ?_
  intro ex part hpart hex
  have hp : Clean part := splitChar_clean ':' h part hpart
  dsimp only
  have h1 : Clean (if hasPrefix (toLower part) (pfx ++ "=") = true then dropChars part (pfx.length + 1) else ex) := by
    split
    · exact clean_dropChars hp _
    · exact hex
  generalize (if hasPrefix (toLower part) (pfx ++ "=") = true then dropChars part (pfx.length + 1) else ex) = e1 at h1 ⊢
  split
  · rw [clean_append_iff, clean_append_iff]
    exact ⟨⟨h1, clean_lit⟩, hp⟩
  · exact h1

theorem mergeSort_all {α : Type} {P : α → Prop} {le : α → α → Bool} {l : List α} (h : ∀ x ∈ l, P x) :
    ∀ x ∈ l.mergeSort le, P x := fun x hx => h x (List.mem_mergeSort.1 hx)

theorem dedupSorted_mem {l : List String} {x : String} (hx : x ∈ dedupSorted l) : x ∈ l := by
  unfold dedupSorted at hx
  rw [List.mem_mergeSort] at hx
  refine foldl_invariant (I := fun acc : List String => ∀ x, x ∈ acc → x ∈ l) l (fun _ h => by cases h) ?_ x hx
  intro acc a ha hacc x hx
  split at hx
  · exact hacc x hx
  · rcases List.mem_append.1 hx with hx | hx
    · exact hacc x hx
    · rw [List.mem_singleton] at hx; subst hx; exact ha

theorem CleanMsg.command {m : IrcMsg} (h : CleanMsg m) : Clean m.command := h.2.1
theorem CleanMsg.params {m : IrcMsg} (h : CleanMsg m) : ∀ p ∈ m.params, Clean p := h.2.2

theorem CleanMsg.trailing {m : IrcMsg} (h : CleanMsg m) : Clean m.trailing := by
  unfold IrcMsg.trailing
  cases hl : m.params.getLast? with
  | none => exact clean_empty
  | some t => exact h.2.2 t (List.mem_of_getLast? hl)

theorem CleanMsg.param {m : IrcMsg} (h : CleanMsg m) {i : Nat} : (param m i).Sat Clean :=
  (param_sat m i).mono fun _ hq => h.2.2 _ (List.mem_of_getElem? hq)

theorem CleanMsg.getD {m : IrcMsg} (h : CleanMsg m) (i : Nat) : Clean ((m.params[i]?).getD "") := by
  cases hq : m.params[i]? with
  | none => exact clean_empty
  | some q => exact h.2.2 _ (List.mem_of_getElem? hq)

theorem CleanMsg.head {m : IrcMsg} (h : CleanMsg m) {p : String} (hp : m.params.head? = some p) : Clean p :=
  h.2.2 p (List.mem_of_mem_head? (by rw [hp]; exact rfl))

theorem CleanMsg.headD {m : IrcMsg} (h : CleanMsg m) : Clean (m.params.head?.getD "") := by
  cases hq : m.params.head? with
  | none => exact clean_empty
  | some q => exact h.head hq

theorem CleanMsg.joinParams {m : IrcMsg} (h : CleanMsg m) : Clean (joinStr " " m.params) :=
  clean_joinStr clean_lit h.2.2

theorem CleanMsg.joinDrop {m : IrcMsg} (h : CleanMsg m) (n : Nat) : Clean (joinStr " " (m.params.drop n)) :=
  clean_joinStr clean_lit fun x hx => h.2.2 x (List.mem_of_mem_drop hx)

theorem CleanMsg.pfxName {m : IrcMsg} (h : CleanMsg m) : (pfxName m).Sat Clean := by
  unfold Robust.Irc.pfxName
  cases hp : m.pfx with
  | none => exact .panic _
  | some p => exact .ok (h.1 p hp).1

theorem CleanMsg.upperCommand {m : IrcMsg} (h : CleanMsg m) : Clean (toUpper m.command) := clean_toUpper h.2.1

theorem cleanMsg_pfx {op : Option Prefix} {cmd : String} {ps : List String} :
    CleanMsg ⟨op, cmd, ps⟩ ↔
      (∀ p, op = some p → Clean p.name ∧ Clean p.user ∧ Clean p.host) ∧ Clean cmd ∧ ∀ p ∈ ps, Clean p :=
  Iff.rfl

theorem servicesPrefix_clean {m : IrcMsg} (h : CleanMsg m) :
    (servicesPrefix m).Sat fun sp => Clean sp.name ∧ Clean sp.user ∧ Clean sp.host := by
  unfold servicesPrefix
  exact h.pfxName.andThen fun _ hn => .pure ⟨hn, clean_lit, clean_lit⟩

/-- every string of the list satisfies `P`, as a conjunction: a proof for `[a, b, c]` is written `⟨ha, hb, hc⟩` -/
def AllStr (P : String → Prop) : List String → Prop
  | [] => True
  | [a] => P a
  | a :: l => P a ∧ AllStr P l

theorem AllStr.cons {P : String → Prop} {a : String} : ∀ {l : List String}, P a → AllStr P l → AllStr P (a :: l)
  | [], ha, _ => ha
  | _ :: _, ha, hl => ⟨ha, hl⟩

theorem AllStr.all {P : String → Prop} : ∀ {l : List String}, AllStr P l → ∀ p ∈ l, P p
  | [], _, _, hp => nomatch hp
  | [_], h, _, hp => by rw [List.mem_singleton] at hp; exact hp ▸ h
  | _ :: _ :: _, h, p, hp => by
    rcases List.mem_cons.1 hp with rfl | hp
    · exact h.1
    · exact h.2.all p hp

theorem AllStr.of_all {P : String → Prop} : ∀ {ps : List String}, (∀ p ∈ ps, P p) → AllStr P ps
  | [], _ => True.intro
  | [_], h => h _ List.mem_cons_self
  | _ :: _ :: _, h => ⟨h _ List.mem_cons_self, of_all fun p hp => h p (List.mem_cons_of_mem _ hp)⟩

theorem CleanMsg.plain {cmd : String} {ps : List String} (hps : AllStr Clean ps) (hcmd : Clean cmd := by exact clean_lit) :
    CleanMsg ⟨none, cmd, ps⟩ :=
  ⟨(fun _ hp => nomatch hp), hcmd, hps.all⟩

theorem CleanMsg.from {p : Prefix} {cmd : String} {ps : List String} (hp : Clean p.name ∧ Clean p.user ∧ Clean p.host)
    (hps : AllStr Clean ps) (hcmd : Clean cmd := by exact clean_lit) : CleanMsg ⟨some p, cmd, ps⟩ :=
  ⟨fun _ hq => by cases hq; exact hp, hcmd, hps.all⟩

theorem CleanMsg.srv {c : Ctx} {cmd : String} {ps : List String} (hn : Clean c.st.serverName) (hps : AllStr Clean ps)
    (hcmd : Clean cmd := by exact clean_lit) : CleanMsg (srv c cmd ps) :=
  .from ⟨hn, clean_empty, clean_empty⟩ hps hcmd

def CleanModes (l : List ModeCmd) : Prop := ∀ mc ∈ l, Clean mc.mode ∧ Clean mc.param

theorem normalizeModes_clean {m : IrcMsg} (h : CleanMsg m) : CleanModes (normalizeModes m) := by
  unfold normalizeModes
  split
  · intro mc hmc; cases hmc
  · dsimp only
    have hms : Clean ((m.params[1]?).getD "") := h.getD 1
    refine foldl_invariant (I := fun acc : Bool × Nat × List ModeCmd => CleanModes acc.2.2) _ (fun _ hmc => by cases hmc) ?_
    intro acc ch hch hacc
    obtain ⟨adding, modearg, results⟩ := acc
    dsimp only
    split
    · exact hacc
    · dsimp only
      intro mc hmc
      rcases List.mem_append.1 hmc with hmc | hmc
      · exact hacc mc hmc
      · rw [List.mem_singleton] at hmc
        subst hmc
        dsimp only
        refine ⟨clean_append_iff.2 ⟨by split <;> decide, clean_singleton (hms ch hch)⟩, ?_⟩
        split
        · exact h.getD _
        · exact clean_empty

theorem modeByteChar_clean {mc : ModeCmd} (h : Clean mc.mode) : cleanChar (modeByteChar mc) = true := by
  unfold modeByteChar
  split
  · rename_i b hb
    have hcb : CleanBytes (utf8 (String.ofList (mc.mode.toList.drop 1))) :=
      utf8_clean _ (clean_ofList ((clean_toList h).drop 1))
    obtain ⟨h13, h10, h0⟩ := hcb b (List.mem_of_mem_head? (by rw [hb]; exact rfl))
    have hlt : b.toNat < 256 := UInt8.toNat_lt b
    rw [cleanChar_iff, toNat_ofNat_valid _ (Or.inl (by omega))]
    exact ⟨fun e => h13 (UInt8.toNat_inj.1 e), fun e => h10 (UInt8.toNat_inj.1 e), fun e => h0 (UInt8.toNat_inj.1 e)⟩
  · decide

theorem clean_modeChars {l : List ModeCmd} (h : CleanModes l) : Clean (String.ofList (l.map modeByteChar)) := by
  apply clean_ofList
  intro c hc
  obtain ⟨mc, hmc, rfl⟩ := List.mem_map.1 hc
  exact modeByteChar_clean (h mc hmc).1

theorem CleanModes.filter {l : List ModeCmd} (h : CleanModes l) (p : ModeCmd → Bool) : CleanModes (l.filter p) :=
  fun mc hmc => h mc (List.mem_filter.1 hmc).1

theorem ircParams_clean {l : List ModeCmd} (h : CleanModes l) : ∀ p ∈ ircParams l, Clean p := by
  unfold ircParams
  dsimp only
  intro p hp
  rcases List.mem_cons.1 hp with rfl | hp
  · refine clean_append_iff.2 ⟨?_, ?_⟩
    · split
      · exact clean_append_iff.2 ⟨clean_lit, clean_modeChars (h.filter _)⟩
      · exact clean_empty
    · split
      · exact clean_append_iff.2 ⟨clean_lit, clean_modeChars (h.filter _)⟩
      · exact clean_empty
  · rcases List.mem_append.1 hp with hp | hp
    · obtain ⟨mc, hmc, rfl⟩ := List.mem_map.1 hp
      exact (h mc (List.mem_filter.1 (List.mem_filter.1 hmc).1).1).2
    · obtain ⟨mc, hmc, rfl⟩ := List.mem_map.1 hp
      exact (h mc (List.mem_filter.1 (List.mem_filter.1 hmc).1).1).2

theorem ircParams_head_clean {l : List ModeCmd} (h : CleanModes l) : Clean ((ircParams l).head?.getD "") := by
  cases hq : (ircParams l).head? with
  | none => exact clean_empty
  | some q => exact ircParams_clean h q (List.mem_of_mem_head? (by rw [hq]; exact rfl))

end Robust.Irc
