import Robust.Irc.Proofs.FlagOriginEntry
/-!
Per-entry and per-history consequences of the frame relation:

* `applyEntry_marker`: the marker of every session stored after an entry, in terms of the state
  before and the entry (C10);
* `expectedMarker` / `run_marker`: the marker along a history (C10);
* `applyEntry_config_cases`: what an entry other than a Config entry may do to the configuration (C16);
* `applyEntry_lastProcessed`, `LPBound`: what an entry does to `lastProcessed`, and the bound
  `lastProcessed.id ≤ id of the last applied entry` along histories with increasing ids (C17).
-/
namespace Robust.Irc
open Robust AMap

theorem MarkRel.old {st : St} {σ : Id} {s s' : Session} (h : MarkRel st σ s')
    (hs : AMap.get st.sessions σ = some s) : s'.lastClientMessageId = s.lastClientMessageId := by
  rcases h with ⟨s0, h0, e⟩ | ⟨hn, _⟩
  · rw [hs] at h0; cases h0; exact e
  · rw [hs] at hn; cases hn

theorem MarkRel.new {st : St} {σ : Id} {s' : Session} (h : MarkRel st σ s')
    (hs : AMap.get st.sessions σ = none) : s'.lastClientMessageId = 0 ∧ σ.reply ≠ 0 := by
  rcases h with ⟨s0, h0, _⟩ | ⟨_, e, hr, _⟩
  · rw [hs] at h0; cases h0
  · exact ⟨e, hr⟩

/-- the marker of a session `σ` stored (as `s'`) after the entry `e`, in terms of the state `st`
before: the entry's client message id if the entry is a client entry / message of death of that
session; otherwise the old marker if the session was stored before; otherwise `0` — and a new session
with `reply = 0` can only be the one created by a CreateSession entry -/
def MarkerAfter (st : St) (e : Entry) (σ : Id) (s' : Session) : Prop :=
  ((e.type = 2 ∨ e.type = 5) → σ = e.session → s'.lastClientMessageId = e.cmid) ∧
  (¬((e.type = 2 ∨ e.type = 5) ∧ σ = e.session) → ∀ s, AMap.get st.sessions σ = some s →
    s'.lastClientMessageId = s.lastClientMessageId) ∧
  (AMap.get st.sessions σ = none →
    s'.lastClientMessageId = 0 ∧ (σ.reply = 0 → e.type = 0 ∧ σ = ⟨e.id, 0⟩))

theorem MarkerAfter.same {st : St} {e : Entry} {σ : Id} {s' : Session}
    (hs' : AMap.get st.sessions σ = some s')
    (hx : (e.type = 2 ∨ e.type = 5) → σ = e.session → AMap.get st.sessions σ = none) :
    MarkerAfter st e σ s' := by
  refine ⟨fun ht hσ => ?_, fun _ s hs => ?_, fun hn => ?_⟩
  · rw [hx ht hσ] at hs'; cases hs'
  · rw [hs] at hs'; cases hs'; rfl
  · rw [hn] at hs'; cases hs'

theorem MarkerAfter.client {st st1 : St} {e : Entry} {σ : Id} {s' : Session}
    (ht : e.type = 2 ∨ e.type = 5) (hu : updateLastClientMessageID st e = some st1)
    (mr : MarkRel st1 σ s') : MarkerAfter st e σ s' := by
  obtain ⟨s, s1, u⟩ := updateLast_run hu
  refine ⟨fun _ hσ => ?_, fun hne t ht' => ?_, fun hn => ?_⟩
  · subst hσ
    exact (mr.old u.get1).trans u.marker
  · have hσ : σ ≠ e.session := fun h => hne ⟨ht, h⟩
    exact mr.old (by rw [u.other σ hσ]; exact ht')
  · by_cases hσ : σ = e.session
    · subst hσ; rw [u.get] at hn; cases hn
    · obtain ⟨h0, hrep⟩ := mr.new (by rw [u.other σ hσ]; exact hn)
      exact ⟨h0, fun hz => absurd hz hrep⟩

theorem MarkerAfter.plain {st : St} {e : Entry} {σ : Id} {s' : Session}
    (ht : ¬(e.type = 2 ∨ e.type = 5)) (mr : MarkRel st σ s') : MarkerAfter st e σ s' := by
  refine ⟨fun h => absurd h ht, fun _ s hs => mr.old hs, fun hn => ?_⟩
  obtain ⟨h0, hrep⟩ := mr.new hn
  exact ⟨h0, fun hz => absurd hz hrep⟩

theorem applyEntry_marker {st st' : St} {e : Entry} {out : List Out} (hw : SessWf st) (he : EntryOk st e)
    (hr : applyEntry st e = .ok (st', out)) {σ : Id} {s' : Session}
    (hs' : AMap.get st'.sessions σ = some s') : MarkerAfter st e σ s' := by
  cases applyEntry_run hr with
  | skip hn =>
    exact MarkerAfter.same hs' fun ht hσ => hσ ▸ hn (ht.elim (fun h => Or.inr (Or.inl h)) fun h => Or.inr (Or.inr h))
  | death h5 hu => exact MarkerAfter.client (Or.inr h5) hu (Or.inl ⟨s', hs', rfl⟩)
  | create h0 hcs =>
    have ht : ¬(e.type = 2 ∨ e.type = 5) := by rw [h0]; decide
    rw [createSession_eq hcs, AMap.get_set] at hs'
    split at hs'
    · rename_i hσ
      cases hs'
      refine ⟨fun h => absurd h ht, fun _ s hs => ?_, fun _ => ⟨rfl, fun _ => ⟨h0, hσ⟩⟩⟩
      exact absurd (congrArg Id.id hσ) (he.2 h0 σ s hs)
    · exact MarkerAfter.same hs' fun h => absurd h ht
  | delete h1 _ hpm =>
    have f := ((processMessage_frm (he.1 (Or.inl h1)) hw).apply hpm).1
    exact MarkerAfter.plain (by rw [h1]; decide) (f.mark σ s' (finish_sub f.wf.nodup hs'))
  | client h2 hu hpm =>
    have f := ((processMessage_frm (he.1 (Or.inr h2)) (hw.updateLast hu)).apply hpm).1
    exact MarkerAfter.client (Or.inl h2) hu (f.mark σ s' (finish_sub f.wf.nodup hs'))
  | config h6 => exact MarkerAfter.same hs' fun h => absurd h (by rw [h6]; decide)

def markerStep (σ : Id) (m : Nat) (e : Entry) : Nat :=
  if (e.type = 2 ∨ e.type = 5) ∧ e.session = σ then e.cmid
  else if e.type = 0 ∧ (⟨e.id, 0⟩ : Id) = σ then 0
  else m

/-- the marker session `σ` is expected to carry after the entries `es`, when it carried `m0` before:
the `cmid` of the last client entry / message of death of `σ` (since the last CreateSession entry
that creates `σ`, which resets it to `0`) -/
def expectedMarker (σ : Id) (m0 : Nat) (es : List Entry) : Nat := es.foldl (markerStep σ) m0

theorem applyEntry_marker_step {st st' : St} {e : Entry} {out : List Out} {σ : Id} {m : Nat}
    (hw : SessWf st) (he : EntryOk st e) (hσ : σ.reply = 0)
    (hP : ∀ s, AMap.get st.sessions σ = some s → s.lastClientMessageId = m)
    (hr : applyEntry st e = .ok (st', out)) :
    ∀ s', AMap.get st'.sessions σ = some s' → s'.lastClientMessageId = markerStep σ m e := by
  intro s' hs'
  obtain ⟨h1, h2, h3⟩ := applyEntry_marker hw he hr hs'
  unfold markerStep
  by_cases hc : (e.type = 2 ∨ e.type = 5) ∧ e.session = σ
  · rw [if_pos hc]; exact h1 hc.1 hc.2.symm
  · rw [if_neg hc]
    have hc' : ¬((e.type = 2 ∨ e.type = 5) ∧ σ = e.session) := fun h => hc ⟨h.1, h.2.symm⟩
    cases hg : AMap.get st.sessions σ with
    | some s =>
      have hn0 : ¬(e.type = 0 ∧ (⟨e.id, 0⟩ : Id) = σ) := by
        rintro ⟨h0, hid⟩
        exact he.2 h0 σ s hg (by rw [← hid])
      rw [if_neg hn0, h2 hc' s hg, hP s hg]
    | none =>
      obtain ⟨hz, hcr⟩ := h3 hg
      obtain ⟨h0, hid⟩ := hcr hσ
      rw [if_pos ⟨h0, hid.symm⟩, hz]

theorem run_sessWf {st st' : St} {es : List Entry} (hw : SessWf st) (hwf : WfHistory st es)
    (hr : runEntries st es = .ok st') : SessWf st' :=
  run_flag_sessWf hw hr

theorem run_marker {st st' : St} {es : List Entry} {σ : Id} {m0 : Nat} (hw : SessWf st)
    (hwf : WfHistory st es) (hσ : σ.reply = 0)
    (hP : ∀ s, AMap.get st.sessions σ = some s → s.lastClientMessageId = m0)
    (hr : runEntries st es = .ok st') :
    ∀ s', AMap.get st'.sessions σ = some s' → s'.lastClientMessageId = expectedMarker σ m0 es := by
  refine runEntries_induction
    (Q := fun st es => ∀ m0, SessWf st → WfHistory st es →
      (∀ s, AMap.get st.sessions σ = some s → s.lastClientMessageId = m0) →
      ∀ s', AMap.get st'.sessions σ = some s' → s'.lastClientMessageId = expectedMarker σ m0 es)
    (fun _ _ _ hP => hP) (fun hap _ ih m0 hw ⟨he, _, hnext⟩ hP => ?_) hr m0 hw hwf hP
  exact ih _ (hw.applyEntry he.1 hap) (hnext _ _ hap) (applyEntry_marker_step hw he hσ hP hap)

/-- an entry other than a Config entry keeps the configuration, unless it is the GLINE of an IRC
operator, which adds one ban -/
theorem applyEntry_config_cases {st st' : St} {e : Entry} {out : List Out} (hw : SessWf st)
    (he : (e.type = 1 ∨ e.type = 2) → e.session.reply = 0) (h6 : e.type ≠ 6)
    (hr : applyEntry st e = .ok (st', out)) :
    st'.config = st.config ∨
    ∃ m s addr reason, e.type = 2 ∧ parseMessage e.data = some m ∧ toUpper m.command = "GLINE" ∧
      AMap.get st.sessions e.session = some s ∧ s.operator = true ∧
      st'.config = { st.config with banned := AMap.set st.config.banned addr reason } := by
  cases applyEntry_run hr with
  | skip => exact Or.inl rfl
  | death _ hu => exact Or.inl (let ⟨_, _, u⟩ := updateLast_run hu; u.config)
  | create _ hcs => rw [createSession_eq hcs]; exact Or.inl rfl
  | delete h1 _ hpm =>
    rw [(maybeDeleteSession_other _ _).1]
    rcases ((processMessage_frm (he (Or.inl h1)) hw).apply hpm).2 with hc | ⟨m, _, _, _, him, hcmd, _⟩
    · exact Or.inl hc
    · have := (parseMessage_quit _ him).2
      rw [hcmd] at this
      exact absurd this (by decide)
  | client h2 hu hpm =>
    rw [(maybeDeleteSession_other _ _).1]
    obtain ⟨s, s1, u⟩ := updateLast_run hu
    rcases ((processMessage_frm (he (Or.inr h2)) (hw.updateLast hu)).apply hpm).2 with
      hc | ⟨m, s1', addr, reason, him, hcmd, hs1', hop', hc⟩
    · exact Or.inl (hc.trans u.config)
    · cases u.get1.symm.trans hs1'
      exact Or.inr ⟨m, s, addr, reason, h2, him, hcmd, u.get, u.same.operator ▸ hop',
        hc.trans (by rw [u.config])⟩
  | config h6' => exact absurd h6' h6

/-- what one entry does to `lastProcessed`: a DeleteSession entry of a stored session sets it to the
entry's id, a client entry of a stored session to the numeric id *of the session*, everything else
leaves it alone -/
theorem applyEntry_lastProcessed {st st' : St} {e : Entry} {out : List Out}
    (hr : applyEntry st e = .ok (st', out)) :
    st'.lastProcessed =
      if e.type = 1 ∧ (AMap.get st.sessions e.session).isSome then ⟨e.id, 0⟩
      else if e.type = 2 ∧ (AMap.get st.sessions e.session).isSome then ⟨e.session.id, 0⟩
      else st.lastProcessed := by
  cases applyEntry_run hr with
  | skip hn =>
    have n1 : ¬(e.type = 1 ∧ (AMap.get st.sessions e.session).isSome) := fun h => by
      rw [hn (Or.inl h.1)] at h; cases h.2
    have n2 : ¬(e.type = 2 ∧ (AMap.get st.sessions e.session).isSome) := fun h => by
      rw [hn (Or.inr (Or.inl h.1))] at h; cases h.2
    rw [if_neg n1, if_neg n2]
  | death h5 hu =>
    rw [if_neg (by rw [h5]; simp), if_neg (by rw [h5]; simp)]
    exact let ⟨_, _, u⟩ := updateLast_run hu; u.lastProcessed
  | create h0 hcs => rw [if_neg (by rw [h0]; simp), if_neg (by rw [h0]; simp), createSession_eq hcs]
  | delete h1 hs _ => rw [if_pos ⟨h1, by rw [hs]; rfl⟩, (maybeDeleteSession_other _ _).2.1]
  | client h2 hu _ =>
    obtain ⟨s, _, u⟩ := updateLast_run hu
    rw [if_neg (by rw [h2]; simp), if_pos ⟨h2, by rw [u.get]; rfl⟩, (maybeDeleteSession_other _ _).2.1]
  | config h6 => rw [if_neg (by rw [h6]; simp), if_neg (by rw [h6]; simp)]

/-- `lastProcessed` and every stored session id are bounded by `n` (think: the id of the entry
applied last) -/
def LPBound (st : St) (n : Nat) : Prop :=
  st.lastProcessed.id ≤ n ∧ ∀ id s, AMap.get st.sessions id = some s → id.id ≤ n

theorem LPBound.mono {st : St} {n n' : Nat} (h : LPBound st n) (hn : n ≤ n') : LPBound st n' :=
  ⟨Nat.le_trans h.1 hn, fun id s hg => Nat.le_trans (h.2 id s hg) hn⟩

theorem applyEntry_lpBound {st st' : St} {e : Entry} {out : List Out} {n : Nat} (hw : SessWf st)
    (he : (e.type = 1 ∨ e.type = 2) → e.session.reply = 0) (hb : LPBound st n) (hn : n ≤ e.id)
    (hr : applyEntry st e = .ok (st', out)) : LPBound st' e.id := by
  refine ⟨?_, ?_⟩
  · rw [applyEntry_lastProcessed hr]
    split
    · exact Nat.le_refl _
    · split
      · rename_i h
        cases hg : AMap.get st.sessions e.session with
        | none => rw [hg] at h; simp at h
        | some s => exact Nat.le_trans (hb.2 e.session s hg) hn
      · exact Nat.le_trans hb.1 hn
  · intro id s hg
    have old : ∀ {t}, AMap.get st.sessions id = some t → id.id ≤ e.id := fun ht => Nat.le_trans (hb.2 id _ ht) hn
    have before : ∀ {st1 : St} {k : Id} {t : Session}, updateLastClientMessageID st e = some st1 →
        AMap.get st1.sessions k = some t → ∃ t', AMap.get st.sessions k = some t' := fun hu hkt =>
      let ⟨_, _, u⟩ := updateLast_run hu; (u.back hkt).imp fun _ h => h.1
    have base : ∀ st0 : St, (∀ k t, AMap.get st0.sessions k = some t → k.id ≤ n) →
        ∀ stx, FrmM st0 stx → AMap.get stx.sessions id = some s → id.id ≤ e.id := by
      intro st0 h0 stx fm hx
      obtain ⟨k0, t0, hk0, hk0id⟩ := fm.idBase hx
      rw [← hk0id]; exact Nat.le_trans (h0 k0 t0 hk0) hn
    cases applyEntry_run hr with
    | skip => exact old hg
    | death _ hu => exact (before hu hg).elim fun _ ht => old ht
    | create _ hcs =>
      rw [createSession_eq hcs, AMap.get_set] at hg
      split at hg
      · rename_i hid; rw [hid]; exact Nat.le_refl _
      · exact old hg
    | delete h1 _ hpm =>
      have f := ((processMessage_frm (he (Or.inl h1)) hw).apply hpm).1
      exact base st hb.2 _ f (finish_sub f.wf.nodup hg)
    | client h2 hu hpm =>
      have f := ((processMessage_frm (he (Or.inr h2)) (hw.updateLast hu)).apply hpm).1
      exact base _ (fun k _ hkt => (before hu hkt).elim fun _ ht => hb.2 k _ ht) _ f (finish_sub f.wf.nodup hg)
    | config => exact old hg

def IdsIncreasing : Nat → List Entry → Prop
  | _, [] => True
  | n, e :: es => n < e.id ∧ IdsIncreasing e.id es

def lastId : Nat → List Entry → Nat
  | n, [] => n
  | _, e :: es => lastId e.id es

theorem run_lpBound {st st' : St} {es : List Entry} {n : Nat} (hw : SessWf st) (hwf : WfHistory st es)
    (hinc : IdsIncreasing n es) (hb : LPBound st n) (hr : runEntries st es = .ok st') :
    LPBound st' (lastId n es) := by
  refine runEntries_induction
    (Q := fun st es => ∀ n, SessWf st → WfHistory st es → IdsIncreasing n es → LPBound st n →
      LPBound st' (lastId n es))
    (fun _ _ _ _ hb => hb) (fun hap _ ih n hw ⟨he, _, hnext⟩ ⟨hlt, hinc⟩ hb => ?_) hr n hw hwf hinc hb
  exact ih _ (hw.applyEntry he.1 hap) (hnext _ _ hap) hinc (applyEntry_lpBound hw he.1 hb (Nat.le_of_lt hlt) hap)

end Robust.Irc
