import Robust.Irc.Proofs.PermHandler
/-!
Order-independence, handlers 1: `cmdMotd`, `cmdOper`, `maybeLogin`, `cmdNick`, `cmdUser`, `cmdPass`.
-/
namespace Robust.Irc
open Robust
attribute [local irreducible] IrcMsg.render emit sendUser sendSvc

theorem cmdMotd_congr : HCongr cmdMotd := by
  intro c c' sid m h
  unfold cmdMotd
  refine getS_bind h sid (fun s chs inv hs => ?_)
  rw [h.serverName]
  extract_lets c1 c2 c1' c2'
  ceq_let h1 c1 c1'
  ceq_let h2 c2 c2'
  ceqs

theorem cmdOper_congr : HCongr cmdOper := by
  intro c c' sid m h
  unfold cmdOper
  refine getS_bind h sid (fun s chs inv hs => ?_)
  refine RRel.bind_same (fun name => ?_)
  refine RRel.bind_same (fun password => ?_)
  rw [h.config]
  apply RRel.ite
  · ceqs
  · refine RRel.bind (modS_congr_upd h sid _) (fun c1 c1' h1 => ?_)
    refine getS_bind h1 sid (fun s1 chs inv hs1 => ?_)
    extract_lets c2 c2'
    ceq_let h2 c2 c2'
    ceqs

theorem maybeLogin_congr : HCongr maybeLogin := by
  intro c c' sid m h
  unfold maybeLogin
  refine getS_bind h sid (fun s chs inv hs => ?_)
  rw [h.config]
  apply RRel.ite
  · ceqs
  apply RRel.ite
  · ceqs
  apply RRel.ite
  · exact .declined
  refine RRel.bind (modS_congr_upd h sid _) (fun c1 c1' h1 => ?_)
  rw [h1.serverName]
  dsimp -zeta only
  extract_lets sn c2 c3 c4 c5 c6 c7 pass c8 opass c2' c3' c4' c5' c6' c7' c8'
  ceq_let h2 c2 c2'
  ceq_let h3 c3 c3'
  ceq_let h4 c4 c4'
  ceq_let h5 c5 c5'
  ceq_let h6 c6 c6'
  ceq_let h7 c7 c7'
  have h8 : CEq c8 c8' := CEq.ite (by ceqs) h7
  clear_value c8 c8'
  refine RRel.bind (?_ : RRel CEq _ _) (fun c9 c9' h9 => ?_)
  · apply RRel.ite
    · split
      · exact .panic
      · apply RRel.ite
        · exact cmdOper_congr _ _ _ _ h8
        · ceqs
    · ceqs
  · refine RRel.bind (modS_congr_upd h9 sid _) (fun c10 c10' h10 => ?_)
    exact cmdMotd_congr _ _ _ _ h10

theorem holdCtx_congr {c c' : Ctx} (h : CEq c c') (k : String) (held : Option SvsHold) :
    CEq (holdCtx c k held) (holdCtx c' k held) := by
  unfold holdCtx
  cases held with
  | none => exact h
  | some _ => exact h.withSt (h.st.withSvsholds (h.st.svsholds.erase k))

theorem rekeyCh_congr (old new : String) {ch ch' : Channel} (h : ChanEq ch ch') :
    ChanEq (rekeyCh old new ch) (rekeyCh old new ch') := by
  unfold rekeyCh
  refine h.withNicks (MEq.erase ?_ old)
  rw [h.get_nicks old]
  cases AMap.get ch.nicks old with
  | none => exact h.nicks
  | some modes => exact h.nicks.set new rfl

theorem rekeyChans_congr {st st' : St} (h : StEq st st') (old new : String) :
    MEq ChanEq (st.channels.map (rekeyChan old new)) (st'.channels.map (rekeyChan old new)) ∧
    ∀ lc ch, AMap.get (st.channels.map (rekeyChan old new)) lc = some ch → chanToLower ch.name = lc := by
  constructor
  · exact h.channels.mapVal (f := fun e => rekeyCh old new e.2) (f' := fun e => rekeyCh old new e.2)
      (fun k v v' hr => rekeyCh_congr old new hr)
  · intro lc ch hg
    have : AMap.get (st.channels.map (rekeyChan old new)) lc = (AMap.get st.channels lc).map (rekeyCh old new) :=
      AMap.get_map_val st.channels (rekeyCh old new) lc
    rw [this] at hg
    cases hg0 : AMap.get st.channels lc with
    | none => rw [hg0] at hg; cases hg
    | some ch0 =>
      rw [hg0] at hg
      simp only [Option.map_some, Option.some.injEq] at hg
      subst hg
      exact h.ckey lc ch0 hg0

theorem renameCtx_congr {c c' : Ctx} (h : CEq c c') (tid : Id) (lcnew old : String) (b : Bool) :
    CEq (renameCtx c tid lcnew old b) (renameCtx c' tid lcnew old b) := by
  unfold renameCtx
  have h1 : CEq { c with st := { c.st with nicks := AMap.set c.st.nicks lcnew tid } }
      { c' with st := { c'.st with nicks := AMap.set c'.st.nicks lcnew tid } } :=
    h.withSt (h.st.withNicks (h.st.nicks.set lcnew rfl))
  cases b with
  | false => exact h1
  | true =>
    simp only [if_true]
    rw [rekeyChan_eq]
    obtain ⟨hm, hk⟩ := rekeyChans_congr h1.st old lcnew
    exact h1.withSt ((h1.st.withNicks (h1.st.nicks.erase old)).withChannels hm hk)

theorem cmdNickTail_congr {c c' : Ctx} (h : CEq c c') (sid : Id) (m : IrcMsg) {s s' : Session} (hs : SessEq s s')
    (nick : String) (held : Option SvsHold) :
    RRel CEq (cmdNickTail c sid m s nick held) (cmdNickTail c' sid m s' nick held) := by
  unfold cmdNickTail
  obtain ⟨chs, inv, rfl⟩ := hs.exists_with
  dsimp only
  have h0 := holdCtx_congr h (nickToLower nick) held
  generalize holdCtx c (nickToLower nick) held = c0 at h0 ⊢
  generalize holdCtx c' (nickToLower nick) held = c0' at h0 ⊢
  apply RRel.ite
  · ceqs
  refine RRel.bind (modS_congr_upd h0 sid _) (fun c1 c1' h1 => ?_)
  have h2 := renameCtx_congr h1 sid (nickToLower nick) (nickToLower s.nick)
    (nickToLower s.nick != "" && !(s.loggedIn && nickToLower nick == nickToLower (if s.loggedIn = true then s.nick else "*")))
  refine RRel.bind (modS_congr_upd h2 sid updateIrcPrefix) (fun c3 c3' h3 => ?_)
  apply RRel.ite
  · refine getS_bind h3 sid (fun s3 chs inv hs3 => ?_)
    refine RRel.bind (rcCommonChannels_congr h3.st hs3) (fun rc rc' hrc => ?_)
    ceqs
  · exact maybeLogin_congr _ _ _ _ h3

theorem cmdNick_congr : HCongr cmdNick := by
  intro c c' sid m h
  rw [cmdNick_eq, cmdNick_eq]
  refine getS_bind h sid (fun s chs inv hs => ?_)
  simp only [h.st.contains_nicks, h.st.get_svsholds]
  apply RRel.ite
  · ceqs
  apply RRel.ite
  · ceqs
  apply RRel.ite
  · ceqs
  split
  · apply RRel.ite
    · ceqs
    · exact cmdNickTail_congr h sid m hs _ _
  · exact cmdNickTail_congr h sid m hs _ _

theorem cmdUser_congr : HCongr cmdUser := by
  intro c c' sid m h
  unfold cmdUser
  refine RRel.bind_same (fun u => ?_)
  refine RRel.bind (modS_congr_upd h sid _) (fun c1 c1' h1 => ?_)
  exact maybeLogin_congr _ _ _ _ h1

theorem cmdPass_congr : HCongr cmdPass := by
  intro c c' sid m h
  unfold cmdPass
  refine RRel.bind (modS_congr_upd h sid _) (fun c1 c1' h1 => ?_)
  exact maybeLogin_congr _ _ _ _ h1

end Robust.Irc
