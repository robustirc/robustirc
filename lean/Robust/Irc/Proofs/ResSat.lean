import Robust.Irc.Cmds
/-!
Partial correctness of `Res` computations: `r.Sat P` says that `P` holds of the result whenever `r`
returns normally.  Nearly every theorem about a handler has the form
`h c sid m = .ok c' → P c'`, that is `(h c sid m).Sat P`.

A statement `(f …).Sat P` is proved by walking through the body of `f` once, from the outside in:
after `unfold f`, each lemma below matches only the head of the remaining term (`>>=`, `if`, `pure`)
and hands its subterms on, so no step looks at the rest of the body again.  The proof has the shape
of the program:

    unfold cmdFoo
    refine .bindEq (getS_of_get hs) (.bind fun p hp => ?_)   -- let s ← getS c sid; let p ← param m 0
    dsimp only
    cases hch : getChan c (chanToLower p) with                -- match getChan c lc with
    | none => exact .pure …                                    -- | none => pure …
    | some ch =>
      refine .ite (fun hno => .pure …) fun hyes => ?_          -- if … then return …

* `let b ← x`: `.bind` gives the equation `x = .ok b`; `.bindEq` puts in a value that is known already (`param_of_some`
  here, `getS_of_get` and `modS_of_get` in `FrameBasic.lean`);
  `Sat.andThen` feeds a fact proved of `x` (`getS_sat`, `modS_sat`, `param_sat`, or an earlier theorem
  of this form) to the continuation.  A result that is a tuple is taken apart by `obtain ⟨c1, q1⟩ := r`
  after `.bind fun r hr => ?_`.
* `match discr with …` where `discr` is not a variable: `cases h : discr`.  The `match` on the
  constructor then reduces by itself when the next lemma is applied; only before another `cases` on
  something the reduced `match` binds is a `dsimp only` needed (it also removes the `have`s of a
  `do` block, which hide a discriminant such as `getChan c lc` behind `lc`).
* `let c := f c` (no arrow): `extract_lets c1` takes the binding out of the goal, and the fact about `c1` is recorded
  by a `have` (`HLogic.lean` says how the walks of the `Keeps*` modules do it).
* The hypothesis form is recovered by `Sat.apply`: `(cmdFoo_sat …).apply hr`.
-/
namespace Robust.Irc
open Robust

def Res.Sat {α : Type} (r : Res α) (P : α → Prop) : Prop := ∀ a, r = .ok a → P a

namespace Res.Sat
variable {α β : Type} {P Q : α → Prop}

theorem apply {r : Res α} {a : α} (h : r.Sat P) (e : r = .ok a) : P a := h a e

/-- `apply` with the equation first: the computation is known when `h` is elaborated -/
theorem of_ok {r : Res α} {a : α} (e : r = .ok a) (h : r.Sat P) : P a := h a e

theorem ok {a : α} (h : P a) : (Res.ok a).Sat P := fun _ e => by cases e; exact h

theorem pure {a : α} (h : P a) : (Pure.pure a : Res α).Sat P := ok h

theorem panic (site : String) : (Res.panic site : Res α).Sat P := fun _ e => by cases e

theorem declined (why : String) : (Res.declined why : Res α).Sat P := fun _ e => by cases e

theorem mono {r : Res α} (h : r.Sat P) (hPQ : ∀ a, P a → Q a) : r.Sat Q := fun a e => hPQ a (h a e)

theorem bind {x : Res β} {f : β → Res α} (h : ∀ b, x = .ok b → (f b).Sat P) : (x >>= f).Sat P := by
  cases x with
  | ok b => exact h b rfl
  | panic site => exact panic site
  | declined why => exact declined why

theorem bindEq {x : Res β} {f : β → Res α} {b : β} (e : x = .ok b) (h : (f b).Sat P) : (x >>= f).Sat P := by
  subst e
  exact h

theorem andThen {x : Res β} {f : β → Res α} {R : β → Prop} (hx : x.Sat R) (hf : ∀ b, R b → (f b).Sat P) :
    (x >>= f).Sat P :=
  bind fun b e => hf b (hx b e)

theorem ite {p : Prop} [Decidable p] {a b : Res α} (ha : p → a.Sat P) (hb : ¬p → b.Sat P) :
    (if p then a else b).Sat P := by
  by_cases h : p
  · rw [if_pos h]; exact ha h
  · rw [if_neg h]; exact hb h

theorem ite' {p : Prop} [Decidable p] {a b : Res α} (ha : a.Sat P) (hb : b.Sat P) : (if p then a else b).Sat P :=
  ite (fun _ => ha) fun _ => hb

theorem foldlM {σ ι : Type} {f : σ → ι → Res σ} {I : σ → Prop} :
    ∀ (l : List ι) {s : σ}, I s → (∀ s a, a ∈ l → I s → (f s a).Sat I) → (l.foldlM f s).Sat I
  | [], _, hs, _ => pure hs
  | a :: l, s, hs, hf => by
    rw [List.foldlM_cons]
    exact andThen (hf s a List.mem_cons_self hs) fun s1 h1 =>
      foldlM l h1 fun s a ha => hf s a (List.mem_cons_of_mem _ ha)

theorem mapRes {ι : Type} {f : ι → Res α} : ∀ {l : List ι}, (∀ a ∈ l, (f a).Sat P) → (mapRes f l).Sat fun bs => ∀ b ∈ bs, P b
  | [], _ => ok fun _ hb => by cases hb
  | a :: l, h => by
    unfold Robust.Irc.mapRes
    refine andThen (h a List.mem_cons_self) fun b hb => ?_
    refine andThen (mapRes fun a ha => h a (List.mem_cons_of_mem _ ha)) fun bs hbs => pure fun b' hb' => ?_
    rcases List.mem_cons.1 hb' with rfl | hb'
    · exact hb
    · exact hbs b' hb'

end Res.Sat

theorem foldl_invariant {σ ι : Type} {f : σ → ι → σ} {I : σ → Prop} :
    ∀ (l : List ι) {s : σ}, I s → (∀ s a, a ∈ l → I s → I (f s a)) → I (l.foldl f s)
  | [], _, hs, _ => hs
  | a :: l, s, hs, hf =>
    foldl_invariant l (hf s a List.mem_cons_self hs) fun s a ha => hf s a (List.mem_cons_of_mem _ ha)

theorem ite_ind {α : Type} {P : α → Prop} {p : Prop} [Decidable p] {a b : α} (ha : p → P a) (hb : ¬p → P b) :
    P (if p then a else b) := by
  by_cases h : p
  · rw [if_pos h]; exact ha h
  · rw [if_neg h]; exact hb h

theorem ite_ind' {α : Type} {P : α → Prop} {p : Prop} [Decidable p] {a b : α} (ha : P a) (hb : P b) :
    P (if p then a else b) :=
  ite_ind (fun _ => ha) fun _ => hb

theorem getS_sat (c : Ctx) (sid : Id) : (getS c sid).Sat fun s => AMap.get c.st.sessions sid = some s := by
  unfold getS
  cases AMap.get c.st.sessions sid with
  | none => exact .panic _
  | some s => exact .ok rfl

theorem modS_sat (c : Ctx) (sid : Id) (f : Session → Session) :
    (modS c sid f).Sat fun c' => ∃ s, AMap.get c.st.sessions sid = some s ∧ c' = putS c (f s) := by
  unfold modS
  exact (getS_sat c sid).andThen fun s hs => .pure ⟨s, hs, rfl⟩

theorem param_of_some {m : IrcMsg} {i : Nat} {p : String} (h : m.params[i]? = some p) : param m i = .ok p := by
  unfold param
  rw [h]

theorem param_sat (m : IrcMsg) (i : Nat) : (param m i).Sat fun p => m.params[i]? = some p := by
  unfold param
  cases m.params[i]? with
  | none => exact .panic _
  | some p => exact .ok rfl

end Robust.Irc
