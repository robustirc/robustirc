import Robust.Irc.Proofs.FrameLeave
import Robust.Irc.Proofs.HandlerSteps
/-!
Nick changes (`cmdNick`, `cmdServerSvsnick`), new sessions (`createSession`) and the
indexing step of `cmdServerNick`.
-/
namespace Robust.Irc
open Robust AMap

@[simp] theorem rekeyCh_name (old new : String) (ch : Channel) : (rekeyCh old new ch).name = ch.name := rfl

theorem mem_keys_rekeyCh {old new n : String} {ch : Channel} :
    n ∈ AMap.keys (rekeyCh old new ch).nicks ↔
      n ≠ old ∧ (n ∈ AMap.keys ch.nicks ∨ (n = new ∧ old ∈ AMap.keys ch.nicks)) := by
  unfold rekeyCh
  simp only
  rw [AMap.mem_keys_erase]
  cases hg : AMap.get ch.nicks old with
  | none =>
    have : old ∉ AMap.keys ch.nicks := AMap.get_eq_none_iff.1 hg
    simp [this]
  | some modes =>
    have : old ∈ AMap.keys ch.nicks := AMap.mem_keys_of_get hg
    simp only [AMap.mem_keys_set, this, and_true]
    constructor
    · rintro ⟨h1, h2 | h2⟩
      · exact ⟨h1, Or.inr h2⟩
      · exact ⟨h1, Or.inl h2⟩
    · rintro ⟨h1, h2 | h2⟩
      · exact ⟨h1, Or.inr h2⟩
      · exact ⟨h1, Or.inl h2⟩

theorem nodup_keys_rekeyCh (old new : String) {ch : Channel} (h : (AMap.keys ch.nicks).Nodup) :
    (AMap.keys (rekeyCh old new ch).nicks).Nodup := by
  unfold rekeyCh
  simp only
  apply AMap.nodup_keys_erase
  cases AMap.get ch.nicks old with
  | none => exact h
  | some modes => exact AMap.nodup_keys_set _ _ h

theorem get_map_rekeyChan (m : AMap String Channel) (old new lc : String) :
    AMap.get (m.map (rekeyChan old new)) lc = (AMap.get m lc).map (rekeyCh old new) :=
  AMap.get_map_val m (rekeyCh old new) lc

theorem get_of_get_map_rekeyChan {m : AMap String Channel} {old new lc : String} {c' : Channel}
    (h : AMap.get (m.map (rekeyChan old new)) lc = some c') : ∃ c, AMap.get m lc = some c ∧ rekeyCh old new c = c' :=
  AMap.get_of_get_map_val (f := rekeyCh old new) h

theorem keys_map_rekeyChan (m : AMap String Channel) (old new : String) :
    AMap.keys (m.map (rekeyChan old new)) = AMap.keys m :=
  AMap.keys_map_val m (fun e => rekeyCh old new e.2)

section noRekey
variable {st st' : St} {sid : Id} {s s' : Session} {lcnew : String}
  (hid : s'.id = s.id) (hdel : s'.deleted = s.deleted) (hchs : s'.channels = s.channels)
  (hlow : nickToLower s'.nick = lcnew)
  (hss : st'.sessions = AMap.set st.sessions sid s') (hn : st'.nicks = AMap.set st.nicks lcnew sid)
  (hc : st'.channels = st.channels)
include hid hdel hchs hlow hss hn hc

/-- the case-only change of `cmdNick` / `cmdServerSvsnick`: the session is indexed under the new key already -/
theorem WInv_setNick_same (h : WInv st) (hs : AMap.get st.sessions sid = some s)
    (hidx : AMap.get st.nicks lcnew = some sid) : WInv st' := by
  have hn' : st'.nicks = st.nicks := by rw [hn, AMap.set_eq_self hidx]
  have hsid := h.sessId sid s hs
  refine ⟨h.setSession hss hn' hc (by rw [hid]; exact hsid.1) (by rw [hchs]; exact hsid.2)
      (fun x hx => ⟨by rw [hdel]; exact (h.index_get hx hs).1, hlow.trans (h.index_inj hidx hx)⟩)
      (fun _ _ => by rw [hlow]; exact hidx)
      (fun x lc c hx hg hmem => by rw [hchs]; exact h.chanMember_get hg hmem hx hs),
    fun x => MemberOK.setSession hss hn' hc (fun _ => h.member x) fun hx ch hch => ?_⟩
  rw [hchs] at hch
  exact h.member x sid s hx hs ch hch

/-- `cmdNick` for the first nick of a session: it is live, not indexed and in no channel; the new key is free -/
theorem WInv_setNick_first (h : WInv st) (hs : AMap.get st.sessions sid = some s) (hlive : s.deleted = false)
    (hfree : AMap.get st.nicks lcnew = none) (hun : ∀ x, AMap.get st.nicks x ≠ some sid) (hnil : s.channels = []) :
    WInv st' := by
  have hgets : AMap.get st'.sessions sid = some s' := by rw [hss]; exact AMap.get_set_same ..
  have hget : ∀ {id t}, id ≠ sid → AMap.get st.sessions id = some t → AMap.get st'.sessions id = some t :=
    fun hne hg => by rw [hss, AMap.get_set_other _ hne]; exact hg
  have hgetn : AMap.get st'.nicks lcnew = some sid := by rw [hn]; exact AMap.get_set_same ..
  have hkeep : ∀ {x id}, AMap.get st.nicks x = some id → id ≠ sid ∧ AMap.get st'.nicks x = some id := by
    intro x id hx
    have hne : x ≠ lcnew := fun e => by rw [e, hfree] at hx; cases hx
    exact ⟨fun e => hun x (e ▸ hx), by rw [hn, AMap.get_set_other _ hne]; exact hx⟩
  refine ⟨⟨by rw [hss]; exact AMap.nodup_keys_set _ _ h.sessNodup, by rw [hn]; exact AMap.nodup_keys_set _ _ h.nickNodup,
    by rw [hc]; exact h.chanNodup, ?_, ?_, ?_, ?_⟩, ?_⟩
  · intro id x hg
    rw [hss] at hg
    rcases AMap.get_of_get_set hg with ⟨rfl, rfl⟩ | ⟨_, hg⟩
    · rw [hid, hchs]; exact h.sessId id s hs
    · exact h.sessId id x hg
  · intro id x hg hl hnn
    rw [hss] at hg
    rcases AMap.get_of_get_set hg with ⟨rfl, rfl⟩ | ⟨_, hg⟩
    · rw [hlow]; exact hgetn
    · exact (hkeep (h.owns id x hg hl hnn)).2
  · intro x id hi
    rw [hn] at hi
    rcases AMap.get_of_get_set hi with ⟨rfl, rfl⟩ | ⟨_, hi⟩
    · exact ⟨s', hgets, by rw [hdel]; exact hlive, hlow⟩
    · obtain ⟨s0, hg0, hl⟩ := h.index x id hi
      exact ⟨s0, hget (hkeep hi).1 hg0, hl⟩
  · intro lc c hg
    rw [hc] at hg
    obtain ⟨a, b, d⟩ := h.chans lc c hg
    refine ⟨a, b, fun n hn' => ?_⟩
    obtain ⟨id, s0, h1, h2, h3⟩ := d n hn'
    exact ⟨id, s0, (hkeep h1).2, hget (hkeep h1).1 h2, h3⟩
  · intro x id s0 hi hg ch2 hch2
    rw [hn] at hi
    rcases AMap.get_of_get_set hi with ⟨rfl, rfl⟩ | ⟨_, hi⟩
    · rw [hgets] at hg; cases hg
      rw [hchs, hnil] at hch2; cases hch2
    · rw [hss, AMap.get_set_other _ (hkeep hi).1] at hg
      rw [hc]
      exact h.member x id s0 hi hg ch2 hch2

end noRekey

theorem WInv_setNick_rekey {st st' : St} {tid : Id} {t t' : Session} {old lcnew : String}
    (h : WInv st) (hidx : AMap.get st.nicks old = some tid) (ht : AMap.get st.sessions tid = some t)
    (hfree : AMap.get st.nicks lcnew = none)
    (hid : t'.id = t.id) (hdel : t'.deleted = t.deleted) (hchs : t'.channels = t.channels)
    (hlow : nickToLower t'.nick = lcnew)
    (hss : st'.sessions = AMap.set st.sessions tid t')
    (hn : st'.nicks = AMap.erase (AMap.set st.nicks lcnew tid) old)
    (hc : st'.channels = st.channels.map (rekeyChan old lcnew)) : WInv st' := by
  have hne : lcnew ≠ old := fun he => by rw [he, hidx] at hfree; cases hfree
  have hgets : AMap.get st'.sessions tid = some t' := by rw [hss]; exact AMap.get_set_same ..
  have hget : ∀ {id s}, id ≠ tid → AMap.get st.sessions id = some s → AMap.get st'.sessions id = some s :=
    fun hne hg => by rw [hss, AMap.get_set_other _ hne]; exact hg
  have hgetn : AMap.get st'.nicks lcnew = some tid := by
    rw [hn, AMap.get_erase_other hne]; exact AMap.get_set_same ..
  have hkeep : ∀ {x id}, id ≠ tid → AMap.get st.nicks x = some id → AMap.get st'.nicks x = some id := by
    intro x id hid' hx
    have h1 : x ≠ old := fun he => hid' (by rw [he, hidx] at hx; cases hx; rfl)
    have h2 : x ≠ lcnew := fun he => by rw [he, hfree] at hx; cases hx
    rw [hn, AMap.get_erase_other h1, AMap.get_set_other _ h2]; exact hx
  have hread : ∀ {x id}, AMap.get st'.nicks x = some id →
      (x = lcnew ∧ id = tid) ∨ (x ≠ old ∧ id ≠ tid ∧ AMap.get st.nicks x = some id) := by
    intro x id hx
    rw [hn] at hx
    obtain ⟨h1, h2⟩ := AMap.get_of_get_erase hx
    rcases AMap.get_of_get_set h2 with h3 | ⟨_, h3⟩
    · exact Or.inl h3
    · exact Or.inr ⟨h1, fun e => h1 (h.index_inj (e ▸ h3) hidx), h3⟩
  refine ⟨⟨by rw [hss]; exact AMap.nodup_keys_set _ _ h.sessNodup,
    by rw [hn]; exact AMap.nodup_keys_erase _ (AMap.nodup_keys_set _ _ h.nickNodup),
    by rw [hc, keys_map_rekeyChan]; exact h.chanNodup, ?_, ?_, ?_, ?_⟩, ?_⟩
  · intro id x hg
    rw [hss] at hg
    rcases AMap.get_of_get_set hg with ⟨rfl, rfl⟩ | ⟨_, hg⟩
    · rw [hid, hchs]; exact h.sessId id t ht
    · exact h.sessId id x hg
  · intro id x hg hl hnn
    rw [hss] at hg
    rcases AMap.get_of_get_set hg with ⟨rfl, rfl⟩ | ⟨hne', hg⟩
    · rw [hlow]; exact hgetn
    · exact hkeep hne' (h.owns id x hg hl hnn)
  · intro x id hi
    rcases hread hi with ⟨rfl, rfl⟩ | ⟨_, h3, h4⟩
    · exact ⟨t', hgets, by rw [hdel]; exact (h.index_get hidx ht).1, hlow⟩
    · obtain ⟨s0, hg0, hl⟩ := h.index x id h4
      exact ⟨s0, hget h3 hg0, hl⟩
  · intro lc c' hg
    rw [hc] at hg
    obtain ⟨c, hg0, rfl⟩ := get_of_get_map_rekeyChan hg
    obtain ⟨a, b, d⟩ := h.chans lc c hg0
    refine ⟨a, nodup_keys_rekeyCh _ _ b, fun n hn' => ?_⟩
    obtain ⟨hno, h1 | ⟨rfl, h2⟩⟩ := mem_keys_rekeyCh.1 hn'
    · obtain ⟨id, s0, a1, a2, a3⟩ := d n h1
      have hid' : id ≠ tid := fun he => hno (h.index_inj (he ▸ a1) hidx)
      exact ⟨id, s0, hkeep hid' a1, hget hid' a2, a3⟩
    · exact ⟨tid, t', hgetn, hgets, by rw [hchs]; exact h.chanMember_get hg0 h2 hidx ht⟩
  · intro x id s0 hi hg ch2 hch2
    rw [hc, get_map_rekeyChan]
    rcases hread hi with ⟨rfl, rfl⟩ | ⟨h2, h3, h4⟩
    · rw [hgets] at hg; cases hg
      rw [hchs] at hch2
      obtain ⟨c, hc0, hcont⟩ := h.member old id t hidx ht ch2 hch2
      refine ⟨rekeyCh old x c, by rw [hc0]; rfl, ?_⟩
      rw [AMap.contains_iff_mem_keys] at hcont ⊢
      exact mem_keys_rekeyCh.2 ⟨hne, Or.inr ⟨rfl, hcont⟩⟩
    · rw [hss, AMap.get_set_other _ h3] at hg
      obtain ⟨c, hc0, hcont⟩ := h.member x id s0 h4 hg ch2 hch2
      refine ⟨rekeyCh old lcnew c, by rw [hc0]; rfl, ?_⟩
      rw [AMap.contains_iff_mem_keys] at hcont ⊢
      exact mem_keys_rekeyCh.2 ⟨h2, Or.inl hcont⟩

theorem ChansNonempty_rekey {st st' : St} {old lcnew : String} (h : ChansNonempty st) (hne : lcnew ≠ old)
    (hc : st'.channels = st.channels.map (rekeyChan old lcnew)) : ChansNonempty st' := by
  intro lc c' hg
  rw [hc] at hg
  obtain ⟨c, hg0, rfl⟩ := get_of_get_map_rekeyChan hg
  obtain ⟨k, v, hkv⟩ := AMap.exists_get_of_ne_nil (h lc c hg0)
  have hk : k ∈ AMap.keys c.nicks := AMap.mem_keys_of_get hkv
  have : ∃ n, n ∈ AMap.keys (rekeyCh old lcnew c).nicks := by
    by_cases hko : k = old
    · subst hko
      exact ⟨lcnew, mem_keys_rekeyCh.2 ⟨hne, Or.inr ⟨rfl, hk⟩⟩⟩
    · exact ⟨k, mem_keys_rekeyCh.2 ⟨hko, Or.inl hk⟩⟩
  obtain ⟨n, hn'⟩ := this
  intro hnil
  rw [hnil] at hn'; cases hn'

theorem WInv_newSession {st st' : St} {id : Id} {ns : Session} (h : WInv st)
    (hfree : ∀ x, AMap.get st.nicks x ≠ some id)
    (hid : ns.id = id) (hnick : ns.nick = "") (hchs : ns.channels = [])
    (hss : st'.sessions = AMap.set st.sessions id ns) (hn : st'.nicks = st.nicks)
    (hc : st'.channels = st.channels) : WInv st' :=
  ⟨h.setSession hss hn hc hid (by rw [hchs]; exact List.nodup_nil) (fun x hx => absurd hx (hfree x))
      (fun _ hnn => absurd hnick hnn) (fun x _ _ hx => absurd hx (hfree x)),
    fun x => MemberOK.setSession hss hn hc (fun _ => h.member x) (fun hx => absurd hx (hfree x))⟩

theorem WInvCore.unindexed_of_fresh {st : St} (h : WInvCore st) {id : Id}
    (hf : AMap.get st.sessions id = none) : ∀ x, AMap.get st.nicks x ≠ some id := by
  intro x hx
  obtain ⟨s, hs, _⟩ := h.index x id hx
  rw [hf] at hs; cases hs

theorem createSession_eq {st st' : St} {id : Id} {auth : String} {ts : Int}
    (hr : createSession st id auth ts = some st') :
    st' = { st with sessions := AMap.set st.sessions id { id := id, auth := auth, created := ts, lastActivity := ts, lastNonPing := ts, svid := "0" } } := by
  unfold createSession at hr
  split at hr
  · cases hr
  · cases hr; rfl

theorem WInv_createSession {st st' : St} {id : Id} {auth : String} {ts : Int} (h : WInv st)
    (hfree : ∀ x, AMap.get st.nicks x ≠ some id) (hr : createSession st id auth ts = some st') : WInv st' := by
  rw [createSession_eq hr]
  exact WInv_newSession h hfree rfl rfl rfl rfl rfl rfl

theorem HInv_createSession {st st' : St} {id : Id} {auth : String} {ts : Int} (h : HInv st)
    (hfree : ∀ x, AMap.get st.nicks x ≠ some id) (hr : createSession st id auth ts = some st') : HInv st' := by
  refine ⟨WInv_createSession h.toWInv hfree hr, ?_⟩
  rw [createSession_eq hr]
  exact h.nonempty.congr rfl

theorem Inv_createSession {st st' : St} {id : Id} {auth : String} {ts : Int} (h : Inv st)
    (hfree : ∀ x, AMap.get st.nicks x ≠ some id) (hr : createSession st id auth ts = some st') : Inv st' := by
  refine ⟨HInv_createSession h.toHInv hfree hr, ?_⟩
  rw [createSession_eq hr]
  intro id' s hg
  rcases AMap.get_of_get_set (m := st.sessions) hg with ⟨_, rfl⟩ | ⟨_, hg⟩
  · rfl
  · exact h.noDeleted id' s hg

/-- `createSession` + `modS … nick := p0 …` + `nicks[lower p0] := id`, for an id the index does
not mention and a free nick -/
theorem WInv_serverNick {c c2 : Ctx} {st1 : St} {id : Id} {p0 : String} {ts : Int} {f : Session → Session}
    (h : WInv c.st) (hfree : ∀ x, AMap.get c.st.nicks x ≠ some id)
    (hnone : AMap.get c.st.nicks (nickToLower p0) = none)
    (hcs : createSession c.st id "" ts = some st1)
    (hm : modS { c with st := st1 } id f = Res.ok c2)
    (hf : ∀ s, (f s).id = s.id ∧ (f s).deleted = s.deleted ∧ (f s).channels = s.channels ∧ (f s).nick = p0) :
    WInv { c2.st with nicks := AMap.set c2.st.nicks (nickToLower p0) id } := by
  have h1 := WInv_createSession h hfree hcs
  have e1 := createSession_eq hcs
  obtain ⟨ns, hns, rfl⟩ := modS_eq_ok.1 hm
  change AMap.get st1.sessions id = some ns at hns
  have hns' := hns
  rw [e1] at hns'
  change AMap.get (AMap.set c.st.sessions id _) id = some ns at hns'
  rw [AMap.get_set_same] at hns'
  have hnsid : ns.id = id := (h1.sessId id ns hns).1
  have hnick1 : st1.nicks = c.st.nicks := by rw [e1]
  obtain ⟨g1, g2, g3, g4⟩ := hf ns
  refine WInv_setNick_first (st := st1) (s := ns) (s' := f ns) (sid := id) (lcnew := nickToLower p0) g1 g2 g3 (by rw [g4])
    ?_ rfl rfl h1 hns ?_ (by rw [hnick1]; exact hnone) (by rw [hnick1]; exact hfree) ?_
  · show AMap.set st1.sessions (f ns).id (f ns) = AMap.set st1.sessions id (f ns)
    rw [g1, hnsid]
  · cases hns'; rfl
  · cases hns'; rfl

inductive RenameCase (nicks : AMap String Id) (tid : Id) (t : Session) (lcnew old : String) : Bool → Prop where
  | rekey (hidx : AMap.get nicks old = some tid) (hfree : AMap.get nicks lcnew = none) :
      RenameCase nicks tid t lcnew old true
  | same (hidx : AMap.get nicks lcnew = some tid) : RenameCase nicks tid t lcnew old false
  | first (hfree : AMap.get nicks lcnew = none) (hun : ∀ x, AMap.get nicks x ≠ some tid)
      (hlive : t.deleted = false) (hch : t.channels = []) : RenameCase nicks tid t lcnew old false

theorem rename_WInv {c c1 : Ctx} {tid : Id} {t : Session} {nick old : String} {doRekey : Bool}
    {f : Session → Session} (h : WInv c.st)
    (ht : AMap.get c.st.sessions tid = some t)
    (hm : modS c tid f = Res.ok c1)
    (hf : ∀ s, (f s).id = s.id ∧ (f s).deleted = s.deleted ∧ (f s).channels = s.channels ∧ (f s).nick = nick)
    (hcase : RenameCase c.st.nicks tid t (nickToLower nick) old doRekey) :
    WInv (renameCtx c1 tid (nickToLower nick) old doRekey).st := by
  obtain ⟨t0, ht0, rfl⟩ := modS_eq_ok.1 hm
  rw [ht] at ht0; cases ht0
  obtain ⟨g1, g2, g3, g4⟩ := hf t
  have htid : t.id = tid := (h.sessId tid t ht).1
  have hsess : (putS c (f t)).st.sessions = AMap.set c.st.sessions tid (f t) := by
    rw [putS_sessions, g1, htid]
  cases hcase with
  | rekey hidx hfree =>
    exact WInv_setNick_rekey (t' := f t) h hidx ht hfree g1 g2 g3 (by rw [g4]) hsess rfl rfl
  | same hidx =>
    exact WInv_setNick_same (s' := f t) g1 g2 g3 (by rw [g4]) hsess rfl rfl h ht hidx
  | first hfree hun hlive hch =>
    exact WInv_setNick_first (s' := f t) g1 g2 g3 (by rw [g4]) hsess rfl rfl h ht hlive hfree hun hch

theorem rename_HInv {c c1 : Ctx} {tid : Id} {t : Session} {nick old : String} {doRekey : Bool}
    {f : Session → Session} (h : HInv c.st)
    (ht : AMap.get c.st.sessions tid = some t)
    (hm : modS c tid f = Res.ok c1)
    (hf : ∀ s, (f s).id = s.id ∧ (f s).deleted = s.deleted ∧ (f s).channels = s.channels ∧ (f s).nick = nick)
    (hcase : RenameCase c.st.nicks tid t (nickToLower nick) old doRekey) :
    HInv (renameCtx c1 tid (nickToLower nick) old doRekey).st := by
  refine ⟨rename_WInv h.toWInv ht hm hf hcase, ?_⟩
  obtain ⟨t0, _, rfl⟩ := modS_eq_ok.1 hm
  cases hcase with
  | rekey hidx hfree =>
    have hne : nickToLower nick ≠ old := by
      intro he; rw [he, hidx] at hfree; cases hfree
    exact ChansNonempty_rekey (st := c.st) h.nonempty hne rfl
  | same hidx => exact h.nonempty.congr rfl
  | first hfree hun hlive hch => exact h.nonempty.congr rfl

theorem renameCtx_sessions (c : Ctx) (tid : Id) (lcnew old : String) (b : Bool) :
    (renameCtx c tid lcnew old b).st.sessions = c.st.sessions := by
  unfold renameCtx; cases b <;> rfl

/-- the re-keying touches the nick index and the channels only (and not the sessions: `renameCtx_sessions`) -/
theorem renameCtx_frame (c : Ctx) (tid : Id) (lcnew old : String) (b : Bool) :
    CtxFrame c (renameCtx c tid lcnew old b) := by
  unfold renameCtx; cases b <;> exact ⟨rfl, rfl, rfl, rfl, rfl, rfl, rfl, rfl⟩

theorem renameCtx_get_new {c : Ctx} {tid : Id} {lcnew old : String} {b : Bool} (h : b = true → lcnew ≠ old) :
    AMap.get (renameCtx c tid lcnew old b).st.nicks lcnew = some tid := by
  unfold renameCtx
  cases b with
  | false => exact AMap.get_set_same _ _ _
  | true =>
    show AMap.get (AMap.erase (AMap.set c.st.nicks lcnew tid) old) lcnew = some tid
    rw [AMap.get_erase_other (h rfl)]; exact AMap.get_set_same _ _ _

end Robust.Irc
