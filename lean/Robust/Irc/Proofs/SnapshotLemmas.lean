import Robust.Irc.Snapshot
import Robust.Irc.Proofs.FrameSim
import Robust.Irc.Proofs.Clean
/-!
Lemmas for C03 (snapshot round trip): idempotence of the case mappings (`lowerChar`,
`chanToLower`, `nickToLower`), rebuilding an association list with `foldl … AMap.set`, and the
normal form of `saveLoad` on states satisfying `Inv` and `Canon`.
-/
namespace Robust.Irc
open Robust

def validNat (v : Nat) : Bool := v < 0xd800 || (0xdfff < v && v < 0x110000)

theorem toNat_ofNat_of_valid {v : Nat} (h : validNat v = true) : (Char.ofNat v).toNat = v :=
  toNat_ofNat_valid v (by simpa only [validNat, Bool.or_eq_true, Bool.and_eq_true, decide_eq_true_eq] using h)

def keyBits (T : List (Nat × Nat)) : Nat := T.foldl (fun acc e => acc ||| 2 ^ e.1) 0

theorem testBit_foldl_keyBits (T : List (Nat × Nat)) (i : Nat) :
    ∀ acc : Nat, (acc.testBit i = true ∨ ∃ w, (i, w) ∈ T) →
      (T.foldl (fun (acc : Nat) (e : Nat × Nat) => acc ||| 2 ^ e.1) acc).testBit i = true := by
  induction T with
  | nil => intro acc h; rcases h with h | ⟨w, h⟩
           · exact h
           · cases h
  | cons e t ih =>
    intro acc h
    simp only [List.foldl_cons]
    apply ih
    rcases h with h | ⟨w, h⟩
    · left; rw [Nat.testBit_or, h]; rfl
    · rcases List.mem_cons.1 h with h1 | h1
      · left; rw [Nat.testBit_or, ← h1]; simp [Nat.testBit_two_pow_self]
      · right; exact ⟨w, h1⟩

theorem testBit_keyBits {T : List (Nat × Nat)} {k w : Nat} (h : (k, w) ∈ T) : (keyBits T).testBit k = true :=
  testBit_foldl_keyBits T k 0 (Or.inr ⟨w, h⟩)

/-- every value of the table is a valid code point that the mapping leaves alone: an ASCII
non-capital, or a non-ASCII code point that is not a key of the table (bitmap test) -/
def lowerTableOK (T : List (Nat × Nat)) : Bool :=
  T.all fun e => validNat e.2 &&
    (if e.2 < 128 then !(65 ≤ e.2 && e.2 ≤ 90) else !(keyBits T).testBit e.2)

theorem lowerTableOK_true : lowerTableOK Gen.Unicode.toLowerTable.toList = true := by decide +kernel

theorem lowerChar_of_ascii_nonupper {d : Char} (h1 : d.toNat < 128) (h2 : ¬ (65 ≤ d.toNat ∧ d.toNat ≤ 90)) :
    lowerChar d = d := by
  unfold lowerChar
  rw [if_pos h1, if_neg]
  rw [char_le_iff, char_le_iff]
  exact h2

theorem lowerChar_of_none {d : Char} (h1 : ¬ d.toNat < 128)
    (h2 : lookupTable Gen.Unicode.toLowerTable d.toNat = none) : lowerChar d = d := by
  unfold lowerChar
  rw [if_neg h1, h2]

theorem lowerChar_idem (c : Char) : lowerChar (lowerChar c) = lowerChar c := by
  by_cases h1 : c.toNat < 128
  · by_cases h2 : 65 ≤ c.toNat ∧ c.toNat ≤ 90
    · have hv : validNat (c.toNat + 32) = true := by
        simp only [validNat, Bool.or_eq_true, decide_eq_true_eq]; left; omega
      have hd : lowerChar c = Char.ofNat (c.toNat + 32) := by
        unfold lowerChar
        rw [if_pos h1, if_pos]
        rw [char_le_iff, char_le_iff]; exact h2
      rw [hd]
      apply lowerChar_of_ascii_nonupper <;> rw [toNat_ofNat_of_valid hv] <;> omega
    · rw [lowerChar_of_ascii_nonupper h1 h2, lowerChar_of_ascii_nonupper h1 h2]
  · cases hl : lookupTable Gen.Unicode.toLowerTable c.toNat with
    | none => rw [lowerChar_of_none h1 hl, lowerChar_of_none h1 hl]
    | some v =>
      have hd : lowerChar c = Char.ofNat v := by
        unfold lowerChar; rw [if_neg h1, hl]
      have hmem : (c.toNat, v) ∈ Gen.Unicode.toLowerTable.toList := Array.mem_toList_iff.2 (lookupTable_some hl)
      have hok := lowerTableOK_true
      unfold lowerTableOK at hok
      rw [List.all_eq_true] at hok
      have := hok _ hmem
      simp only [Bool.and_eq_true] at this
      obtain ⟨hv, hrest⟩ := this
      rw [hd]
      by_cases h3 : v < 128
      · rw [if_pos h3] at hrest
        apply lowerChar_of_ascii_nonupper <;> rw [toNat_ofNat_of_valid hv]
        · exact h3
        · simp only [Bool.not_eq_true', Bool.and_eq_false_iff, decide_eq_false_iff_not] at hrest
          omega
      · rw [if_neg h3] at hrest
        apply lowerChar_of_none <;> rw [toNat_ofNat_of_valid hv]
        · exact h3
        · cases hl2 : lookupTable Gen.Unicode.toLowerTable v with
          | none => rfl
          | some w =>
            have := testBit_keyBits (Array.mem_toList_iff.2 (lookupTable_some hl2))
            rw [this] at hrest; cases hrest

theorem toLower_idem (s : String) : toLower (toLower s) = toLower s := by
  unfold toLower
  rw [String.toList_ofList, List.map_map]
  congr 1
  apply List.map_congr_left
  intro c _; exact lowerChar_idem c

theorem chanToLower_idem (s : String) : chanToLower (chanToLower s) = chanToLower s := toLower_idem s

def nickFold (c : Char) : Char := if c == '[' then '{' else if c == ']' then '}' else if c == '\\' then '|' else c

theorem nickToLower_eq (s : String) : nickToLower s = String.ofList ((s.toList.map lowerChar).map nickFold) := by
  unfold nickToLower toLower
  rw [String.toList_ofList]; rfl

theorem nickFold_lower_idem (c : Char) : nickFold (lowerChar (nickFold (lowerChar c))) = nickFold (lowerChar c) := by
  generalize hd : lowerChar c = d
  have hdd : lowerChar d = d := by rw [← hd]; exact lowerChar_idem c
  unfold nickFold
  by_cases h1 : d = '['
  · subst h1; decide
  · by_cases h2 : d = ']'
    · subst h2; decide
    · by_cases h3 : d = '\\'
      · subst h3; decide
      · simp [h1, h2, h3, hdd]

theorem nickToLower_idem (s : String) : nickToLower (nickToLower s) = nickToLower s := by
  rw [nickToLower_eq (nickToLower s), nickToLower_eq s, String.toList_ofList]
  congr 1
  simp only [List.map_map]
  apply List.map_congr_left
  intro c _
  simp only [Function.comp_apply]
  exact nickFold_lower_idem c

/-- the well-formedness beyond `Inv` under which `saveLoad` is invisible -/
def Canon (st : St) : Prop := canonB st = true

instance (st : St) : Decidable (Canon st) := inferInstanceAs (Decidable (canonB st = true))

theorem canonB_iff (st : St) : canonB st = true ↔ Canon st := Iff.rfl

structure SessCanon (s : Session) : Prop where
  chans : s.nick = "" → ∀ ch ∈ s.channels, chanToLower ch = ch
  invited : ∀ ch ∈ s.invitedTo, chanToLower ch = ch
  created : 0 < s.created ∨ s.created = (s.id.id : Int)
  lastNonPing : s.lastNonPing ≠ zeroTime ∨ s.lastActivity = zeroTime

theorem sessCanonB_iff (s : Session) : sessCanonB s = true ↔ SessCanon s := by
  unfold sessCanonB
  simp only [Bool.and_eq_true, Bool.or_eq_true, List.all_eq_true, beq_iff_eq, bne_iff_ne, ne_eq,
    decide_eq_true_eq]
  constructor
  · rintro ⟨⟨⟨h1, h2⟩, h3⟩, h4⟩
    refine ⟨fun hn => ?_, h2, h3, h4⟩
    rcases h1 with h1 | h1
    · exact absurd hn h1
    · exact h1
  · rintro ⟨h1, h2, h3, h4⟩
    refine ⟨⟨⟨?_, h2⟩, h3⟩, h4⟩
    by_cases hn : s.nick = ""
    · exact Or.inr (h1 hn)
    · exact Or.inl hn

theorem canon_iff (st : St) : Canon st ↔
    (∀ e ∈ st.sessions, SessCanon e.2) ∧ AMap.get st.nicks "" = none ∧
    (AMap.keys st.svsholds).Nodup ∧ ∀ e ∈ st.svsholds, nickToLower e.1 = e.1 := by
  unfold Canon canonB
  simp only [Bool.and_eq_true, List.all_eq_true, beq_iff_eq, decide_eq_true_eq, Bool.not_eq_true',
    AMap.contains_eq_false_iff, sessCanonB_iff]
  constructor
  · rintro ⟨⟨⟨h1, h2⟩, h3⟩, h4⟩; exact ⟨h1, h2, h3, h4⟩
  · rintro ⟨h1, h2, h3, h4⟩; exact ⟨⟨⟨h1, h2⟩, h3⟩, h4⟩

theorem Canon.sess {st : St} (h : Canon st) {id : Id} {s : Session} (hs : AMap.get st.sessions id = some s) :
    SessCanon s :=
  ((canon_iff st).1 h).1 (id, s) (AMap.mem_of_get hs)

theorem Canon.noEmptyNick {st : St} (h : Canon st) : AMap.get st.nicks "" = none := ((canon_iff st).1 h).2.1
theorem Canon.holdNodup {st : St} (h : Canon st) : (AMap.keys st.svsholds).Nodup := ((canon_iff st).1 h).2.2.1
theorem Canon.holdLower {st : St} (h : Canon st) : ∀ e ∈ st.svsholds, nickToLower e.1 = e.1 := ((canon_iff st).1 h).2.2.2

theorem loadSession_eq_self {s : Session} (h1 : ∀ ch ∈ s.channels, chanToLower ch = ch)
    (h2 : ∀ ch ∈ s.invitedTo, chanToLower ch = ch) (h3 : 0 < s.created ∨ s.created = (s.id.id : Int))
    (h4 : s.lastNonPing ≠ zeroTime ∨ s.lastActivity = zeroTime) (h5 : s.deleted = false) :
    loadSession s = s := by
  have e3 : (if s.created > 0 then s.created else (s.id.id : Int)) = s.created := by
    split
    · rfl
    · rename_i hc; rcases h3 with h3 | h3
      · exact absurd h3 hc
      · exact h3.symm
  have e4 : (if (s.lastNonPing == zeroTime) = true then s.lastActivity else s.lastNonPing) = s.lastNonPing := by
    split
    · rename_i hc
      have hc' : s.lastNonPing = zeroTime := by simpa using hc
      rcases h4 with h4 | h4
      · exact absurd hc' h4
      · rw [h4, hc']
    · rfl
  unfold loadSession
  simp only [map_eq_self_of_fixed h1, map_eq_self_of_fixed h2, e3, e4, ← h5]

theorem Inv.sessChans_lower {st : St} (hI : Inv st) {id : Id} {s : Session}
    (hs : AMap.get st.sessions id = some s) (hn : s.nick ≠ "") : ∀ ch ∈ s.channels, chanToLower ch = ch := by
  intro ch hch
  obtain ⟨_, hm⟩ := hI.toWInv.owns_chans hs (hI.noDeleted id s hs) hn
  obtain ⟨c, hc, _⟩ := hm ch hch
  have := (hI.chans ch c hc).1
  rw [← this, chanToLower_idem]

theorem Inv.loadSession_eq {st : St} (hI : Inv st) (hC : Canon st) {id : Id} {s : Session}
    (hs : AMap.get st.sessions id = some s) : loadSession s = s := by
  have hc := hC.sess hs
  refine loadSession_eq_self ?_ hc.invited hc.created hc.lastNonPing (hI.noDeleted id s hs)
  by_cases hn : s.nick = ""
  · exact hc.chans hn
  · exact hI.sessChans_lower hs hn

theorem Inv.get_of_mem {st : St} (hI : Inv st) {e : Id × Session} (he : e ∈ st.sessions) :
    AMap.get st.sessions e.1 = some e.2 :=
  AMap.get_of_mem_nodup hI.sessNodup he

theorem saveLoad_sessions {st : St} (hI : Inv st) (hC : Canon st) :
    (saveLoad st).sessions = st.sessions := by
  show st.sessions.foldl (fun m e => AMap.set m e.2.id (loadSession e.2)) [] = st.sessions
  apply AMap.foldl_set_self st.sessions (fun e => e.2.id) (fun e => loadSession e.2) hI.sessNodup
  · intro e he; exact (hI.sessId _ _ (hI.get_of_mem he)).1
  · intro e he; exact hI.loadSession_eq hC (hI.get_of_mem he)

theorem Inv.loadChannel_eq {st : St} (hI : Inv st) {lc : String} {c : Channel}
    (hc : AMap.get st.channels lc = some c) : loadChannel c = c := by
  have hn := (hI.chans lc c hc).2.1
  have : c.nicks.foldl (fun m e => AMap.set m (nickToLower e.1) e.2) [] = c.nicks := by
    apply AMap.foldl_set_self c.nicks (fun e => nickToLower e.1) (fun e => e.2) hn
    · intro e he
      obtain ⟨id, s, _, _, _, _, h5, _⟩ := hI.toWInvCore.chanMember_live hc (AMap.mem_keys_of_mem he)
      show nickToLower e.1 = e.1
      rw [← h5, nickToLower_idem]
    · intro e _; rfl
  unfold loadChannel
  rw [this]

theorem saveLoad_channels {st : St} (hI : Inv st) : (saveLoad st).channels = st.channels := by
  show st.channels.foldl (fun m e => AMap.set m (chanToLower e.2.name) (loadChannel e.2)) [] = st.channels
  apply AMap.foldl_set_self st.channels (fun e => chanToLower e.2.name) (fun e => loadChannel e.2) hI.chanNodup
  · intro e he; exact (hI.chans _ _ (AMap.get_of_mem_nodup hI.chanNodup he)).1
  · intro e he; exact hI.loadChannel_eq (AMap.get_of_mem_nodup hI.chanNodup he)

theorem saveLoad_svsholds {st : St} (hC : Canon st) : (saveLoad st).svsholds = st.svsholds := by
  show st.svsholds.foldl (fun m e => AMap.set m (nickToLower e.1) e.2) [] = st.svsholds
  exact AMap.foldl_set_self st.svsholds (fun e => nickToLower e.1) (fun e => e.2) hC.holdNodup
    hC.holdLower (fun _ _ => rfl)

/-- the nick index as `Unmarshal` rebuilds it from the restored sessions -/
def rebuiltNicks (ss : AMap Id Session) : AMap String Id :=
  ss.foldl (fun m e => if e.2.nick != "" then AMap.set m (nickToLower e.2.nick) e.2.id else m) []

/-- `serverSessions` as `Unmarshal` rebuilds it -/
def rebuiltServers (ss : AMap Id Session) : List Nat := (ss.filter (·.2.server)).map (·.2.id.id)

theorem saveLoad_nicks (st : St) : (saveLoad st).nicks = rebuiltNicks st.sessions := rfl
theorem saveLoad_serverSessions (st : St) : (saveLoad st).serverSessions = rebuiltServers st.sessions := rfl

/-- under the invariant distinct stored sessions carry distinct (lower-cased) nicknames, so the
rebuilt index is the list of the `(lcNick, id)` of the sessions with a nickname, in session order -/
theorem rebuiltNicks_eq {st : St} (hI : Inv st) :
    rebuiltNicks st.sessions =
      (st.sessions.filter fun e => e.2.nick != "").map fun e => (nickToLower e.2.nick, e.2.id) := by
  unfold rebuiltNicks
  rw [← List.foldl_filter (p := fun e : Id × Session => e.2.nick != "")
    (f := fun m e => AMap.set m (nickToLower e.2.nick) e.2.id)]
  rw [AMap.foldl_set_eq (fun e : Id × Session => nickToLower e.2.nick) (fun e => e.2.id)]
  · simp
  · simp only [AMap.keys_nil, List.nil_append]
    have hp : st.sessions.Pairwise (fun a b => a.1 ≠ b.1) := by
      have := hI.sessNodup
      unfold AMap.keys List.Nodup at this
      exact List.pairwise_map.1 this
    unfold List.Nodup
    rw [List.pairwise_map]
    refine List.Pairwise.imp_of_mem ?_ (hp.filter _)
    intro a b ha hb hne heq
    rw [List.mem_filter] at ha hb
    have hna : a.2.nick ≠ "" := by simpa using ha.2
    have hnb : b.2.nick ≠ "" := by simpa using hb.2
    have h1 := hI.owns a.1 a.2 (hI.get_of_mem ha.1) (hI.noDeleted _ _ (hI.get_of_mem ha.1)) hna
    have h2 := hI.owns b.1 b.2 (hI.get_of_mem hb.1) (hI.noDeleted _ _ (hI.get_of_mem hb.1)) hnb
    rw [heq, h2] at h1
    exact hne (Option.some.inj h1).symm

theorem nodup_rebuiltNicks (ss : AMap Id Session) : (AMap.keys (rebuiltNicks ss)).Nodup := by
  unfold rebuiltNicks
  refine List.foldlRecOn (motive := fun m => (AMap.keys m).Nodup) ss _ List.nodup_nil fun m h e _ => ?_
  split
  · exact AMap.nodup_keys_set _ _ h
  · exact h

theorem get_rebuiltNicks {st : St} (hI : Inv st) (hC : Canon st) (lc : String) :
    AMap.get (rebuiltNicks st.sessions) lc = AMap.get st.nicks lc := by
  apply Option.ext
  intro id
  rw [AMap.get_iff_mem (nodup_rebuiltNicks _), rebuiltNicks_eq hI, List.mem_map]
  constructor
  · rintro ⟨e, he, heq⟩
    rw [List.mem_filter] at he
    have hne : e.2.nick ≠ "" := by simpa using he.2
    have hg := hI.get_of_mem he.1
    have h1 := hI.owns e.1 e.2 hg (hI.noDeleted _ _ hg) hne
    have h2 := (hI.sessId _ _ hg).1
    obtain ⟨ha, hb⟩ := Prod.mk.inj heq
    rw [← ha, ← hb, h2]; exact h1
  · intro hg
    obtain ⟨s, hs, _, hn⟩ := hI.index lc id hg
    have hne : s.nick ≠ "" := by
      intro h0
      rw [h0, nickToLower_empty] at hn
      rw [← hn, hC.noEmptyNick] at hg
      cases hg
    refine ⟨(id, s), ?_, ?_⟩
    · rw [List.mem_filter]
      exact ⟨AMap.mem_of_get hs, by simpa using hne⟩
    · show (nickToLower s.nick, s.id) = (lc, id)
      rw [hn, (hI.sessId _ _ hs).1]

theorem mem_rebuiltServers {st : St} (hI : Inv st) (n : Nat) :
    n ∈ rebuiltServers st.sessions ↔ ∃ id s, AMap.get st.sessions id = some s ∧ s.server = true ∧ id.id = n := by
  unfold rebuiltServers
  rw [List.mem_map]
  constructor
  · rintro ⟨e, he, heq⟩
    rw [List.mem_filter] at he
    have hg := hI.get_of_mem he.1
    refine ⟨e.1, e.2, hg, he.2, ?_⟩
    rw [← (hI.sessId _ _ hg).1]; exact heq
  · rintro ⟨id, s, hs, hsrv, hid⟩
    refine ⟨(id, s), ?_, ?_⟩
    · rw [List.mem_filter]; exact ⟨AMap.mem_of_get hs, hsrv⟩
    · show s.id.id = n
      rw [(hI.sessId _ _ hs).1]; exact hid

/-- normal form of the round trip: only the order of the nick index and `serverSessions`
(both rebuilt from the sessions) can differ -/
theorem saveLoad_eq {st : St} (hI : Inv st) (hC : Canon st) :
    saveLoad st = { st with nicks := rebuiltNicks st.sessions, serverSessions := rebuiltServers st.sessions } := by
  have h1 := saveLoad_sessions hI hC
  have h2 := saveLoad_channels hI
  have h3 := saveLoad_svsholds hC
  have h4 := saveLoad_nicks st
  have h5 := saveLoad_serverSessions st
  have h6 : (saveLoad st).lastProcessed = st.lastProcessed := rfl
  have h7 : (saveLoad st).serverName = st.serverName := rfl
  have h8 : (saveLoad st).config = st.config := rfl
  generalize saveLoad st = st' at *
  cases st'; cases st
  simp only at h1 h2 h3 h4 h5 h6 h7 h8
  subst h1 h2 h3 h4 h5 h6 h7 h8
  rfl

theorem Inv.of_get_nicks_eq {st st' : St} (h : Inv st) (hs : st'.sessions = st.sessions)
    (hc : st'.channels = st.channels) (hn : ∀ lc, AMap.get st'.nicks lc = AMap.get st.nicks lc)
    (hnd : (AMap.keys st'.nicks).Nodup) : Inv st' :=
  h.view ⟨hs ▸ h.sessNodup, hnd, hc ▸ h.chanNodup,
    fun _ => hs ▸ ORel.refl (fun _ => ⟨rfl, rfl, rfl, .refl _⟩) _, hn,
    fun _ => hc ▸ ORel.refl (fun _ => ⟨rfl, .refl _⟩) _⟩

end Robust.Irc
