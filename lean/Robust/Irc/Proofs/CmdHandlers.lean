import Robust.Irc.Proofs.CmdInv
import Robust.Irc.Proofs.HandlerSteps
/-!
C15, "has a command": what the `KStep` family needs of single handlers beside the walks (`KeepsClient*.lean`,
`KeepsSrv.lean`, read at `HLogic.kstep c0` through `HArgs.special`, `CmdEntry.lean`).

* PRIVMSG / NOTICE relay the command of the received line under the prefix of the acting session.  `cmdPrivmsg_nstep`
  is that walk over `NStep`, which knows the server name but nothing of the stored sessions (and so is no `HLogic`).
  A service alias expands to a `PRIVMSG` (`serviceAlias_command`).
* `KInv.createSession`: the pseudo-client that the services' NICK creates, and a new session.
* `cmdServer` makes the first parameter the prefix of the link; its lines have a command whatever name is announced
  (`cmdServer_nstep`, with the burst).
-/
namespace Robust.Irc
open Robust AMap

variable {c0 c : Ctx} {sid : Id} {m : IrcMsg}

/-- PRIVMSG / NOTICE touch no session: all that matters is that the line relayed under the prefix of the acting
session has a command -/
theorem cmdPrivmsg_nstep (hc : NStep c0 c)
    (hrel : ∀ s, getS c sid = .ok s → ∀ ps, HasCommand (IrcMsg.mk (some s.ircPrefix) m.command ps).render) :
    (cmdPrivmsg c sid m).Sat (NStep c0) := by
  unfold cmdPrivmsg
  refine .bind fun s hs => ?_
  have rel : ∀ {r ps}, NStep c0 (emit c ⟨some s.ircPrefix, m.command, ps⟩ r) := hc.emit (hrel s hs _)
  refine .ite' (.pure (hc.srv "411")) (.ite' (.pure (hc.srv "412")) (.bind fun p0 _ =>
    .ite' ?_ (.ite' (.ite' (.pure rel) (.pure (hc.srv "481"))) ?_)))
  · split
    · exact .pure (hc.srv "403")
    · exact .ite' (.pure (hc.srv "404")) (.bind fun _ _ => .pure rel)
  · split
    · exact .pure (hc.srv "401")
    · exact .bind fun t _ => .ite' (.pure hc) (.ite' (.pure (rel.srv "301")) (.pure rel))

theorem parseRest_privmsg (tl : List Char) :
    (parseRest none ('P' :: 'R' :: 'I' :: 'V' :: 'M' :: 'S' :: 'G' :: ' ' :: tl)).command = "PRIVMSG" := by
  have hidx : indexOfChar ('P' :: 'R' :: 'I' :: 'V' :: 'M' :: 'S' :: 'G' :: ' ' :: tl) ' ' = some 7 := by
    unfold indexOfChar
    simp only [List.findIdx?_cons]
    rfl
  have hup : toUpper (String.ofList (List.take 7 ('P' :: 'R' :: 'I' :: 'V' :: 'M' :: 'S' :: 'G' :: ' ' :: tl)))
      = "PRIVMSG" := by
    simp only [List.take_succ_cons, List.take_zero]
    decide
  unfold parseRest
  split
  · rename_i h; rw [hidx] at h; cases h
  · rename_i h; rw [hidx] at h; cases h
  · rename_i j h1 h2
    rw [hidx] at h2
    cases h2
    dsimp only
    split <;> exact hup

theorem serviceAlias_command {a : String × String} (ha : a ∈ serviceAliases) {rest : String} {pm : IrcMsg}
    (hp : parseMessage (a.2 ++ rest) = some pm) : pm.command = "PRIVMSG" := by
  obtain ⟨Y, hY⟩ := trim_keeps_prefix a.2.toList rest.toList (serviceAliases_privmsg a ha).2
  have htl := serviceAlias_toList ha
  unfold parseMessage at hp
  rw [String.toList_append] at hp
  simp only at hp
  rw [hY, htl] at hp
  split at hp
  · cases hp
  · simp only [List.cons_append] at hp
    cases hp
    exact parseRest_privmsg _

theorem KInv.createSession {st st' : St} {id : Id} {auth : String} {ts : Int} (h : KInv st)
    (hid : id.id < 2 ^ 64) (hr : createSession st id auth ts = some st') : KInv st' := by
  rw [createSession_eq hr]
  exact h.setSession (KSess.fresh hid auth ts)

theorem serverBurstChan_nstep {t : Session} {lc : String} (hc : NStep c0 c) :
    (serverBurstChan t c lc).Sat (NStep c0) := by
  unfold serverBurstChan
  split
  · exact .panic _
  split
  · exact .panic _
  · exact .ok (hc.srv "SJOIN")

theorem serverBurstNick_nstep {nick : String} (hc : NStep c0 c) : (serverBurstNick c nick).Sat (NStep c0) := by
  unfold serverBurstNick
  split
  · exact .panic _
  · exact .bind fun t _ => .ite' (.ok hc) (.foldlM _ (hc.plain "NICK") fun _ _ _ h => serverBurstChan_nstep h)

/-- **SERVER**: `ERROR :Invalid password`, or the burst `SERVER` / `NICK` / `SJOIN` for the new link — all
without prefix or server-prefixed, so they have a command whatever the line announced -/
theorem cmdServer_nstep (hc : NStep c0 c) : (cmdServer c sid m).Sat (NStep c0) := by
  rw [cmdServer_eq]
  refine .bind fun s _ => .ite' (.pure (hc.plain "ERROR")) (.bind fun p0 _ => .andThen hc.modS fun c1 h1 => ?_)
  refine .foldlM _ (NStep.plain ?_ "SERVER") fun _ _ _ h => serverBurstNick_nstep h
  exact h1.same rfl rfl

end Robust.Irc
