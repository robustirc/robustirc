import Robust.Irc.Proofs.UlenPrefix
import Robust.Irc.Proofs.RcptOut
import Robust.Irc.Proofs.CleanInv
/-!
C15, clause "every delivered line starts with a prefix and a command", all lines.

Every line a handler emits is built with one of five kinds of prefix:

* the server prefix (`srv`): numeric replies, server notices, `SJOIN` / `MODE` for services;
* no prefix: `ERROR`, and the `SERVER` / `NICK` lines for services;
* the stored prefix of a session (`s.ircPrefix`): everything that is relayed;
* the bare nickname of a stored session (`⟨s.nick, "", ""⟩`): the `TOPIC` line for services;
* a prefix taken from the line services sent (`servicesPrefix m`, `m.pfx`).

`KSess s` collects what is needed of a stored session value so that its prefix is short and contains no space,
*and stays so* when a handler recomputes it (`updateIrcPrefix`): prefix, nickname, user name and numeric id are
bounded.  `KInv st` says that every stored session satisfies it and that the server name is short and
spaceless.  `KStep c0 c` : `KInv c.st` and every line appended between `c0` and `c` has a command.

Unlike `GInv` / `PInv` this invariant is self-contained (it holds between the primitives of a handler):
`KStep c0` is kept step by step, so it is an instance of `HLogic` (`HLogic.kstep`, `HLogic.lean`), and the one walk
of each handler (`KeepsClient*.lean`, `KeepsSrv.lean`), read at that instance, gives both the preservation of `KInv`
and the command of every emitted line.  What is proved of `KStep` here is what the instance needs (`emit`, `modS`,
`putChan`, `leaveChannel`, `deleteSession`, `same`); that a line of each kind of prefix has a command is `hc_srv`,
`hc_plain`, `KSess.hc`, `KSess.hc_nick`, `hc_svc`, `hc_msgPfx`.
-/
namespace Robust.Irc
open Robust AMap

/-- bound on the stored prefix: `nick!user@robust/0x…` (178 bytes) for everything a client or `updateIrcPrefix`
produces; the name a services link announces in its `SERVER` line may have up to 300 bytes -/
def pfxCap (s : Session) : Nat := if s.server then 300 else 178

theorem pfxCap_le (s : Session) : pfxCap s ≤ 300 := by unfold pfxCap; split <;> omega

structure KSess (s : Session) : Prop where
  pfxSp : Spaceless s.ircPrefix.str
  pfxLen : s.ircPrefix.str.utf8ByteSize ≤ pfxCap s
  nickSp : Spaceless s.nick
  nickLen : s.nick.utf8ByteSize ≤ 31
  userSp : Spaceless s.username
  userLen : s.username.toList.length ≤ 30
  id64 : s.id.id < 2 ^ 64

structure KInv (st : St) : Prop where
  sessions : ∀ e ∈ st.sessions, KSess e.2
  name : SrvNameOK st

theorem KInv_init : KInv ({} : St) := ⟨fun _ h => (nomatch h), ⟨by decide, by decide⟩⟩

theorem KInv.get {st : St} (h : KInv st) {sid : Id} {s : Session} (hs : AMap.get st.sessions sid = some s) :
    KSess s := h.sessions _ (AMap.mem_of_get hs)

theorem ksess_of_get {st : St} {sid : Id} {s : Session} (hs : AMap.get st.sessions sid = some s) (h : KInv st) :
    KSess s := h.get hs

theorem KInv.of_sessions {st st' : St} (h : KInv st) (hs : ∀ e ∈ st'.sessions, KSess e.2)
    (hn : st'.serverName = st.serverName) : KInv st' :=
  ⟨hs, ⟨by rw [hn]; exact h.name.spaceless, by rw [hn]; exact h.name.short⟩⟩

theorem KInv.same {st st' : St} (h : KInv st) (h1 : st'.sessions = st.sessions)
    (h2 : st'.serverName = st.serverName) : KInv st' :=
  h.of_sessions (by rw [h1]; exact h.sessions) h2

theorem KInv.setSession {st : St} (h : KInv st) {k : Id} {v : Session} (hv : KSess v) :
    KInv { st with sessions := AMap.set st.sessions k v } :=
  h.of_sessions (all_set h.sessions hv) rfl

/-- the fields `KSess` reads -/
abbrev Session.kview (s : Session) : Prefix × String × String × Id × Bool :=
  (s.ircPrefix, s.nick, s.username, s.id, s.server)

theorem KSess.congr {s s' : Session} (h : KSess s) (e : s'.kview = s.kview) : KSess s' := by
  simp only [Session.kview, Prod.mk.injEq] at e
  obtain ⟨e1, e2, e3, e4, e5⟩ := e
  have ec : pfxCap s' = pfxCap s := by unfold pfxCap; rw [e5]
  exact ⟨by rw [e1]; exact h.pfxSp, by rw [e1, ec]; exact h.pfxLen, by rw [e2]; exact h.nickSp,
    by rw [e2]; exact h.nickLen, by rw [e3]; exact h.userSp, by rw [e3]; exact h.userLen, by rw [e4]; exact h.id64⟩

theorem KSess.update {s : Session} (h : KSess s) : KSess (updateIrcPrefix s) := by
  obtain ⟨hl, hsp⟩ := sessPrefix_bounds h.nickLen h.nickSp h.userLen h.userSp h.id64
  refine ⟨hsp, ?_, h.nickSp, h.nickLen, h.userSp, h.userLen, h.id64⟩
  have h1 : (updateIrcPrefix s).ircPrefix.str.utf8ByteSize ≤ 178 := hl
  have e : pfxCap (updateIrcPrefix s) = pfxCap s := rfl
  rw [e]
  unfold pfxCap
  split <;> omega

theorem KSess.setNick {s : Session} (h : KSess s) {nick : String} (hv : isValidNickname nick = true) :
    KSess { s with nick := nick } := by
  obtain ⟨a, b, c⟩ := validNick_bounds hv
  exact ⟨h.pfxSp, h.pfxLen, c, by show nick.utf8ByteSize ≤ 31; rw [utf8ByteSize_ascii b]; exact a,
    h.userSp, h.userLen, h.id64⟩

/-- a new user name: the first word of a parameter, cut to 30 characters -/
theorem KSess.setUser {s : Session} (h : KSess s) (u r : String) :
    KSess { s with username := truncateUsername u, realname := r } :=
  ⟨h.pfxSp, h.pfxLen, h.nickSp, h.nickLen, truncateUsername_spaceless u, truncateUsername_length u, h.id64⟩

theorem KSess.fresh {id : Id} (hid : id.id < 2 ^ 64) (auth : String) (ts : Int) :
    KSess { id := id, auth := auth, created := ts, lastActivity := ts, lastNonPing := ts, svid := "0" } :=
  ⟨(by decide : Spaceless (Prefix.str ⟨"", "", ""⟩)),
    (by decide : (Prefix.str ⟨"", "", ""⟩).utf8ByteSize ≤ 178),
    (by decide : Spaceless ""), (by decide : ("" : String).utf8ByteSize ≤ 31),
    (by decide : Spaceless ""), (by decide : ("" : String).toList.length ≤ 30), hid⟩

theorem Prefix.str_bare (n : String) : Prefix.str ⟨n, "", ""⟩ = n := by
  have e : ("" : String).isEmpty = true := by decide
  unfold Prefix.str
  simp only [e, ↓reduceIte, String.append_empty]

theorem bare_prefix_bounds {n : String} {a : Nat} (hs : Spaceless n) (hl : n.utf8ByteSize ≤ a) :
    Spaceless (Prefix.str ⟨n, "", ""⟩) ∧ (Prefix.str ⟨n, "", ""⟩).utf8ByteSize ≤ a := by
  rw [Prefix.str_bare]
  exact ⟨hs, hl⟩

/-- `SERVER name …`: the session becomes a link under the announced name -/
theorem KSess.setServer {s : Session} (h : KSess s) {p0 : String} (hs : Spaceless p0) (hl : p0.utf8ByteSize ≤ 300) :
    KSess { s with server := true, ircPrefix := ⟨p0, "", ""⟩ } := by
  obtain ⟨a, b⟩ := bare_prefix_bounds hs hl
  exact ⟨a, b, h.nickSp, h.nickLen, h.userSp, h.userLen, h.id64⟩

/-- a command that fits under any stored prefix: good, and at most `510 - 2 - 300 = 208` bytes (all literal
commands of the handlers: `by decide`) -/
structure LitCmd (cmd : String) : Prop where
  good : GoodCmd cmd
  short : cmd.utf8ByteSize ≤ 208

instance (cmd : String) : Decidable (LitCmd cmd) :=
  decidable_of_iff (GoodCmd cmd ∧ cmd.utf8ByteSize ≤ 208) ⟨fun ⟨a, b⟩ => ⟨a, b⟩, fun ⟨a, b⟩ => ⟨a, b⟩⟩

theorem hc_of_pfx {p : Prefix} {cmd : String} (hsp : Spaceless p.str) (hg : GoodCmd cmd)
    (hlen : p.str.utf8ByteSize + cmd.utf8ByteSize + 2 ≤ 510) (params : List String) :
    HasCommand (IrcMsg.mk (some p) cmd params).render :=
  hasCommand_of_token
    (render_cmdToken _ hg.ne hg.spaceless (fun q hq => by cases hq; exact ⟨hsp, hlen⟩) fun h => by cases h) hg.ne

theorem hc_srv {c : Ctx} (hn : SrvNameOK c.st) {cmd : String} (hg : GoodCmd cmd) (params : List String) :
    HasCommand (srv c cmd params).render :=
  hasCommand_of_token (srv_cmdToken hn hg params) hg.ne

theorem hc_plain {cmd : String} (hg : GoodCmd cmd) (hcol : cmd.toList.head? ≠ some ':') (params : List String) :
    HasCommand (IrcMsg.mk none cmd params).render :=
  hasCommand_of_token (plain_cmdToken hg hcol params) hg.ne

theorem KSess.hc {s : Session} (h : KSess s) {cmd : String} (hl : LitCmd cmd) (params : List String) :
    HasCommand (IrcMsg.mk (some s.ircPrefix) cmd params).render := by
  have := h.pfxLen
  have := pfxCap_le s
  have := hl.short
  exact hc_of_pfx h.pfxSp hl.good (by omega) params

theorem KSess.hc_client {s : Session} (h : KSess s) (hns : s.server = false) {cmd : String} (hg : GoodCmd cmd)
    (params : List String) : HasCommand (IrcMsg.mk (some s.ircPrefix) cmd params).render := by
  have h1 := h.pfxLen
  unfold pfxCap at h1
  rw [hns] at h1
  simp only [Bool.false_eq_true, ↓reduceIte] at h1
  have := hg.short
  exact hc_of_pfx h.pfxSp hg (by omega) params

theorem KSess.hc_nick {s : Session} (h : KSess s) {cmd : String} (hl : LitCmd cmd) (params : List String) :
    HasCommand (IrcMsg.mk (some ⟨s.nick, "", ""⟩) cmd params).render := by
  obtain ⟨a, b⟩ := bare_prefix_bounds h.nickSp h.nickLen
  have := hl.short
  exact hc_of_pfx a hl.good (by omega) params

/-- what is assumed of the prefix of a line sent by services: no space, at most 160 bytes -/
def PfxArgOK (m : IrcMsg) : Prop := ∀ p, m.pfx = some p → Spaceless p.str ∧ p.str.utf8ByteSize ≤ 160

theorem prefix_name_le (p : Prefix) : p.name.utf8ByteSize ≤ p.str.utf8ByteSize := by
  unfold Prefix.str
  rw [utf8ByteSize_append, utf8ByteSize_append]
  omega

theorem prefix_name_spaceless {p : Prefix} (h : Spaceless p.str) : Spaceless p.name := by
  intro c hc
  apply h c
  unfold Prefix.str
  rw [String.toList_append, String.toList_append]
  exact List.mem_append_left _ (List.mem_append_left _ hc)

/-- `name!services@services` -/
theorem servicesPrefix_bounds {m : IrcMsg} {sp : Prefix} (hs : servicesPrefix m = .ok sp) (hp : PfxArgOK m) :
    Spaceless sp.str ∧ sp.str.utf8ByteSize ≤ 178 := by
  unfold servicesPrefix pfxName at hs
  cases hpx : m.pfx with
  | none => rw [hpx] at hs; cases hs
  | some p =>
    rw [hpx] at hs
    cases hs
    obtain ⟨h1, h2⟩ := hp p hpx
    have hn := prefix_name_le p
    have e : ("services" : String).utf8ByteSize ≤ 8 := by decide
    have hb := prefix_str_bounds (⟨p.name, "services", "services"⟩ : Prefix) (a := 160) (b := 8) (d := 8)
      (by show p.name.utf8ByteSize ≤ 160; omega) e e
      (show Spaceless p.name from prefix_name_spaceless h1)
      (show Spaceless "services" by decide) (show Spaceless "services" by decide)
    exact ⟨hb.2, hb.1⟩

theorem hc_svc {m : IrcMsg} {sp : Prefix} (hs : servicesPrefix m = .ok sp) (hp : PfxArgOK m) {cmd : String}
    (hg : GoodCmd cmd) (params : List String) : HasCommand (IrcMsg.mk (some sp) cmd params).render := by
  obtain ⟨a, b⟩ := servicesPrefix_bounds hs hp
  have := hg.short
  exact hc_of_pfx a hg (by omega) params

theorem hc_msgPfx {m : IrcMsg} {p : Prefix} (hpx : m.pfx = some p) (hp : PfxArgOK m) {cmd : String}
    (hl : LitCmd cmd) (params : List String) : HasCommand (IrcMsg.mk (some p) cmd params).render := by
  obtain ⟨a, b⟩ := hp p hpx
  have := hl.short
  exact hc_of_pfx a hl.good (by omega) params

def HC (o : Out) : Prop := HasCommand o.data

structure KStep (c0 c : Ctx) : Prop where
  inv : KInv c.st
  out : NewOut HC c0 c

namespace KStep
variable {c0 c c' : Ctx}

theorem start {c : Ctx} (h : KInv c.st) : KStep c c := ⟨h, NewOut.refl _ _⟩

/-- a new line, to whomever (`sendUser` and `sendSvc` unfold to `emit`) -/
theorem emit {m : IrcMsg} {r : List Nat} (h : KStep c0 c) (hm : HasCommand m.render) :
    KStep c0 (Robust.Irc.emit c m r) :=
  ⟨h.inv, h.out.emit fun _ _ => hm⟩

theorem same (h : KStep c0 c) (h1 : c'.st.sessions = c.st.sessions) (h2 : c'.st.serverName = c.st.serverName)
    (ho : c'.out = c.out) : KStep c0 c' :=
  ⟨h.inv.same h1 h2, h.out.step ho⟩

theorem setSt (h : KStep c0 c) {st : St} (hs : KInv st) : KStep c0 { c with st := st } :=
  ⟨hs, h.out.step rfl⟩

theorem putChan {lc : String} {ch : Channel} (h : KStep c0 c) : KStep c0 (Robust.Irc.putChan c lc ch) :=
  h.same rfl rfl rfl

theorem putS {s : Session} (h : KStep c0 c) (hs : KSess s) : KStep c0 (Robust.Irc.putS c s) :=
  ⟨h.inv.setSession hs, h.out.step rfl⟩

theorem modS {tid : Id} {f : Session → Session} (h : KStep c0 c) (hf : ∀ s, KSess s → KSess (f s)) :
    (Robust.Irc.modS c tid f).Sat (KStep c0) :=
  (modS_sat c tid f).mono fun _ ⟨s, hs, e⟩ => e ▸ h.putS (hf s (h.inv.get hs))

/-- `modS` with a function that leaves the fields `KSess` reads alone (by computation, once the function is known) -/
theorem modS_keep {tid : Id} {f : Session → Session} (h : KStep c0 c)
    (hf : ∀ s, (f s).kview = s.kview := by intro _; rfl) :
    (Robust.Irc.modS c tid f).Sat (KStep c0) :=
  h.modS fun s hs => hs.congr (hf s)

theorem maybeDeleteChannel (h : KStep c0 c) (lc : String) : KStep c0 (Robust.Irc.maybeDeleteChannel c lc) := by
  unfold Robust.Irc.maybeDeleteChannel
  split
  · exact h
  · exact ite_ind' h (h.setSt (h.inv.of_sessions (all_mapVal h.inv.sessions _ fun _ _ he => he.congr rfl) rfl))

theorem leaveChannel {lc lcn : String} {tid : Id} (h : KStep c0 c) :
    (Robust.Irc.leaveChannel c lc lcn tid).Sat (KStep c0) := by
  unfold Robust.Irc.leaveChannel
  split
  · exact (h.putChan.maybeDeleteChannel lc).modS_keep
  · exact .panic _

theorem deleteSession {sid : Id} (h : KStep c0 c) : (Robust.Irc.deleteSession c sid).Sat (KStep c0) := by
  unfold Robust.Irc.deleteSession
  refine .bind fun s _ => KStep.modS_keep
    (same (foldl_invariant (I := KStep c0) _ h fun c1 e _ h1 => ?_) rfl rfl rfl)
  split
  · exact h1
  · exact h1.putChan.maybeDeleteChannel _

end KStep

/-- the server name is fine and every line appended since `c0` has a command (nothing about the sessions): what
`SERVER` keeps whatever name the line announces -/
structure NStep (c0 c : Ctx) : Prop where
  name : SrvNameOK c.st
  out : NewOut HC c0 c

namespace NStep
variable {c0 c c' : Ctx}

theorem emit {m : IrcMsg} {r : List Nat} (h : NStep c0 c) (hm : HasCommand m.render) :
    NStep c0 (Robust.Irc.emit c m r) :=
  ⟨h.name, h.out.emit fun _ _ => hm⟩

theorem srv (h : NStep c0 c) (cmd : String) (hg : GoodCmd cmd := by decide +kernel) {params : List String} {r : List Nat} :
    NStep c0 (Robust.Irc.emit c (Robust.Irc.srv c cmd params) r) :=
  h.emit (hc_srv h.name hg params)

theorem plain (h : NStep c0 c) (cmd : String) (hg : GoodCmd cmd := by decide +kernel)
    (hcol : cmd.toList.head? ≠ some ':' := by decide +kernel) {params : List String} {r : List Nat} :
    NStep c0 (Robust.Irc.emit c ⟨none, cmd, params⟩ r) :=
  h.emit (hc_plain hg hcol params)

theorem same (h : NStep c0 c) (h1 : c'.st.serverName = c.st.serverName) (ho : c'.out = c.out) : NStep c0 c' :=
  ⟨⟨h1 ▸ h.name.spaceless, h1 ▸ h.name.short⟩, h.out.step ho⟩

theorem modS {tid : Id} {f : Session → Session} (h : NStep c0 c) : (Robust.Irc.modS c tid f).Sat (NStep c0) :=
  (modS_sat c tid f).mono fun _ ⟨_, _, e⟩ => e ▸ h.same rfl rfl

end NStep

/-! ## tactics -/

/-- `KSess s` from the context -/
syntax "ksess" : tactic
macro_rules | `(tactic| ksess) => `(tactic| first
  | with_reducible assumption
  | with_reducible exact ksess_of_getS (by assumption) (by assumption)
  | with_reducible exact ksess_of_get (by assumption) (by assumption))

/-- `HasCommand msg.render` for the message forms the handlers build; `hI : KInv X.st` for the context `X` in
which a server-prefixed message is built is expected under the name given -/
syntax "hc_msg" : tactic
macro_rules | `(tactic| hc_msg) => `(tactic| first
  | with_reducible assumption
  | ((with_reducible refine hc_srv (KInv.name ?_) ?_ _) <;> first | with_reducible assumption | decide)
  | ((with_reducible refine hc_plain ?_ ?_ _) <;> decide)
  | ((with_reducible refine KSess.hc_client ?_ ?_ ?_ _) <;> first | with_reducible assumption | ksess)
  | ((with_reducible refine KSess.hc ?_ ?_ _) <;> first | ksess | decide)
  | ((with_reducible refine KSess.hc_nick ?_ ?_ _) <;> first | ksess | decide)
  | with_reducible exact hc_svc (by assumption) (by assumption) (by first | assumption | decide) _)

/-- `KStep c0 (sendUser (emit (putChan … c …) …) …)` from `KStep c0 c` in the context; what cannot be closed is
left as goals -/
syntax "kstep_tac" : tactic
macro_rules | `(tactic| kstep_tac) => `(tactic| repeat' (first
  | with_reducible assumption
  | apply KStep.sendUser'
  | apply KStep.sendSvc'
  | apply KStep.emit'
  | apply KStep.putChan
  | apply KStep.ite
  | (intro hI; hc_msg)))

/-- forward step of the walk: `h : prim … = .ok c1` for a state-changing primitive gives `KStep c0 c1` and
`KInv c1.st` (as anonymous hypotheses, found by `assumption`) -/
syntax "kfwd" ident : tactic
macro_rules | `(tactic| kfwd $h:ident) => `(tactic| first
  | ((with_reducible have _hg : Robust.Irc.deleteSession _ _ = Res.ok _ := $h);
     have hc1 := KStep.deleteSession (by kstep_tac) $h
     have hI1 := KStep.inv hc1)
  | ((with_reducible have _hg : Robust.Irc.leaveChannel _ _ _ _ = Res.ok _ := $h);
     have hc1 := KStep.leaveChannel (by kstep_tac) $h
     have hI1 := KStep.inv hc1)
  | ((with_reducible have _hg : Robust.Irc.modS _ _ _ = Res.ok _ := $h);
     have hc1 := KStep.modS_keep (by kstep_tac) $h (fun _ => ⟨rfl, rfl, rfl, rfl, rfl⟩)
     have hI1 := KStep.inv hc1))

/-- brute-force walk through a handler: `kwalk hr` with `hr : … = .ok c'`, `KStep c0 c` and `KInv c.st` in the
context; what it cannot close is left as goals -/
macro "kwalk" hr:ident : tactic =>
  `(tactic| repeat' (first
      | split at $hr:ident
      | (obtain ⟨_, h1, $hr:ident⟩ := Res.bind_eq_ok.1 $hr:ident; try kfwd h1)
      | dsimp only at $hr:ident
      | (cases $hr:ident; kstep_tac)
      | (refine KStep.leaveChannel ?_ $hr:ident; kstep_tac)
      | (refine KStep.deleteSession ?_ $hr:ident; kstep_tac)
      | (refine KStep.modS_keep ?_ $hr:ident (fun _ => ⟨rfl, rfl, rfl, rfl, rfl⟩); kstep_tac)))

end Robust.Irc
