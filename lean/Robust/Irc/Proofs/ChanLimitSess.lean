import Robust.Irc.Proofs.FrmEntry
import Robust.Irc.Proofs.ChanLimit
/-!
The session limit (`Config.MaxSessions`).

`SessLe st0 st`: relative to a base state `st0` the configured session limit is unchanged and the number
of stored sessions did not grow (plus `SessWf st`, which makes `modS`/`putS` length-preserving).  Every
handler of the command table except the services `NICK` keeps `SessLe` (`handler_sessLe`: it is stable,
`SessLe.stable`, and reads of a session only the id, so the updates NICK, USER, OPER, SERVER, GLINE and JOIN are
made for keep it too, `Special.of_keeps`); the services `NICK` and CreateSession entries go through
`createSession`, which refuses at the limit
(`createSession_limit`, `SessLim`).
-/
namespace Robust.Irc
open Srv
open Robust AMap

structure SessLe (st0 st : St) : Prop where
  wf : SessWf st
  maxSessions : st.config.maxSessions = st0.config.maxSessions
  le : st.sessions.length ≤ st0.sessions.length

/-- with a limit the number of sessions is at most the larger of the base number and the limit -/
structure SessLim (st0 st : St) : Prop where
  wf : SessWf st
  maxSessions : st.config.maxSessions = st0.config.maxSessions
  le : 0 < st0.config.maxSessions → st.sessions.length ≤ max st0.sessions.length st0.config.maxSessions

theorem SessLe.refl {st : St} (h : SessWf st) : SessLe st st := ⟨h, rfl, Nat.le_refl _⟩

theorem SessLe.trans {a b c : St} (h1 : SessLe a b) (h2 : SessLe b c) : SessLe a c :=
  ⟨h2.wf, h2.maxSessions.trans h1.maxSessions, Nat.le_trans h2.le h1.le⟩

theorem SessLe.lim {st0 st : St} (h : SessLe st0 st) : SessLim st0 st :=
  ⟨h.wf, h.maxSessions, fun _ => Nat.le_trans h.le (Nat.le_max_left _ _)⟩

theorem SessLe.then_lim {a b c : St} (h1 : SessLe a b) (h2 : SessLim b c) : SessLim a c := by
  refine ⟨h2.wf, h2.maxSessions.trans h1.maxSessions, fun h => ?_⟩
  have h3 := h2.le (by rw [h1.maxSessions]; exact h)
  rw [h1.maxSessions] at h3
  have := h1.le
  omega

theorem SessLim.then_le {a b c : St} (h1 : SessLim a b) (h2 : SessLe b c) : SessLim a c :=
  ⟨h2.wf, h2.maxSessions.trans h1.maxSessions, fun h => Nat.le_trans h2.le (h1.le h)⟩

theorem SessLe.same {st0 st st' : St} (h : SessLe st0 st) (hs : st'.sessions = st.sessions)
    (hc : st'.config.maxSessions = st.config.maxSessions) : SessLe st0 st' :=
  ⟨h.wf.congr hs, hc.trans h.maxSessions, by rw [hs]; exact h.le⟩

theorem SessLe.congr {st0 st st' : St} (h : SessLe st0 st) (hs : st'.sessions = st.sessions)
    (hc : st'.config = st.config) (_hl : st'.lastProcessed = st.lastProcessed) : SessLe st0 st' :=
  h.same hs (by rw [hc])

/-- brute-force walk through a handler whose leaves are output / `putChan` on top of a context `c`
with `h : SessLe st0 c.st`: `sle_auto hr h` -/
macro "sle_auto" hr:ident h:ident : tactic =>
  `(tactic| repeat' (first
      | split at $hr:ident
      | (obtain ⟨_, _, $hr:ident⟩ := Res.bind_eq_ok.1 $hr:ident)
      | dsimp only at $hr:ident
      | (cases $hr:ident <;> first | exact $h:ident | exact SessLe.congr $h:ident rfl rfl rfl)))

theorem SessLe.setSession {st0 st st' : St} (h : SessLe st0 st) {k : Id} {s v : Session}
    (hs : AMap.get st.sessions k = some s) (hid : v.id = k) (hss : st'.sessions = AMap.set st.sessions k v)
    (hc : st'.config = st.config) : SessLe st0 st' :=
  ⟨h.wf.set hid hss, by rw [hc]; exact h.maxSessions, by rw [hss, AMap.length_set_of_get v hs]; exact h.le⟩

/-- the handlers' ordinary updates store sessions under present keys only -/
theorem SessLe.stable (st0 : St) : Stable (SessLe st0) where
  congr h hs _ hc _ := h.same hs (by rw [hc])
  setSession h hs hv := by
    have hk := (Session.kept_id hv).trans (h.wf.ids _ _ hs)
    exact h.setSession hs hk (by rw [hk]) rfl
  mapSessions f h hf :=
    ⟨h.wf.map (fun s => Session.kept_id (hf s)) rfl, h.maxSessions, Nat.le_trans (Nat.le_of_eq (List.length_map _)) h.le⟩
  setChannel _ h _ _ := h.same rfl rfl
  eraseChannel _ h := h.same rfl rfl

theorem SessLe.chanAny (st0 : St) : ChanAny (SessLe st0) := ⟨fun _ h _ => h.same rfl rfl, fun _ h => h.same rfl rfl⟩

/-- of a session only the id is read -/
theorem SessLe.upd {st0 : St} (tid : Id) {f : Session → Session} (hf : MkKeep f) : Upd (SessLe st0) tid f := by
  intro c h c' hr
  obtain ⟨s, hs, rfl⟩ := modS_eq_ok.1 hr
  have hid : (f s).id = tid := (hf s).1.trans (h.wf.ids tid s hs)
  exact h.setSession hs hid (by rw [putS_sessions, hid]) rfl

theorem handler_sessLe {fname : String} {h : Handler} (hh : handlerByName fname = some h)
    (hn : fname ≠ "cmdServerNick") {st0 : St} {c c' : Ctx} {sid : Id} {m : IrcMsg} (hu : SessLe st0 c.st)
    (hr : h c sid m = .ok c') : SessLe st0 c'.st :=
  (handler_stable (SessLe.stable st0) hh
    (.of_keeps (SessLe.stable st0) (SessLe.chanAny st0) (fun tid _ hf => SessLe.upd tid hf) (fun _ => fun _ h => h.same rfl rfl)
      (fun _ => fun _ _ h _ _ => h.same rfl rfl) (fun e => absurd e hn)) hu).apply hr

/-- `createSessionLocked`: at most one session is added, and only below the limit -/
theorem createSession_limit {st st1 : St} {id : Id} {auth : String} {ts : Int}
    (h : createSession st id auth ts = some st1) :
    st1.config = st.config ∧ st1.channels = st.channels ∧ st1.sessions.length ≤ st.sessions.length + 1 ∧
    (0 < st.config.maxSessions → st.sessions.length < st.config.maxSessions) ∧
    ∃ ns, AMap.get st1.sessions id = some ns ∧ ns.id = id := by
  unfold createSession at h
  split at h
  · cases h
  · rename_i hc
    simp only [ge_iff_le, gt_iff_lt, Bool.and_eq_true, decide_eq_true_eq, not_and, Nat.not_lt,
      Nat.le_zero_eq] at hc
    cases h
    refine ⟨rfl, rfl, AMap.length_set_le _ _ _, fun hpos => ?_, _, AMap.get_set_same _ _ _, rfl⟩
    by_cases hl : st.sessions.length < st.config.maxSessions
    · exact hl
    · have := hc (Nat.le_of_not_lt hl)
      omega

theorem modS_sessions_length {c c' : Ctx} {tid : Id} {f : Session → Session} (hr : modS c tid f = Res.ok c')
    (hid : ∀ s, AMap.get c.st.sessions tid = some s → (f s).id = tid) :
    c'.st.sessions.length = c.st.sessions.length := by
  obtain ⟨s, hs, rfl⟩ := modS_eq_ok.1 hr
  rw [putS_sessions, hid s hs]
  exact AMap.length_set_of_get _ hs

/-- the services `NICK` goes through `createSession`: the configuration is untouched and with a limit
the number of sessions stays at most the larger of the previous number and the limit -/
theorem cmdServerNick_session_limit {c c' : Ctx} {sid : Id} {m : IrcMsg}
    (hr : cmdServerNick c sid m = Res.ok c') :
    c'.st.config = c.st.config ∧
    (0 < c.st.config.maxSessions → c'.st.sessions.length ≤ max c.st.sessions.length c.st.config.maxSessions) := by
  refine (cmdServerNick_stable (P := fun st => st.config = c.st.config ∧ (0 < c.st.config.maxSessions →
    st.sessions.length ≤ max c.st.sessions.length c.st.config.maxSessions)) ?_ (fun _ h => h)
    ⟨rfl, fun _ => Nat.le_max_left _ _⟩).apply hr
  intro s p0 p3 st1 c2 _ _ hcs hm
  obtain ⟨hcfg, _, hlen, hlim, ns, hns, hnsid⟩ := createSession_limit hcs
  have hl2 : c2.st.sessions.length = st1.sessions.length :=
    modS_sessions_length (c := { c with st := st1 }) hm (fun s hs => by
      have hs' : AMap.get st1.sessions _ = some s := hs
      rw [hns] at hs'; cases hs'
      exact hnsid)
  refine ⟨(modS_frame hm).2.1.trans hcfg, fun hpos => ?_⟩
  rw [hl2]
  have := hlim hpos
  omega

theorem cmdServerNick_slim {st0 : St} {c c' : Ctx} {sid : Id} {m : IrcMsg} (h : SessLe st0 c.st)
    (hr : cmdServerNick c sid m = Res.ok c') : SessLim st0 c'.st := by
  refine (cmdServerNick_stable ?_ (fun _ h => ⟨h.wf.congr rfl, h.maxSessions, h.le⟩) h.lim).apply hr
  intro s p0 p3 st1 c2 _ _ hcs hm
  obtain ⟨hcfg, _, hlen, hlim, ns, hns, hnsid⟩ := createSession_limit hcs
  have hw1 : SessWf st1 := h.wf.set (k := ⟨s.id.id, fnv64 p0⟩) rfl (by rw [createSession_eq hcs])
  have n2 : SessLe st1 c2.st := by
    refine (SessLe.upd _ ?_ (c := { c with st := st1 }) (SessLe.refl hw1)).apply hm
    exact fun _ => ⟨rfl, rfl⟩
  refine ⟨n2.wf, ?_, fun hpos => ?_⟩
  · rw [n2.maxSessions, hcfg]; exact h.maxSessions
  · have h1 := n2.le
    have h2 := h.le
    have h3 := hlim (by rw [h.maxSessions]; exact hpos)
    rw [h.maxSessions] at h3
    omega

end Robust.Irc
