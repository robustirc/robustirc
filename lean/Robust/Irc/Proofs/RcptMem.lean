import Robust.Irc.Proofs.RcptOut
import Robust.Irc.Proofs.H1
import Robust.Irc.Proofs.H2
/-!
C12, vocabulary for the per-handler recipient theorems:

* `RcptIs o S svc` – the recipients of the output `o` are *exactly* the sessions in the set `S`
  (reached through their numeric ids) plus the services links `svc`;
* how the membership relation `Lists st lc id` ("the stored session `id` lists channel `lc`") and its
  index-aware form `OnChan` move along the primitives that change membership (`leaveChannel`,
  `deleteSession`, the member-adding `modS` of JOIN) and stay put along everything else;
* `Drift A st0 st` – the invariant of the loops of the multi-channel commands: apart from the sessions in `A`,
  every recipient set read in `st` is the one read in the start state `st0`.
-/
namespace Robust.Irc
open Robust AMap

def RcptIs (o : Out) (S : Id → Prop) (svc : List Nat) : Prop :=
  ∀ n, n ∈ o.rcpt ↔ (∃ id, S id ∧ id.id = n) ∨ n ∈ svc

namespace RcptIs

theorem congr {o : Out} {S S' : Id → Prop} {svc : List Nat} (h : RcptIs o S svc) (hs : ∀ id, S id ↔ S' id) :
    RcptIs o S' svc := by
  intro n
  rw [h n]
  exact or_congr_left (exists_congr fun id => and_congr_left fun _ => hs id)

theorem of_svc {i k : Nat} {d : Bytes} {svc : List Nat} : RcptIs ⟨i, k, d, svc⟩ (fun _ => False) svc := by
  intro n
  simp

theorem of_user {i k : Nat} {d : Bytes} {tid : Id} : RcptIs ⟨i, k, d, rcUser tid⟩ (fun id => id = tid) [] := by
  intro n
  simp only [mem_rcUser, List.not_mem_nil, or_false]
  constructor
  · rintro rfl; exact ⟨tid, rfl, rfl⟩
  · rintro ⟨id, rfl, rfl⟩; rfl

theorem of_toOnly {o : Out} {tid : Id} (h : ToOnly tid o) : RcptIs o (fun id => id = tid) [] := by
  intro n
  unfold ToOnly at h
  rw [h]
  simp only [List.mem_singleton, List.not_mem_nil, or_false]
  constructor
  · rintro rfl; exact ⟨tid, rfl, rfl⟩
  · rintro ⟨id, rfl, rfl⟩; rfl

theorem sound {o : Out} {S : Id → Prop} {svc : List Nat} (h : RcptIs o S svc) {n : Nat} (hn : n ∈ o.rcpt) :
    (∃ id, S id ∧ id.id = n) ∨ n ∈ svc := (h n).1 hn

theorem complete {o : Out} {S : Id → Prop} {svc : List Nat} (h : RcptIs o S svc) {id : Id} (hs : S id) :
    id.id ∈ o.rcpt := (h id.id).2 (Or.inl ⟨id, hs, rfl⟩)

end RcptIs

theorem IdsOf.rcptIs {rc svc : List Nat} {S : Id → Prop} (h : IdsOf rc S) {i k : Nat} {d : Bytes} :
    RcptIs ⟨i, k, d, rc ++ svc⟩ S svc := fun n => by
  show n ∈ rc ++ svc ↔ _
  rw [List.mem_append, h n]

theorem IdsOf.rcptIs_nil {o : Out} {S : Id → Prop} (h : IdsOf o.rcpt S) : RcptIs o S [] := fun n => by
  rw [h n]
  simp

def SameLists (st st' : St) : Prop :=
  ∀ id, (AMap.get st'.sessions id).map (·.channels) = (AMap.get st.sessions id).map (·.channels)

theorem SameLists.refl (st : St) : SameLists st st := fun _ => rfl
theorem SameLists.trans {a b c : St} (h1 : SameLists a b) (h2 : SameLists b c) : SameLists a c :=
  fun id => (h2 id).trans (h1 id)
theorem SameLists.symm {a b : St} (h : SameLists a b) : SameLists b a := fun id => (h id).symm
theorem SameLists.of_eq {st st' : St} (h : st'.sessions = st.sessions) : SameLists st st' := by
  intro id; rw [h]

theorem SameLists.lists {st st' : St} (h : SameLists st st') {lc : String} {id : Id} :
    Lists st' lc id ↔ Lists st lc id := by
  have key : ∀ {a b : St}, SameLists a b → Lists b lc id → Lists a lc id := by
    intro a b hab ⟨s', hs', hl⟩
    have := hab id
    rw [hs'] at this
    cases hg : AMap.get a.sessions id with
    | none => rw [hg] at this; cases this
    | some s =>
      rw [hg] at this
      simp only [Option.map_some, Option.some.injEq] at this
      exact ⟨s, hg, by rw [← this]; exact hl⟩
  exact ⟨key h, key h.symm⟩

theorem SameLists.of_sim {st st' : St} (h : StSim st st') : SameLists st st' := by
  intro id
  have := h.sess.eq id
  cases h1 : AMap.get st'.sessions id <;> cases h2 : AMap.get st.sessions id <;>
    simp [h1, h2, Session.core] at this ⊢
  exact this.2.2.2

theorem SameLists.of_emits {c c' : Ctx} (h : Emits c c') : SameLists c.st c'.st := .of_eq (by rw [h.st])

theorem SameLists.modS {c c' : Ctx} {tid : Id} {f : Session → Session} (hid : ∀ s, AMap.get c.st.sessions tid = some s → (f s).id = tid)
    (hf : ∀ s, (f s).channels = s.channels) (hr : Robust.Irc.modS c tid f = .ok c') : SameLists c.st c'.st := by
  obtain ⟨s, hs, rfl⟩ := modS_eq_ok.1 hr
  intro id
  rw [putS_sessions, hid s hs, AMap.get_set]
  split
  · rename_i he; subst he; simp [hs, hf]
  · rfl

theorem SameLists.sessUpTo {st st' : St} (h : SessUpTo st.sessions st'.sessions) : SameLists st st' := by
  intro id
  cases hg : AMap.get st.sessions id with
  | none => rw [h.none hg]
  | some s =>
    obtain ⟨inv, hinv⟩ := h.get id s hg
    rw [hinv]; rfl

def Leaves (st st' : St) (tid : Id) (lc : String) : Prop :=
  ∀ lc' id, Lists st' lc' id ↔ Lists st lc' id ∧ ¬ (id = tid ∧ lc' = lc)

def Joins (st st' : St) (tid : Id) (lc : String) : Prop :=
  ∀ lc' id, Lists st' lc' id ↔ Lists st lc' id ∨ (id = tid ∧ lc' = lc)

theorem Leaves.sub {st st' : St} {tid : Id} {lc : String} (h : Leaves st st' tid lc) {lc' : String} {id : Id}
    (hl : Lists st' lc' id) : Lists st lc' id := ((h lc' id).1 hl).1

theorem Joins.members {st st' : St} {tid : Id} {lc : String} (h : Joins st st' tid lc) (id : Id) :
    Lists st' lc id ↔ (id = tid ∨ Lists st lc id) :=
  (h lc id).trans ⟨fun hh => hh.elim Or.inr fun he => Or.inl he.1, fun hh => hh.elim (fun he => Or.inr ⟨he, rfl⟩) Or.inl⟩

def OnlyAt (tid : Id) (st st' : St) : Prop := ∀ lc id, id ≠ tid → (Lists st' lc id ↔ Lists st lc id)

theorem Leaves.onlyAt {st st' : St} {tid : Id} {lc : String} (h : Leaves st st' tid lc) : OnlyAt tid st st' :=
  fun lc' id hid => (h lc' id).trans ⟨fun hh => hh.1, fun hh => ⟨hh, fun he => hid he.1⟩⟩

theorem Joins.onlyAt {st st' : St} {tid : Id} {lc : String} (h : Joins st st' tid lc) : OnlyAt tid st st' :=
  fun lc' id hid => (h lc' id).trans ⟨fun hh => hh.elim (fun hl => hl) fun he => absurd he.1 hid, Or.inl⟩

/-- the invariant of the loops of the multi-channel commands (JOIN, PART and their services forms), whose lines are
classified relative to the state `st0` in which the command started: in the current state `st` the services links
are the same, and so are the channel lists of every session outside `A` (the sessions the command acts for) -/
structure Drift (A : Id → Prop) (st0 st : St) : Prop where
  svc : st.serverSessions = st0.serverSessions
  others : ∀ lc id, ¬ A id → (Lists st lc id ↔ Lists st0 lc id)

namespace Drift
variable {A : Id → Prop} {st0 st st1 : St}

theorem refl (A : Id → Prop) (st : St) : Drift A st st := ⟨rfl, fun _ _ _ => Iff.rfl⟩

theorem step (d : Drift A st0 st) (hsv : st1.serverSessions = st.serverSessions) {tid : Id} (ha : A tid)
    (h : OnlyAt tid st st1) : Drift A st0 st1 :=
  ⟨hsv.trans d.svc, fun lc id hn => (h lc id fun he => hn (he ▸ ha)).trans (d.others lc id hn)⟩

theorem same (d : Drift A st0 st) (hsv : st1.serverSessions = st.serverSessions) (h : SameLists st st1) :
    Drift A st0 st1 :=
  ⟨hsv.trans d.svc, fun lc id hn => h.lists.trans (d.others lc id hn)⟩

/-- a JOIN line of the loop state is one of the start state: its recipients are `tid`, the one session the command acts
for, and the sessions listing `lc` -/
theorem rebase_joined (d : Drift A st0 st) {tid : Id} (hA : ∀ id, A id → id = tid) {o : Out} {svc : List Nat}
    {lc : String} (h : RcptIs o (fun id => id = tid ∨ Lists st lc id) svc) :
    RcptIs o (fun id => id = tid ∨ Lists st0 lc id) svc :=
  h.congr fun id => by
    by_cases ha : A id
    · exact ⟨fun _ => .inl (hA id ha), fun _ => .inl (hA id ha)⟩
    · exact or_congr_right (d.others lc id ha)

/-- a PART line likewise: its recipients are the sessions listing `lc`, and `tid` lists it in both states -/
theorem rebase_listing (d : Drift A st0 st) {tid : Id} (hA : ∀ id, A id → id = tid) {o : Out} {svc : List Nat}
    {lc : String} (hon : Lists st lc tid) (hon0 : Lists st0 lc tid) (h : RcptIs o (Lists st lc) svc) :
    RcptIs o (Lists st0 lc) svc :=
  h.congr fun id => by
    by_cases ha : A id
    · rw [hA id ha]; exact ⟨fun _ => hon0, fun _ => hon⟩
    · exact d.others lc id ha

end Drift

theorem LeaveSpec.lists {c c' : Ctx} {lc lcn : String} {tid : Id} (sp : LeaveSpec c c' lc lcn tid) :
    Leaves c.st c'.st tid lc := by
  intro lc' id
  constructor
  · rintro ⟨s', hs', hl⟩
    cases hg0 : AMap.get c.st.sessions id with
    | none =>
      have : id ∉ AMap.keys c'.st.sessions := by rw [sp.keys]; exact AMap.get_eq_none_iff.1 hg0
      exact absurd (AMap.mem_keys_of_get hs') this
    | some s =>
      by_cases hid : id = tid
      · subst hid
        obtain ⟨inv, h⟩ := sp.self s hg0
        rw [h] at hs'; cases hs'
        have := Robust.Irc.mem_filter_ne.1 hl
        exact ⟨⟨s, hg0, this.2⟩, fun hh => this.1 hh.2⟩
      · obtain ⟨inv, h⟩ := sp.others id s hid hg0
        rw [h] at hs'; cases hs'
        exact ⟨⟨s, hg0, hl⟩, fun hh => hid hh.1⟩
  · rintro ⟨⟨s, hs, hl⟩, hne⟩
    by_cases hid : id = tid
    · subst hid
      obtain ⟨inv, h⟩ := sp.self s hs
      refine ⟨_, h, ?_⟩
      exact Robust.Irc.mem_filter_ne.2 ⟨fun he => hne ⟨rfl, he⟩, hl⟩
    · obtain ⟨inv, h⟩ := sp.others id s hid hs
      exact ⟨_, h, hl⟩

/-- one `deleteSession` of a live session, in terms of the *indexed* members: the same, minus the deleted one.
(The start state need not be a state between entries: this is used inside the loop of `cmdServerQuit`.) -/
theorem DelSpec.onChan_step {c c' : Ctx} {sid : Id} {s : Session} (sp : DelSpec c c' sid s)
    (hw : WInvCore c.st) (hn : NI c.st) (hs : AMap.get c.st.sessions sid = some s) (hlive : s.deleted = false)
    {lc : String} {id : Id} : OnChan c'.st lc id ↔ OnChan c.st lc id ∧ id ≠ sid := by
  constructor
  · rintro ⟨x, t', hx, ht', hl⟩
    rw [sp.nicks, AMap.get_erase] at hx
    split at hx
    · cases hx
    · rename_i hne
      have hid : id ≠ sid := by
        intro he; subst he
        obtain ⟨s', hs', _, hlow⟩ := hw.index x id hx
        rw [hs] at hs'; cases hs'
        exact hne hlow.symm
      cases hg0 : AMap.get c.st.sessions id with
      | none =>
        have : id ∉ AMap.keys c'.st.sessions := by rw [sp.keys]; exact AMap.get_eq_none_iff.1 hg0
        exact absurd (AMap.mem_keys_of_get ht') this
      | some t =>
        obtain ⟨inv, h⟩ := sp.others id t hid hg0
        rw [h] at ht'; cases ht'
        exact ⟨⟨x, t, hx, hg0, hl⟩, hid⟩
  · rintro ⟨⟨x, t, hx, ht, hl⟩, hid⟩
    have hne : x ≠ nickToLower s.nick := by
      intro he
      by_cases hnn : s.nick = ""
      · rw [he, hnn, nickToLower_empty, hn.idx] at hx; cases hx
      · have := hw.owns sid s hs hlive hnn
        rw [he, this] at hx; cases hx; exact hid rfl
    obtain ⟨inv, h⟩ := sp.others id t hid ht
    exact ⟨x, _, by rw [sp.nicks, AMap.get_erase_other hne]; exact hx, h, hl⟩

/-- after `deleteSession c sid` in a state between entries: the sessions still *on* a channel (indexed and
listing it) are the former members other than `sid`.  (The deleted session value keeps its channel list but is
no longer indexed.) -/
theorem DelSpec.onChan {c c' : Ctx} {sid : Id} {s : Session} (sp : DelSpec c c' sid s)
    (hi : Inv c.st) (hn : NI c.st) (hs : AMap.get c.st.sessions sid = some s)
    {lc : String} {id : Id} : OnChan c'.st lc id ↔ Lists c.st lc id ∧ id ≠ sid := by
  rw [sp.onChan_step hi.toWInvCore hn hs (hi.noDeleted sid s hs), onChan_iff_lists hi hn]

theorem AddSpec.joins {c c' : Ctx} {tid : Id} {lc : String} {ch' : Channel} (sp : AddSpec c c' tid lc ch') :
    Joins c.st c'.st tid lc := by
  intro lc' id
  obtain ⟨t, ht, e⟩ := sp.self
  unfold Lists
  rw [e]
  by_cases he : id = tid
  · subst he
    rw [AMap.get_set_same]
    constructor
    · rintro ⟨s', h1, hl⟩
      cases h1
      rcases Robust.Irc.mem_setInsert.1 hl with h | h
      · exact Or.inr ⟨rfl, h⟩
      · exact Or.inl ⟨t, ht, h⟩
    · rintro (⟨s', h1, hl⟩ | ⟨_, h⟩)
      · rw [ht] at h1; cases h1
        exact ⟨_, rfl, Robust.Irc.mem_setInsert.2 (Or.inr hl)⟩
      · exact ⟨_, rfl, Robust.Irc.mem_setInsert.2 (Or.inl h)⟩
  · rw [AMap.get_set_other _ he]
    exact ⟨Or.inl, fun h => h.elim (fun h => h) fun h => absurd h.1 he⟩

theorem rcChannel_lists {st : St} (hi : Inv st) (hn : NI st) {lc : String} {ch : Channel}
    (hc : AMap.get st.channels lc = some ch) {rc : List Nat} (hr : rcChannel st ch = Res.ok rc) :
    IdsOf rc (Lists st lc) :=
  (rcChannel_ids hi.toWInv hc hr).congr fun _ => onChan_iff_lists hi hn

/-- `rcChannel` reads the nick index and the member keys only: after steps that keep what the invariants read
(`StSim`), the recipients of a channel are those computed in the start state -/
theorem rcChannel_sim {st st' : St} (h : StSim st st') {lc : String} {ch ch' : Channel}
    (hc : AMap.get st.channels lc = some ch) (hc' : AMap.get st'.channels lc = some ch') :
    rcChannel st' ch' = rcChannel st ch := by
  have hk : AMap.keys ch'.nicks = AMap.keys ch.nicks := by
    have := h.chans.eq lc
    rw [hc, hc'] at this
    exact (Channel.core_eq.1 (Option.some.inj this)).2
  unfold rcChannel
  rw [hk, show nickId st' = nickId st from funext fun x => by unfold nickId; rw [h.nicks]]

theorem rcChannel_lists_sim {st st' : St} (hi : Inv st) (hn : NI st) {lc : String} {ch ch' : Channel}
    {rc : List Nat} (hr : rcChannel st' ch' = .ok rc) (h : StSim st st')
    (hc : AMap.get st.channels lc = some ch) (hc' : AMap.get st'.channels lc = some ch') : IdsOf rc (Lists st lc) :=
  rcChannel_lists hi hn hc (by rw [← hr]; exact (rcChannel_sim h hc hc').symm)

theorem rcChannelButOne_lists {st : St} (hi : Inv st) (hn : NI st) {lc : String} {ch : Channel}
    (hc : AMap.get st.channels lc = some ch) {user : Id} {rc : List Nat}
    (hr : rcChannelButOne st ch user = Res.ok rc) (n : Nat) :
    n ∈ rc ↔ ∃ id, (Lists st lc id ∧ id ≠ user) ∧ id.id = n :=
  (rcChannelButOne_ids hi.toWInv hc hr).congr (fun _ => and_congr_left fun _ => onChan_iff_lists hi hn) n

theorem rcCommonChannels_lists {st : St} (hi : Inv st) (hn : NI st) {u : Session} {rc : List Nat}
    (hr : rcCommonChannels st u = Res.ok rc) : IdsOf rc fun id => ∃ lc ∈ u.channels, Lists st lc id :=
  (rcCommonChannels_ids hi.toWInv hr).congr fun _ =>
    exists_congr fun _ => and_congr_right fun _ => onChan_iff_lists hi hn

end Robust.Irc
