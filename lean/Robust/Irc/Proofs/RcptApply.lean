import Robust.Irc.Proofs.RcptAll
/-!
C12 at the level of whole entries: every output line of an `IRCFromClient` (or `DeleteSession`) entry is for
the acting session only or is classified — by `ClientLine` for a client session, by `ServiceLine`
(`RcptSvcAll.lean`) for a services link — relative to the state in which the handler runs, which differs from
the state before the entry by bookkeeping only.  `processMessage` and the entries are walked once, for any
classification `L` of the lines of the handlers the command table selects (`Classifies L b`).
-/
namespace Robust.Irc
open Robust AMap

def Session.Bk (s s' : Session) : Prop :=
  s' = { s with lastActivity := s'.lastActivity, lastNonPing := s'.lastNonPing,
                lastClientMessageId := s'.lastClientMessageId, remoteAddr := s'.remoteAddr }

/-- stated with variables for the four fields: `rfl` at a use site would evaluate the new values -/
theorem Session.Bk.update (s : Session) (a n : Int) (l : Nat) (r : String) :
    Session.Bk s { s with lastActivity := a, lastNonPing := n, lastClientMessageId := l, remoteAddr := r } := rfl

theorem Session.Bk.trans {a b c : Session} (h1 : Session.Bk a b) (h2 : Session.Bk b c) : Session.Bk a c := by
  unfold Session.Bk at *
  rw [h2, h1]

structure StBk (st st' : St) (sid : Id) : Prop where
  nicks : st'.nicks = st.nicks
  channels : st'.channels = st.channels
  serverSessions : st'.serverSessions = st.serverSessions
  config : st'.config = st.config
  others : ∀ id, id ≠ sid → AMap.get st'.sessions id = AMap.get st.sessions id
  self : ∀ s, AMap.get st.sessions sid = some s → ∃ s', AMap.get st'.sessions sid = some s' ∧ Session.Bk s s'

theorem StBk.refl (st : St) (sid : Id) : StBk st st sid :=
  ⟨rfl, rfl, rfl, rfl, fun _ _ => rfl, fun s hs => ⟨s, hs, rfl⟩⟩

theorem StBk.trans {a b c : St} {sid : Id} (h1 : StBk a b sid) (h2 : StBk b c sid) : StBk a c sid := by
  refine ⟨h2.nicks.trans h1.nicks, h2.channels.trans h1.channels, h2.serverSessions.trans h1.serverSessions,
    h2.config.trans h1.config, fun id hne => (h2.others id hne).trans (h1.others id hne), fun s hs => ?_⟩
  obtain ⟨s1, hs1, b1⟩ := h1.self s hs
  obtain ⟨s2, hs2, b2⟩ := h2.self s1 hs1
  exact ⟨s2, hs2, b1.trans b2⟩

theorem StBk.sameLists {st st' : St} {sid : Id} (h : StBk st st' sid)
    (hk : ∀ s', AMap.get st'.sessions sid = some s' → ∃ s, AMap.get st.sessions sid = some s) :
    SameLists st st' := by
  intro id
  by_cases he : id = sid
  · subst he
    cases hg : AMap.get st.sessions id with
    | none =>
      cases hg' : AMap.get st'.sessions id with
      | none => rfl
      | some s' =>
        obtain ⟨s, hs⟩ := hk s' hg'
        rw [hg] at hs; cases hs
    | some s =>
      obtain ⟨s', hs', hb⟩ := h.self s hg
      rw [hs']
      simp only [Option.map_some, Option.some.injEq]
      rw [hb]
  · rw [h.others id he]

theorem updateLastClientMessageID_bk {st st1 : St} {e : Entry} (hu : updateLastClientMessageID st e = some st1) :
    StBk st st1 e.session := by
  obtain ⟨s, a, c, hg, rfl⟩ := updateLastClientMessageID_eq hu
  refine ⟨rfl, rfl, rfl, rfl, fun id hne => AMap.get_set_other _ hne, fun s0 hs0 => ?_⟩
  rw [hg] at hs0; cases hs0
  exact ⟨_, AMap.get_set_same _ _ _, .update s _ _ _ _⟩

theorem AddrRun.bk {c c1 : Ctx} {e : Entry} {s : Session} (ha : AddrRun c e s c1 false)
    (hs : AMap.get c.st.sessions e.session = some s) (hid : s.id = e.session) :
    StBk c.st c1.st e.session ∧ c1.out = c.out := by
  cases ha with
  | same => exact ⟨.refl _ _, rfl⟩
  | stored _ hm =>
    rw [hid] at hm
    have hs1 := modS_get_self hs hid hm
    obtain ⟨s0, hs0, rfl⟩ := modS_eq_ok.1 hm
    cases hs.symm.trans hs0
    refine ⟨⟨rfl, rfl, rfl, rfl, fun id hne => ?_, fun s0 hs0 => ?_⟩, rfl⟩
    · show AMap.get (AMap.set c.st.sessions s.id _) id = _
      rw [hid]; exact AMap.get_set_other _ hne
    · cases hs.symm.trans hs0
      exact ⟨_, hs1, rfl⟩

/-- the lines of one entry: for the acting session only, or classified relative to the handler state `stH` by `L`
(`ClientLine` for a client session, `ServiceLine` for a services link) -/
def EntryLines (L : St → Id → Session → IrcMsg → Out → Prop) (stH : St) (e : Entry) (sH : Session)
    (im : Option IrcMsg) (out : List Out) : Prop :=
  ∀ o ∈ out, ToOnly e.session o ∨ ∃ m, im = some m ∧ L stH e.session sH m o

/-- the handlers that `ProcessMessage` calls for the sessions with `server = b` classify their lines by `L`: the
statement of `client_handler_out` and of its services counterpart, with the key as `ProcessMessage` looks it up -/
def Classifies (L : St → Id → Session → IrcMsg → Out → Prop) (b : Bool) : Prop :=
  ∀ {c c' : Ctx} {sid : Id} {m : IrcMsg} {s : Session} {fname : String} {mp : Nat} {h : Handler},
    Pre c sid → NI c.st → AMap.get c.st.sessions sid = some s → s.server = b → GateOK s (toUpper m.command) →
    lookupCommand ((if s.server = true then "server_" else "") ++ toUpper m.command) = some (fname, mp) →
    mp ≤ m.params.length → handlerByName fname = some h → h c sid m = .ok c' → NewOut (L c.st sid s m) c c'

section
variable {L : St → Id → Session → IrcMsg → Out → Prop} {b : Bool}

/-- **`ProcessMessage`**: every appended line is for the acting session only (unknown command, ban `ERROR`, the gate's
451, the dispatcher's 421/461), or is a line of the handler the command table names, classified by `L` relative to the
context `c1` in which the handler runs — `c` up to the actor's `remoteAddr` -/
theorem processMessage_out (H : Classifies L b) {c c' : Ctx} {e : Entry} {im : Option IrcMsg} {s : Session}
    (hp : Pre c e.session) (hn : NI c.st) (hpi : PInv c.st) (hs : AMap.get c.st.sessions e.session = some s)
    (hsrv : s.server = b) (hr : processMessage c e im = .ok c') :
    ∃ c1 s1, StBk c.st c1.st e.session ∧ AMap.get c1.st.sessions e.session = some s1 ∧ Session.Bk s s1 ∧
      Pre c1 e.session ∧ NI c1.st ∧ PInv c1.st ∧
      NewOut (fun o => ToOnly e.session o ∨ ∃ m, im = some m ∧ L c1.st e.session s1 m o) c c' := by
  have hid : s.id = e.session := (hp.inv.sessId _ s hs).1
  cases processMessage_run hr with
  | unparsed hs' =>
    cases hs.symm.trans hs'
    exact ⟨c, s, .refl _ _, hs, rfl, hp, hn, hpi, hid ▸ (NewOut.refl _ c).sendUser fun _ _ => .inl rfl⟩
  | banned hs' ha =>
    cases hs.symm.trans hs'
    exact ⟨c, s, .refl _ _, hs, rfl, hp, hn, hpi, (ha.closing hp.inv hs).mono fun _ => .inl⟩
  | @gate _ m c1 _ hs' ha hg =>
    cases hs.symm.trans hs'
    obtain ⟨hbk, ho1⟩ := ha.bk hs hid
    obtain ⟨hp1, _, hn1, s1, hs1, hsv1⟩ := ha.spec hp hn hs
    obtain ⟨s1', hs1', hb⟩ := hbk.self s hs
    cases hs1.symm.trans hs1'
    have hid1 : s1.id = e.session := (hp1.inv.sessId _ s1 hs1).1
    refine ⟨c1, s1, hbk, hs1, hb, hp1, hn1, ha.keeps (HLogic.stable PInv.stable) hpi, (NewOut.of_out ho1).trans ?_⟩
    have reply : ∀ msg, NewOut (fun o => ToOnly e.session o ∨ ∃ m', some m = some m' ∧ L c1.st e.session s1 m' o) c1
        (sendUser c1 e.session msg) := fun _ => (NewOut.refl _ c1).sendUser fun _ _ => .inl rfl
    cases hg with
    | refused h | unknown h | fewParams h =>
      cases hs1.symm.trans h
      exact hid1 ▸ reply _
    | expired h _ hd =>
      cases hs1.symm.trans h
      rw [hid1] at hd
      have sp := deleteSession_spec (c := sendUser (sendUser c1 e.session _) e.session _)
        hp1.inv.toWInv hs1 (DelPre.of_live (hp1.inv.noDeleted _ s1 hs1)) hd
      exact ((reply _).sendUser fun _ _ => .inl rfl).frame sp.frame
    | call h hg hl hlen hh hr =>
      cases hs1.symm.trans h
      rw [hid1] at hr
      exact (H hp1 hn1 hs1 (hsv1.trans hsrv) hg hl hlen hh hr).mono fun _ h => .inr ⟨m, rfl, h⟩

theorem processMessage_lines (H : Classifies L b) {st : St} {c' : Ctx} {e : Entry} {im : Option IrcMsg}
    {s : Session} (h : GPInv st) (hr0 : e.session.reply = 0) (hs : AMap.get st.sessions e.session = some s)
    (hsrv : s.server = b) (hr : processMessage { st := st, msgid := e.id } e im = .ok c') :
    ∃ stH sH, StBk st stH e.session ∧ AMap.get stH.sessions e.session = some sH ∧ Session.Bk s sH ∧
      GPInv stH ∧ EntryLines L stH e sH im c'.out := by
  obtain ⟨c1, s1, hbk, hs1, hb, hp1, hn1, hpi1, hout⟩ :=
    processMessage_out H (c := { st := st, msgid := e.id }) (h.ginv.pre hs hr0) h.ginv.ni h.pinv hs hsrv hr
  exact ⟨c1.st, s1, hbk, hs1, hb, ⟨GInv.of_ni hp1.inv hp1.linv hn1, hpi1⟩,
    hout.elim (c := { st := st, msgid := e.id }) (by simp)⟩

/-- **C12 for a whole `IRCFromClient` entry**: the handler runs in a state `stH` that is the state before the
entry up to bookkeeping fields of the acting session, `stH` satisfies all invariants, and every output line of the
entry is for the acting session only or is classified — with its exact recipient set — by `L stH …` -/
theorem applyEntry_lines (H : Classifies L b) {st st' : St} {e : Entry} {out : List Out} {s : Session}
    (h : GPInv st) (he : EntryOk st e) (ht : e.type = 2)
    (hs : AMap.get st.sessions e.session = some s) (hsrv : s.server = b)
    (hr : applyEntry st e = .ok (st', out)) :
    ∃ stH sH, StBk st stH e.session ∧ AMap.get stH.sessions e.session = some sH ∧ Session.Bk s sH ∧
      GPInv stH ∧ EntryLines L stH e sH (parseMessage e.data) out := by
  rcases applyEntry_client ht hr with ⟨hn, _⟩ | ⟨st1, c, hu, hpm, rfl, rfl⟩
  · rw [hs] at hn; cases hn
  · have hbk0 := updateLastClientMessageID_bk hu
    obtain ⟨s1, hs1, hb1⟩ := hbk0.self s hs
    have h1 : GPInv st1 := ⟨GInv_updateLastClientMessageID h.ginv hu, h.pinv.updateLastClientMessageID hu⟩
    have hsrv1 : s1.server = b := by rw [hb1]; exact hsrv
    obtain ⟨stH, sH, hbk, hsH, hb, hg, hl⟩ := processMessage_lines H h1 (he.1 (Or.inr ht)) hs1 hsrv1 hpm
    exact ⟨stH, sH, hbk0.trans hbk, hsH, hb1.trans hb, hg, hl⟩

/-- the same for a `DeleteSession` entry (the server generates `QUIT :<reason>` for the session; for a services
link that removes the link and all its pseudo-clients) -/
theorem applyEntry_delete_lines (H : Classifies L b) {st st' : St} {e : Entry} {out : List Out} {s : Session}
    (h : GPInv st) (he : EntryOk st e) (ht : e.type = 1)
    (hs : AMap.get st.sessions e.session = some s) (hsrv : s.server = b)
    (hr : applyEntry st e = .ok (st', out)) :
    ∃ stH sH, StBk st stH e.session ∧ AMap.get stH.sessions e.session = some sH ∧ Session.Bk s sH ∧
      GPInv stH ∧ EntryLines L stH e sH (parseMessage ("QUIT :" ++ e.data)) out := by
  rcases applyEntry_delete ht hr with ⟨hn, _⟩ | ⟨_, c, _, hpm, rfl, rfl⟩
  · rw [hs] at hn; cases hn
  · exact processMessage_lines H h (he.1 (Or.inl ht)) hs hsrv hpm

end

theorem classifies_client : Classifies ClientLine false := fun hp hn hs hsrv hg hl hlen hh hr => by
  simp only [hsrv, Bool.false_eq_true, ↓reduceIte, String.empty_append] at hl
  exact client_handler_out (lookupCommand_mem hl) (startsLowerS_toUpper _) hh hp hn hs hlen
    (hg.resolve_left fun h => by rw [hsrv] at h; cases h) hr

end Robust.Irc
