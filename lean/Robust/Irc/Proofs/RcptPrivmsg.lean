import Robust.Irc.Proofs.RcptMem
import Robust.Irc.Proofs.RcptPfxEntry
/-!
C12, part 2a continued: PRIVMSG/NOTICE in a state between entries — delivery (the line *is* sent to
every other member) and the sender's identity.
-/
namespace Robust.Irc
open Robust AMap

theorem PInv.prefix_eq {st : St} (hp : PInv st) (hl : LInv st) {sid : Id} {s : Session}
    (hs : AMap.get st.sessions sid = some s) (hsrv : s.server = false) (hli : s.loggedIn = true) :
    s.ircPrefix = sessPrefix s := by
  rcases hp sid s hs hsrv with h | ⟨h, _, _⟩
  · exact h
  · exact absurd h (hl sid s hs hli)

theorem sessPrefix_stored {st : St} (hi : WInvCore st) {sid : Id} {s : Session}
    (hs : AMap.get st.sessions sid = some s) :
    sessPrefix s = ⟨s.nick, s.username, "robust/0x" ++ hexNat sid.id⟩ := by
  unfold sessPrefix
  rw [(hi.sessId sid s hs).1]

/-- **delivery**: a PRIVMSG/NOTICE with text to an existing channel, by a sender that is a member or when
the channel is not `+n`, produces exactly one line: the message under the sender's stored prefix, to exactly
the sessions on the channel other than the sender -/
theorem cmdPrivmsg_chan_delivers {c : Ctx} {sid : Id} {m : IrcMsg} {s : Session} {p0 : String} {ch : Channel}
    (hw : WInv c.st) (hs : AMap.get c.st.sessions sid = some s)
    (hp : m.params[0]? = some p0) (hlen : 2 ≤ m.params.length) (hh : hasPrefix p0 "#" = true)
    (hc : AMap.get c.st.channels (chanToLower p0) = some ch)
    (hmay : AMap.contains ch.nicks (nickToLower s.nick) = true ∨ ch.modes.contains 'n' = false) :
    ∃ rc, cmdPrivmsg c sid m = .ok (emit c ⟨some s.ircPrefix, m.command, [p0, m.trailing]⟩ rc) ∧
      IdsOf rc fun id => OnChan c.st (chanToLower p0) id ∧ id ≠ sid := by
  obtain ⟨rc, hrc⟩ := rcChannelButOne_ok hw.toWInvCore sid hc
  refine ⟨rc, ?_, rcChannelButOne_ids hw hc hrc⟩
  unfold cmdPrivmsg
  rw [getS_of_get hs]
  simp only [Res.ok_bind]
  rw [if_neg (by omega), if_neg (by omega), param_of_some hp]
  simp only [Res.ok_bind, getChan_eq]
  rw [if_pos hh, hc]
  simp only
  have hn : ¬ ((!AMap.contains ch.nicks (nickToLower s.nick) && ch.modes.contains 'n') = true) := by
    intro hx
    simp only [Bool.and_eq_true, Bool.not_eq_true'] at hx
    rcases hmay with h | h
    · rw [hx.1] at h; cases h
    · rw [hx.2] at h; cases h
  rw [if_neg hn, hrc]
  rfl

end Robust.Irc
