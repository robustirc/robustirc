import Robust.Irc.Proofs.H2Base
import Robust.Irc.Proofs.ChanModeSteps
/-! TOPIC -/
namespace Robust.Irc
open Rd
open AMap

/-- TOPIC does not panic for a stored sender and one parameter at least, if it only asks for the topic (exactly one
parameter: what JOIN and SVSJOIN send) or the sender is as `Listed` says.  The invariant is a premise of the result only: a
query does not panic in any state -/
theorem cmdTopic_wp (c : Ctx) (sid : Id) (m : IrcMsg) :
    (cmdTopic c sid m).Wp (1 ≤ m.params.length ∧ (∃ s, AMap.get c.st.sessions sid = some s) ∧
      (m.params.length = 1 ∨ Listed c sid)) fun c' => WInvCore c.st → Inert c c' := by
  refine (cmdTopic_result_wp c sid m (fun g => g.2.1) (fun g => g.1) fun g hne s chn ch hs hc hon => ?_).mono
    fun c' ⟨s, chn, _, _, r⟩ hw => ?_
  · -- beyond a query the sender is as `Listed` says: a member of the channels it lists
    have hl := g.2.2.resolve_left hne
    obtain ⟨_, mem, h1, h2⟩ := hl.member hs hon
    rw [hc] at h1; cases h1
    exact ⟨hl.1.toWInvCore.membersIndexed hc, mem, h2⟩
  · have h0 := Inert.refl hw
    cases r with
    | noChannel | notOn | notOp | unset => exact h0.sendUser _ _
    | shown => exact (h0.sendUser _ _).sendUser _ _
    | cleared hc _ _ _ hch | set hc _ _ _ _ hch =>
      subst hch
      exact ((h0.putChan hw hc (by rfl) (by rfl)).emit _ _).emit _ _

theorem cmdTopic_inert {c c' : Ctx} {sid : Id} {m : IrcMsg} (hw : WInvCore c.st)
    (hr : cmdTopic c sid m = .ok c') : Inert c c' :=
  (cmdTopic_wp c sid m).sat c' hr hw

/-- TOPIC with exactly one parameter is a query (what JOIN and SVSJOIN send): it only answers its sender, and does
not panic for a stored one -/
theorem cmdTopic_query_wp {c : Ctx} {sid : Id} {m : IrcMsg} (hn : m.params.length = 1) :
    (cmdTopic c sid m).Wp (∃ s, AMap.get c.st.sessions sid = some s) fun c' => Refused c c' sid := by
  refine ⟨(cmdTopic_result c sid m).mono fun c' ⟨s, chn, _, _, h⟩ => ?_,
    fun g => (cmdTopic_wp c sid m).safe ⟨Nat.le_of_eq hn.symm, g, .inl hn⟩⟩
  cases h with
  | noChannel | notOn | notOp | unset => exact .reply c sid _
  | shown => exact (Refused.reply c sid _).sendUser _
  | cleared _ _ hclr => rw [hn] at hclr; simp at hclr
  | set _ _ _ h1 => exact absurd (by rw [hn]; rfl) h1

theorem cmdTopic_noPanic_query {c : Ctx} {sid : Id} {s : Session} {m : IrcMsg}
    (hs : AMap.get c.st.sessions sid = some s) (hn : m.params.length = 1) : NoPanic (cmdTopic c sid m) :=
  (cmdTopic_query_wp hn).safe ⟨s, hs⟩

theorem cmdTopic_safe_member {c : Ctx} {sid : Id} {s : Session} {m : IrcMsg} (hw : WInv c.st)
    (hs : AMap.get c.st.sessions sid = some s) (hlive : s.deleted = false) (hnick : s.nick ≠ "")
    (hn : 1 ≤ m.params.length) : ∀ site, cmdTopic c sid m ≠ .panic site :=
  (cmdTopic_wp c sid m).safe ⟨hn, ⟨s, hs⟩, .inr ⟨hw, s, hs, hlive, hnick⟩⟩

theorem cmdTopic_safe : ClientSafe cmdTopic 1 true :=
  fun c sid m s hp hs _ hl hn => (cmdTopic_wp c sid m).safe ⟨hn, ⟨s, hs⟩, .inr (.of_pre hp hs (hl rfl))⟩

end Robust.Irc
