import Robust.Irc.Proofs.PermMap
import Robust.Irc.Proofs.Entry
/-!
Order-independence, part 3: the equivalence on sessions, channels, states, outputs, contexts.

Two layers:

* the *official* equivalence `St.Equiv` (`≈`): every map is a permutation of the other
  (`List.Perm` / `PermR` for maps whose values contain lists or maps themselves), scalars equal;
* the *working* relation `StEq`: the same, phrased extensionally (`MEq`: duplicate-free keys and
  `get` agrees), plus the fact that channels are stored under their lower-cased name.  It is a
  partial equivalence relation; on states that satisfy the invariant and hold no SVSHOLD twice
  (`HoldsNodup`, which the invariant does not include) the two coincide (`StEq.toEquiv`,
  `St.Equiv.toStEq`).

The network configuration is compared with plain equality: it is replaced wholesale by a config
entry (the same value on every replica), is only read through `get`, and is changed only by
`AMap.set` (GLINE).
-/

namespace Robust.Irc
open Robust

/-- the session without its two list-valued (Go: map-valued) fields -/
def Session.scal (s : Session) : Session := { s with channels := [], invitedTo := [] }

structure SessEq (s s' : Session) : Prop where
  scal : s'.scal = s.scal
  channels : s.channels.Perm s'.channels
  invitedTo : s.invitedTo.Perm s'.invitedTo

namespace SessEq
variable {s s' s'' : Session}

theorem refl (s : Session) : SessEq s s := ⟨rfl, List.Perm.refl _, List.Perm.refl _⟩
theorem symm (h : SessEq s s') : SessEq s' s := ⟨h.scal.symm, h.channels.symm, h.invitedTo.symm⟩
theorem trans (h : SessEq s s') (h' : SessEq s' s'') : SessEq s s'' :=
  ⟨h'.scal.trans h.scal, h.channels.trans h'.channels, h.invitedTo.trans h'.invitedTo⟩

/-- the second session is the first one with other lists: after `obtain ⟨chs, inv, rfl⟩` every scalar field of
the second is, by reduction, that of the first, and the two runs of a handler branch on the same conditions -/
theorem exists_with (h : SessEq s s') : ∃ chs inv, s' = { s with channels := chs, invitedTo := inv } := by
  refine ⟨s'.channels, s'.invitedTo, ?_⟩
  have := h.scal
  cases s; cases s'
  simp only [Session.scal, Session.mk.injEq] at this ⊢
  simp only [this, and_self]

theorem proj {α : Type} (h : SessEq s s') (f : Session → α) (hf : ∀ t, f t.scal = f t := by intro; rfl) : f s' = f s := by
  rw [← hf s', ← hf s, h.scal]

theorem id (h : SessEq s s') : s'.id = s.id := h.proj _
theorem auth (h : SessEq s s') : s'.auth = s.auth := h.proj _
theorem loggedIn (h : SessEq s s') : s'.loggedIn = s.loggedIn := h.proj _
theorem nick (h : SessEq s s') : s'.nick = s.nick := h.proj _
theorem username (h : SessEq s s') : s'.username = s.username := h.proj _
theorem lastActivity (h : SessEq s s') : s'.lastActivity = s.lastActivity := h.proj _
theorem lastNonPing (h : SessEq s s') : s'.lastNonPing = s.lastNonPing := h.proj _
theorem lastSolvedCaptcha (h : SessEq s s') : s'.lastSolvedCaptcha = s.lastSolvedCaptcha := h.proj _
theorem operator (h : SessEq s s') : s'.operator = s.operator := h.proj _
theorem awayMsg (h : SessEq s s') : s'.awayMsg = s.awayMsg := h.proj _
theorem created (h : SessEq s s') : s'.created = s.created := h.proj _
theorem throttlingExponent (h : SessEq s s') : s'.throttlingExponent = s.throttlingExponent := h.proj _
theorem server (h : SessEq s s') : s'.server = s.server := h.proj _
theorem lastClientMessageId (h : SessEq s s') : s'.lastClientMessageId = s.lastClientMessageId := h.proj _
theorem ircPrefix (h : SessEq s s') : s'.ircPrefix = s.ircPrefix := h.proj _
theorem deleted (h : SessEq s s') : s'.deleted = s.deleted := h.proj _
theorem remoteAddr (h : SessEq s s') : s'.remoteAddr = s.remoteAddr := h.proj _

theorem chanContains (h : SessEq s s') (x : String) : s'.channels.contains x = s.channels.contains x :=
  h.channels.contains_eq.symm
theorem invContains (h : SessEq s s') (x : String) : s'.invitedTo.contains x = s.invitedTo.contains x :=
  h.invitedTo.contains_eq.symm
theorem mem_channels (h : SessEq s s') (x : String) : x ∈ s'.channels ↔ x ∈ s.channels := h.channels.mem_iff.symm

/-- an update that reads and writes scalar fields only (for a record update all three conditions hold by `rfl`) -/
theorem upd (h : SessEq s s') (f : Session → Session) (hs : ∀ t, (f t).scal = (f t.scal).scal := by intro; rfl)
    (hc : ∀ t, (f t).channels = t.channels := by intro; rfl)
    (hi : ∀ t, (f t).invitedTo = t.invitedTo := by intro; rfl) : SessEq (f s) (f s') := by
  refine ⟨?_, by rw [hc, hc]; exact h.channels, by rw [hi, hi]; exact h.invitedTo⟩
  rw [hs s', hs s, h.scal]

theorem withChannels (h : SessEq s s') {l l' : List String} (hl : l.Perm l') :
    SessEq { s with channels := l } { s' with channels := l' } :=
  ⟨h.scal, hl, h.invitedTo⟩

theorem withInvitedTo (h : SessEq s s') {l l' : List String} (hl : l.Perm l') :
    SessEq { s with invitedTo := l } { s' with invitedTo := l' } :=
  ⟨h.scal, h.channels, hl⟩

end SessEq

theorem setInsert_perm {l l' : List String} (h : l.Perm l') (x : String) : (setInsert l x).Perm (setInsert l' x) := by
  unfold setInsert
  rw [← h.contains_eq (a := x)]
  split
  · exact h
  · exact h.append (List.Perm.refl _)

def Channel.scal (c : Channel) : Channel := { c with nicks := [] }

structure ChanEq (c c' : Channel) : Prop where
  scal : c'.scal = c.scal
  nicks : MEq (fun (a b : Member) => a = b) c.nicks c'.nicks

namespace ChanEq
variable {c c' c'' : Channel}

theorem symm (h : ChanEq c c') : ChanEq c' c := ⟨h.scal.symm, h.nicks.symm (fun _ _ e => e.symm)⟩
theorem trans (h : ChanEq c c') (h' : ChanEq c' c'') : ChanEq c c'' :=
  ⟨h'.scal.trans h.scal, h.nicks.trans (fun _ _ _ e e' => e.trans e') h'.nicks⟩
theorem refl_of (hn : (AMap.keys c.nicks).Nodup) : ChanEq c c := ⟨rfl, MEq.refl (fun _ => rfl) hn⟩

/-- the second channel is the first one with another member map (see `SessEq.exists_with`) -/
theorem exists_with (h : ChanEq c c') : ∃ n, c' = { c with nicks := n } := by
  refine ⟨c'.nicks, ?_⟩
  have := h.scal
  cases c; cases c'
  simp only [Channel.scal, Channel.mk.injEq] at this ⊢
  simp only [this, and_self]

theorem proj {α : Type} (h : ChanEq c c') (f : Channel → α) (hf : ∀ t, f t.scal = f t := by intro; rfl) : f c' = f c := by
  rw [← hf c', ← hf c, h.scal]

theorem name (h : ChanEq c c') : c'.name = c.name := h.proj _
theorem topicNick (h : ChanEq c c') : c'.topicNick = c.topicNick := h.proj _
theorem topicTime (h : ChanEq c c') : c'.topicTime = c.topicTime := h.proj _

theorem get_nicks (h : ChanEq c c') (k : String) : AMap.get c'.nicks k = AMap.get c.nicks k := h.nicks.get_eq k
theorem contains_nicks (h : ChanEq c c') (k : String) : AMap.contains c'.nicks k = AMap.contains c.nicks k :=
  h.nicks.contains_eq k
theorem length_nicks (h : ChanEq c c') : c'.nicks.length = c.nicks.length := h.nicks.length_eq
theorem keys_perm (h : ChanEq c c') : (AMap.keys c.nicks).Perm (AMap.keys c'.nicks) := h.nicks.keys_perm
theorem nicks_perm (h : ChanEq c c') : c.nicks.Perm c'.nicks := h.nicks.perm

theorem upd (h : ChanEq c c') (f : Channel → Channel) (hs : ∀ t, (f t).scal = (f t.scal).scal)
    (hn : ∀ t, (f t).nicks = t.nicks) : ChanEq (f c) (f c') := by
  refine ⟨?_, by rw [hn, hn]; exact h.nicks⟩
  rw [hs c', hs c, h.scal]

theorem withNicks (h : ChanEq c c') {n n' : AMap String Member} (hn : MEq (fun a b => a = b) n n') :
    ChanEq { c with nicks := n } { c' with nicks := n' } :=
  ⟨h.scal, hn⟩

end ChanEq

structure StEq (st st' : St) : Prop where
  sessions : MEq SessEq st.sessions st'.sessions
  nicks : MEq (fun (a b : Id) => a = b) st.nicks st'.nicks
  channels : MEq ChanEq st.channels st'.channels
  svsholds : MEq (fun (a b : SvsHold) => a = b) st.svsholds st'.svsholds
  serverSessions : st.serverSessions.Perm st'.serverSessions
  lastProcessed : st'.lastProcessed = st.lastProcessed
  serverName : st'.serverName = st.serverName
  config : st'.config = st.config
  ckey : ∀ lc ch, AMap.get st.channels lc = some ch → chanToLower ch.name = lc

namespace StEq
variable {st st' st'' : St}

theorem ckey' (h : StEq st st') : ∀ lc ch, AMap.get st'.channels lc = some ch → chanToLower ch.name = lc := by
  intro lc ch' hg
  have := h.channels.rel lc
  rw [hg] at this
  obtain ⟨ch, hg0, hr⟩ := this.of_some'
  obtain ⟨n, rfl⟩ := hr.exists_with
  exact h.ckey lc ch hg0

theorem symm (h : StEq st st') : StEq st' st :=
  ⟨h.sessions.symm (fun _ _ a => SessEq.symm a), h.nicks.symm (fun _ _ e => e.symm),
   h.channels.symm (fun _ _ a => ChanEq.symm a), h.svsholds.symm (fun _ _ e => e.symm), h.serverSessions.symm,
   h.lastProcessed.symm, h.serverName.symm, h.config.symm, h.ckey'⟩

theorem trans (h : StEq st st') (h' : StEq st' st'') : StEq st st'' :=
  ⟨h.sessions.trans (fun _ _ _ a b => SessEq.trans a b) h'.sessions, h.nicks.trans (fun _ _ _ e e' => e.trans e') h'.nicks,
   h.channels.trans (fun _ _ _ a b => ChanEq.trans a b) h'.channels,
   h.svsholds.trans (fun _ _ _ e e' => e.trans e') h'.svsholds, h.serverSessions.trans h'.serverSessions,
   h'.lastProcessed.trans h.lastProcessed, h'.serverName.trans h.serverName, h'.config.trans h.config, h.ckey⟩

theorem refl_left (h : StEq st st') : StEq st st := h.trans h.symm

theorem get_nicks (h : StEq st st') (k : String) : AMap.get st'.nicks k = AMap.get st.nicks k := h.nicks.get_eq k
theorem contains_nicks (h : StEq st st') (k : String) : AMap.contains st'.nicks k = AMap.contains st.nicks k :=
  h.nicks.contains_eq k
theorem get_svsholds (h : StEq st st') (k : String) : AMap.get st'.svsholds k = AMap.get st.svsholds k :=
  h.svsholds.get_eq k

end StEq

structure OutEq (o o' : Out) : Prop where
  id : o'.id = o.id
  reply : o'.reply = o.reply
  data : o'.data = o.data
  rcpt : o.rcpt.Perm o'.rcpt

namespace OutEq
theorem refl (o : Out) : OutEq o o := ⟨rfl, rfl, rfl, List.Perm.refl _⟩
theorem symm {o o' : Out} (h : OutEq o o') : OutEq o' o := ⟨h.id.symm, h.reply.symm, h.data.symm, h.rcpt.symm⟩
theorem trans {o o' o'' : Out} (h : OutEq o o') (h' : OutEq o' o'') : OutEq o o'' :=
  ⟨h'.id.trans h.id, h'.reply.trans h.reply, h'.data.trans h.data, h.rcpt.trans h'.rcpt⟩
end OutEq

/-- output batches: same length, pairwise equivalent (the order of the messages matters) -/
abbrev OutsEq (l l' : List Out) : Prop := All2 OutEq l l'

theorem OutsEq.refl (l : List Out) : OutsEq l l := All2.refl_on fun o _ => OutEq.refl o
theorem OutsEq.symm {l l' : List Out} (h : OutsEq l l') : OutsEq l' l := All2.symm (R := OutEq) (fun _ _ h1 => h1.symm) h
theorem OutsEq.trans {l l' l'' : List Out} (h : OutsEq l l') (h' : OutsEq l' l'') : OutsEq l l'' :=
  All2.trans (R := OutEq) (S := OutEq) (T := OutEq) (fun _ _ _ h1 h2 => h1.trans h2) h h'

structure CEq (c c' : Ctx) : Prop where
  st : StEq c.st c'.st
  msgid : c'.msgid = c.msgid
  replyid : c'.replyid = c.replyid
  out : OutsEq c.out c'.out

namespace CEq
variable {c c' c'' : Ctx}

theorem symm (h : CEq c c') : CEq c' c := ⟨h.st.symm, h.msgid.symm, h.replyid.symm, h.out.symm⟩
theorem trans (h : CEq c c') (h' : CEq c' c'') : CEq c c'' :=
  ⟨h.st.trans h'.st, h'.msgid.trans h.msgid, h'.replyid.trans h.replyid, h.out.trans h'.out⟩
theorem refl_left (h : CEq c c') : CEq c c := h.trans h.symm

theorem serverName (h : CEq c c') : c'.st.serverName = c.st.serverName := h.st.serverName
theorem config (h : CEq c c') : c'.st.config = c.st.config := h.st.config

theorem withSt (h : CEq c c') {st st' : St} (hs : StEq st st') : CEq { c with st := st } { c' with st := st' } :=
  ⟨hs, h.msgid, h.replyid, h.out⟩

end CEq

/-! a context together with a value (the helpers of MODE and JOIN return both) -/

theorem mrel_ok {α : Type} {a a' : Ctx} {b : α} (h : CEq a a') :
    RRel (fun (r r' : Ctx × α) => CEq r.1 r'.1 ∧ r.2 = r'.2) (pure (a, b)) (pure (a', b)) := .ok ⟨h, rfl⟩

theorem RRel.bind_ctx {α β β' : Type} {S : β → β' → Prop} {x y : Res (Ctx × α)} {f : Ctx × α → Res β}
    {g : Ctx × α → Res β'} (h : RRel (fun r r' => CEq r.1 r'.1 ∧ r.2 = r'.2) x y)
    (hf : ∀ c c' a, CEq c c' → RRel S (f (c, a)) (g (c', a))) : RRel S (x >>= f) (y >>= g) := by
  refine RRel.bind h (fun r r' hr => ?_)
  obtain ⟨c, a⟩ := r
  obtain ⟨c', a'⟩ := r'
  obtain ⟨hc, he⟩ := hr
  cases he
  exact hf c c' a hc

structure Channel.Equiv (c c' : Channel) : Prop where
  scal : c'.scal = c.scal
  nicks : c.nicks.Perm c'.nicks

abbrev Session.Equiv (s s' : Session) : Prop := SessEq s s'

structure St.Equiv (st st' : St) : Prop where
  sessions : PermR (EntryRel Session.Equiv) st.sessions st'.sessions
  nicks : st.nicks.Perm st'.nicks
  channels : PermR (EntryRel Channel.Equiv) st.channels st'.channels
  svsholds : st.svsholds.Perm st'.svsholds
  serverSessions : st.serverSessions.Perm st'.serverSessions
  lastProcessed : st'.lastProcessed = st.lastProcessed
  serverName : st'.serverName = st.serverName
  config : st'.config = st.config

instance : HasEquiv St := ⟨St.Equiv⟩
instance : HasEquiv Out := ⟨OutEq⟩

theorem St.equiv_def {st st' : St} : st ≈ st' ↔ St.Equiv st st' := Iff.rfl

namespace Channel.Equiv
theorem refl (c : Channel) : Channel.Equiv c c := ⟨rfl, List.Perm.refl _⟩
theorem symm {c c' : Channel} (h : Channel.Equiv c c') : Channel.Equiv c' c := ⟨h.scal.symm, h.nicks.symm⟩
theorem trans {c c' c'' : Channel} (h : Channel.Equiv c c') (h' : Channel.Equiv c' c'') : Channel.Equiv c c'' :=
  ⟨h'.scal.trans h.scal, h.nicks.trans h'.nicks⟩
end Channel.Equiv

theorem EntryRel.refl {κ ν : Type} {R : ν → ν → Prop} (hR : ∀ a, R a a) (e : κ × ν) : EntryRel R e e := ⟨rfl, hR _⟩
theorem EntryRel.symm {κ ν : Type} {R : ν → ν → Prop} (hR : ∀ a b, R a b → R b a) {e e' : κ × ν}
    (h : EntryRel R e e') : EntryRel R e' e := ⟨h.1.symm, hR _ _ h.2⟩
theorem EntryRel.trans {κ ν : Type} {R : ν → ν → Prop} (hR : ∀ a b c, R a b → R b c → R a c) {e e' e'' : κ × ν}
    (h : EntryRel R e e') (h' : EntryRel R e' e'') : EntryRel R e e'' := ⟨h.1.trans h'.1, hR _ _ _ h.2 h'.2⟩

namespace St.Equiv

theorem refl (st : St) : St.Equiv st st :=
  ⟨PermR.refl (EntryRel.refl SessEq.refl) _, List.Perm.refl _, PermR.refl (EntryRel.refl Channel.Equiv.refl) _,
   List.Perm.refl _, List.Perm.refl _, rfl, rfl, rfl⟩

theorem symm {st st' : St} (h : St.Equiv st st') : St.Equiv st' st :=
  ⟨PermR.symm (R := EntryRel Session.Equiv) (fun _ _ h1 => ⟨h1.1.symm, h1.2.symm⟩) h.sessions, h.nicks.symm,
   PermR.symm (R := EntryRel Channel.Equiv) (fun _ _ h1 => ⟨h1.1.symm, h1.2.symm⟩) h.channels, h.svsholds.symm,
   h.serverSessions.symm, h.lastProcessed.symm, h.serverName.symm, h.config.symm⟩

theorem trans {st st' st'' : St} (h : St.Equiv st st') (h' : St.Equiv st' st'') : St.Equiv st st'' :=
  ⟨PermR.trans (R := EntryRel Session.Equiv) (fun _ _ _ h1 h2 => ⟨h1.1.trans h2.1, h1.2.trans h2.2⟩)
     h.sessions h'.sessions,
   h.nicks.trans h'.nicks,
   PermR.trans (R := EntryRel Channel.Equiv) (fun _ _ _ h1 h2 => ⟨h1.1.trans h2.1, h1.2.trans h2.2⟩)
     h.channels h'.channels,
   h.svsholds.trans h'.svsholds, h.serverSessions.trans h'.serverSessions,
   h'.lastProcessed.trans h.lastProcessed, h'.serverName.trans h.serverName, h'.config.trans h.config⟩

end St.Equiv

theorem St.equiv_equivalence : Equivalence (fun (a b : St) => a ≈ b) :=
  ⟨St.Equiv.refl, St.Equiv.symm, St.Equiv.trans⟩

theorem Out.equiv_equivalence : Equivalence (fun (a b : Out) => a ≈ b) :=
  ⟨OutEq.refl, OutEq.symm, OutEq.trans⟩

/-- the `svsholds` map has duplicate-free keys (not part of `GInv`; preserved by every entry) -/
def HoldsNodup (st : St) : Prop := (AMap.keys st.svsholds).Nodup

theorem ChanEq.toEquiv {c c' : Channel} (h : ChanEq c c') : Channel.Equiv c c' := ⟨h.scal, h.nicks.perm⟩

theorem Channel.Equiv.toChanEq {c c' : Channel} (h : Channel.Equiv c c') (hn : (AMap.keys c.nicks).Nodup) :
    ChanEq c c' := ⟨h.scal, MEq.ofPerm h.nicks hn⟩

theorem StEq.toEquiv {st st' : St} (h : StEq st st') : St.Equiv st st' :=
  ⟨h.sessions.toPermR, h.nicks.perm,
   h.channels.toPermR.mono (fun _ _ hab => ⟨hab.1, hab.2.toEquiv⟩), h.svsholds.perm, h.serverSessions,
   h.lastProcessed, h.serverName, h.config⟩

theorem St.Equiv.toStEq {st st' : St} (h : St.Equiv st st') (hI : WInvCore st) (hS : HoldsNodup st) : StEq st st' := by
  refine ⟨MEq.ofPermR h.sessions hI.sessNodup, MEq.ofPerm h.nicks hI.nickNodup, ?_, MEq.ofPerm h.svsholds hS,
    h.serverSessions, h.lastProcessed, h.serverName, h.config, fun lc ch hg => (hI.chans lc ch hg).1⟩
  have h1 : MEq Channel.Equiv st.channels st'.channels := MEq.ofPermR h.channels hI.chanNodup
  refine ⟨h1.nd, h1.nd', fun k => ?_⟩
  have hk := h1.rel k
  generalize hg : AMap.get st.channels k = o at hk
  generalize hg' : AMap.get st'.channels k = o' at hk
  cases hk with
  | nn => exact .nn
  | ss hr => exact .ss (hr.toChanEq (hI.chans k _ hg).2.1)

end Robust.Irc
