import Robust.Irc.Proofs.H2Base
import Robust.Irc.Proofs.ChanModeSteps
/-!
The guards of the privileged client commands (property C13).

`Refused c c' sid`: the handler left the replicated state as it was and everything it appended to
the output batch is addressed to the acting session only.  For each of `KICK`, `INVITE`, `TOPIC`,
`KILL`, `GLINE`, `PRIVMSG/NOTICE $…`, `OPER`, `SERVER` one lemma `cmdX_guard` (`cmdOper_cases` for `OPER`):
whenever the handler returns, either its privilege condition holds or the result is `Refused`.
-/
namespace Robust.Irc
open Robust AMap

def memberOf (st : St) (nick lc : String) : Option Member :=
  match AMap.get st.channels lc with
  | some ch => AMap.get ch.nicks (nickToLower nick)
  | none => none

def chanOpOf (st : St) (nick lc : String) : Bool :=
  match memberOf st nick lc with
  | some mem => mem.chanop
  | none => false

theorem memberOf_of_get {st : St} {nick lc : String} {ch : Channel} (hch : AMap.get st.channels lc = some ch) :
    memberOf st nick lc = AMap.get ch.nicks (nickToLower nick) := by
  unfold memberOf
  rw [hch]

theorem chanOpOf_of_get {st : St} {nick lc : String} {ch : Channel} {mem : Member}
    (hch : AMap.get st.channels lc = some ch) (hm : AMap.get ch.nicks (nickToLower nick) = some mem) :
    chanOpOf st nick lc = mem.chanop := by
  unfold chanOpOf
  rw [memberOf_of_get hch, hm]

theorem Bool.eq_true_of_not_bnot {b : Bool} (h : ¬(!b) = true) : b = true := by
  cases b
  · exact absurd rfl h
  · rfl

/-! The guard lemmas have the form `(h c sid m).Sat fun c' => G ∨ Refused c c' sid`: a branch either
answers the actor and stops, or lies behind the test of `G`, and then nothing more is claimed. -/

theorem Res.Sat.refused {G : Prop} {c : Ctx} {sid : Id} {m : IrcMsg} :
    (Pure.pure (sendUser c sid m) : Res Ctx).Sat fun c' => G ∨ Refused c c' sid :=
  Res.Sat.pure (.inr (.reply c sid m))

theorem Res.Sat.allowed {G : Prop} {c : Ctx} {sid : Id} {r : Res Ctx} (h : G) : r.Sat fun c' => G ∨ Refused c c' sid :=
  fun _ _ => .inl h

/-- KICK does more than send the actor a numeric only if the actor is a channel operator of that
channel (a member of an existing channel, with the flag) -/
theorem cmdKick_guard {c : Ctx} {sid : Id} {m : IrcMsg} {s : Session} {chn : String}
    (hs : AMap.get c.st.sessions sid = some s) (hp0 : m.params[0]? = some chn) :
    (cmdKick c sid m).Sat fun c' => chanOpOf c.st s.nick (chanToLower chn) = true ∨ Refused c c' sid := by
  unfold cmdKick
  refine .bindEq (getS_of_get hs) (.bindEq (param_of_some hp0) (.bind fun target _ => ?_))
  dsimp only
  cases hch : getChan c (chanToLower chn) with
  | none => exact .refused
  | some ch =>
    dsimp only
    cases hmem : AMap.get ch.nicks (nickToLower s.nick) with
    | none => exact .refused
    | some perms =>
      refine .ite (fun _ => .refused) fun hop => .allowed ?_
      rw [chanOpOf_of_get hch hmem]
      exact Bool.eq_true_of_not_bnot hop

/-- INVITE does more than send the actor a numeric only if the actor is on the channel, and is a
channel operator of it if the channel is invite-only -/
theorem cmdInvite_guard {c : Ctx} {sid : Id} {m : IrcMsg} {s : Session} {chn : String}
    (hs : AMap.get c.st.sessions sid = some s) (hp1 : m.params[1]? = some chn) :
    (cmdInvite c sid m).Sat fun c' =>
      (∃ ch mem, AMap.get c.st.channels (chanToLower chn) = some ch ∧
        memberOf c.st s.nick (chanToLower chn) = some mem ∧ (ch.modes.contains 'i' = true → mem.chanop = true)) ∨
      Refused c c' sid := by
  unfold cmdInvite
  refine .bindEq (getS_of_get hs) (.bind fun nickname _ => .bindEq (param_of_some hp1) ?_)
  dsimp only
  cases hch : getChan c (chanToLower chn) with
  | none => exact .refused
  | some ch =>
    dsimp only
    cases hmem : AMap.get ch.nicks (nickToLower s.nick) with
    | none => exact .refused
    | some mem =>
      dsimp only
      cases AMap.get c.st.nicks (nickToLower nickname) with
      | none => exact .refused
      | some tid =>
        refine .bind fun t _ => .ite (fun _ => .refused) fun _ => ?_
        refine .ite (fun _ => .refused) fun hi => .allowed ?_
        refine ⟨ch, mem, hch, (memberOf_of_get hch).trans hmem, fun h => ?_⟩
        rw [h, Bool.true_and] at hi
        exact Bool.eq_true_of_not_bnot hi

/-- TOPIC does more than answer the actor only if the actor lists the channel, and is a channel
operator of it if the channel is `+t` (a query is answered to the actor in any case) -/
theorem cmdTopic_guard {c : Ctx} {sid : Id} {m : IrcMsg} {s : Session} {chn : String}
    (hs : AMap.get c.st.sessions sid = some s) (hp0 : m.params[0]? = some chn) :
    (cmdTopic c sid m).Sat fun c' =>
      (s.channels.contains (chanToLower chn) = true ∧ ∃ ch, AMap.get c.st.channels (chanToLower chn) = some ch ∧
        (ch.modes.contains 't' = true → chanOpOf c.st s.nick (chanToLower chn) = true)) ∨
      Refused c c' sid := by
  refine (cmdTopic_result c sid m).mono fun c' ⟨s', chn', hs', hp0', h⟩ => ?_
  obtain rfl : s = s' := Option.some.inj (hs.symm.trans hs')
  obtain rfl : chn = chn' := Option.some.inj (hp0.symm.trans hp0')
  cases h with
  | noChannel | notOn | notOp | unset => exact .inr (.reply c sid _)
  | shown => exact .inr ((Refused.reply c sid _).sendUser _)
  | cleared hc hon _ hmay | set hc hon _ _ hmay =>
    refine .inl ⟨Bool.eq_true_of_not_bnot hon, _, hc, fun ht => ?_⟩
    obtain ⟨mem, hm, hop⟩ := hmay ht
    rw [chanOpOf_of_get hc hm]
    exact Bool.eq_true_of_not_bnot hop

theorem cmdKill_guard {c : Ctx} {sid : Id} {m : IrcMsg} {s : Session} (hs : AMap.get c.st.sessions sid = some s) :
    (cmdKill c sid m).Sat fun c' => s.operator = true ∨ Refused c c' sid := by
  unfold cmdKill
  refine .bindEq (getS_of_get hs) ?_
  exact .ite (fun _ => .refused) fun hop => .allowed (Bool.eq_true_of_not_bnot hop)

theorem cmdGline_guard {c : Ctx} {sid : Id} {m : IrcMsg} {s : Session} (hs : AMap.get c.st.sessions sid = some s) :
    (cmdGline c sid m).Sat fun c' => s.operator = true ∨ Refused c c' sid := by
  unfold cmdGline
  refine .bindEq (getS_of_get hs) ?_
  exact .ite (fun _ => .refused) fun hop => .allowed (Bool.eq_true_of_not_bnot hop)

/-- PRIVMSG / NOTICE to a `$…` target (network-wide notice) reaches others only from an IRC operator -/
theorem cmdPrivmsg_dollar_guard {c : Ctx} {sid : Id} {m : IrcMsg} {s : Session} {p0 : String}
    (hs : AMap.get c.st.sessions sid = some s) (hp0 : m.params[0]? = some p0)
    (hh : hasPrefix p0 "#" = false) (hd : hasPrefix p0 "$" = true) :
    (cmdPrivmsg c sid m).Sat fun c' => s.operator = true ∨ Refused c c' sid := by
  unfold cmdPrivmsg
  refine .bindEq (getS_of_get hs) ?_
  refine .ite (fun _ => .refused) fun _ => .ite (fun _ => .refused) fun _ => ?_
  refine .bindEq (param_of_some hp0) ?_
  rw [hh, hd]
  exact .ite (fun h => absurd h Bool.false_ne_true) fun _ => .ite
    (fun _ => .ite (fun hop => .allowed hop) fun _ => .refused) fun h => absurd rfl h

/-- OPER: refused unless the pair is configured; then exactly the actor gets the operator flag and
user mode `o` -/
theorem cmdOper_cases {c : Ctx} {sid : Id} {m : IrcMsg} {s : Session} {name password : String}
    (hs : AMap.get c.st.sessions sid = some s) (hp0 : m.params[0]? = some name) (hp1 : m.params[1]? = some password) :
    (cmdOper c sid m).Sat fun c' =>
      (operListed c.st.config name password = true ∧
        c'.st = (putS c { s with operator := true, modes := modeSet s.modes 'o' true }).st) ∨
      (operListed c.st.config name password = false ∧ Refused c c' sid) := by
  unfold cmdOper
  refine .bindEq (getS_of_get hs) (.bindEq (param_of_some hp0) (.bindEq (param_of_some hp1) ?_))
  refine .ite (fun hno => .pure (.inr ⟨?_, .reply c sid _⟩)) fun hyes => ?_
  · cases h : operListed c.st.config name password
    · rfl
    · exact absurd hno (by unfold operListed at h; rw [h]; exact Bool.false_ne_true)
  · refine .bindEq (modS_of_get _ hs) (.bind fun s1 _ => .pure (.inl ⟨Bool.eq_true_of_not_bnot hyes, rfl⟩))

theorem cmdOper_granted {c c' : Ctx} {sid : Id} {m : IrcMsg} {s : Session} {name password : String}
    (hs : AMap.get c.st.sessions sid = some s) (hp0 : m.params[0]? = some name) (hp1 : m.params[1]? = some password)
    (hyes : operListed c.st.config name password = true)
    (hr : cmdOper c sid m = .ok c') :
    c'.st = (putS c { s with operator := true, modes := modeSet s.modes 'o' true }).st := by
  rcases (cmdOper_cases hs hp0 hp1).apply hr with h | h
  · exact h.2
  · rw [hyes] at h
    exact absurd h.1 (by decide)

/-- SERVER without a configured services password in `s.pass`: `ERROR :Invalid password` to the
actor, the session is neither promoted nor closed -/
theorem cmdServer_guard {c : Ctx} {sid : Id} {m : IrcMsg} {s : Session} (hs : AMap.get c.st.sessions sid = some s) :
    (cmdServer c sid m).Sat fun c' => servicesAuth c.st.config s.pass = true ∨ Refused c c' sid := by
  unfold cmdServer
  refine .bindEq (getS_of_get hs) ?_
  exact .ite (fun _ => .refused) fun hok => .allowed (Bool.eq_true_of_not_bnot hok)

end Robust.Irc
