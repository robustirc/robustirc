import Robust.Irc.Proofs.NInv
import Robust.Irc.Proofs.H2Base
/-!
C12, part 1: the recipient sets computed by the `send*` helpers of ircserver.go
(`rcChannel`, `rcChannelButOne`, `rcCommonChannels`, `rcUser`, `rcAllUsers`, `rcServices`).

Recipients are *numeric* session ids (`Out.rcpt : List Nat`, Go's `InterestingFor`): a services
pseudo-client `⟨link, k⟩` is reached through its link `⟨link, 0⟩`, so "session `id` receives the line"
is `id.id ∈ rcpt`.  `IdsOf rc S` says that the list `rc` denotes the set `S` of sessions in this sense.

Each of the three channel helpers has one specification, under `WInv`, in terms of the sessions *on* a channel
(`OnChan`: indexed and listing it); between entries (`Inv` + `NInv`) these are the stored sessions listing it
(`Lists`), and `IdsOf.congr` carries a specification from one description of the set to another.  `rcUser` is
`IdsOf.user`; `rcAllUsers` is read through `mem_rcAllUsers`, and `rcServices` is the list `serverSessions` itself
(the line types keep these two as lists: `o.rcpt = rcAllUsers st`, `RcptIs o S st.serverSessions`).
-/
namespace Robust.Irc
open Robust AMap

theorem mapRes_eq_map {α β : Type} {f : α → Res β} {g : α → β} {l : List α}
    (h : ∀ a ∈ l, f a = Res.ok (g a)) : mapRes f l = Res.ok (l.map g) := by
  induction l with
  | nil => rfl
  | cons a t ih =>
    have h1 := h a (List.mem_cons_self ..)
    have h2 := ih (fun x hx => h x (List.mem_cons_of_mem _ hx))
    simp [mapRes, h1, h2]

theorem mapRes_length {α β : Type} {f : α → Res β} {l : List α} {bs : List β} (h : mapRes f l = Res.ok bs) :
    bs.length = l.length := by
  induction l generalizing bs with
  | nil => cases h; rfl
  | cons x t ih =>
    unfold mapRes at h
    obtain ⟨b0, hb0, h⟩ := Res.bind_eq_ok.1 h
    obtain ⟨bs0, hbs0, h⟩ := Res.bind_eq_ok.1 h
    cases h
    simp [ih hbs0]

theorem nickId_eq_ok {st : St} {x : String} {n : Nat} :
    nickId st x = Res.ok n ↔ ∃ id, AMap.get st.nicks x = some id ∧ id.id = n := by
  unfold nickId
  cases AMap.get st.nicks x with
  | none => simp
  | some id => simp

theorem mem_rcUser {sid : Id} {n : Nat} : n ∈ rcUser sid ↔ n = sid.id := by simp [rcUser]

/-- `sendAllUsers` (the `$`-broadcast of an operator): every indexed session -/
theorem mem_rcAllUsers {st : St} (hn : (AMap.keys st.nicks).Nodup) {n : Nat} :
    n ∈ rcAllUsers st ↔ ∃ x id, AMap.get st.nicks x = some id ∧ id.id = n := by
  unfold rcAllUsers
  simp only [List.mem_map]
  constructor
  · rintro ⟨⟨x, id⟩, he, rfl⟩
    exact ⟨x, id, (AMap.get_iff_mem hn).2 he, rfl⟩
  · rintro ⟨x, id, h1, rfl⟩
    exact ⟨(x, id), AMap.mem_of_get h1, rfl⟩

def IdsOf (rc : List Nat) (S : Id → Prop) : Prop := ∀ n, n ∈ rc ↔ ∃ id, S id ∧ id.id = n

namespace IdsOf
variable {rc rc' : List Nat} {S T : Id → Prop}

theorem congr (h : IdsOf rc S) (hs : ∀ id, S id ↔ T id) : IdsOf rc T :=
  fun n => (h n).trans (exists_congr fun id => and_congr_left fun _ => hs id)

theorem user (tid : Id) : IdsOf (rcUser tid) (· = tid) := fun _ =>
  mem_rcUser.trans ⟨fun h => ⟨tid, rfl, h.symm⟩, fun ⟨_, h1, h2⟩ => (h1 ▸ h2).symm⟩

theorem append (h1 : IdsOf rc S) (h2 : IdsOf rc' T) : IdsOf (rc ++ rc') fun id => S id ∨ T id := by
  intro n
  rw [List.mem_append, h1 n, h2 n]
  constructor
  · rintro (⟨id, h, e⟩ | ⟨id, h, e⟩)
    · exact ⟨id, Or.inl h, e⟩
    · exact ⟨id, Or.inr h, e⟩
  · rintro ⟨id, h | h, e⟩
    · exact Or.inl ⟨id, h, e⟩
    · exact Or.inr ⟨id, h, e⟩

end IdsOf

def OnChan (st : St) (lc : String) (id : Id) : Prop :=
  ∃ x s, AMap.get st.nicks x = some id ∧ AMap.get st.sessions id = some s ∧ lc ∈ s.channels

def Lists (st : St) (lc : String) (id : Id) : Prop :=
  ∃ s, AMap.get st.sessions id = some s ∧ lc ∈ s.channels

theorem OnChan.lists {st : St} {lc : String} {id : Id} (h : OnChan st lc id) : Lists st lc id := by
  obtain ⟨_, s, _, h2, h3⟩ := h
  exact ⟨s, h2, h3⟩

/-- between entries (`Inv`: no session is flagged deleted; `NI`: a nickless session lists no channel)
every session that lists a channel is indexed -/
theorem onChan_iff_lists {st : St} (hi : Inv st) (hn : NI st) {lc : String} {id : Id} :
    OnChan st lc id ↔ Lists st lc id := by
  refine ⟨OnChan.lists, ?_⟩
  rintro ⟨s, hs, hl⟩
  have hnick : s.nick ≠ "" := by
    intro he
    have := (hn.sess id s hs).1 he
    rw [this] at hl; cases hl
  exact ⟨nickToLower s.nick, s, hi.owns id s hs (hi.noDeleted id s hs) hnick, hs, hl⟩

theorem WInv.memberKey_iff {st : St} (h : WInv st) {lc : String} {ch : Channel}
    (hc : AMap.get st.channels lc = some ch) {id : Id} :
    (∃ x, x ∈ AMap.keys ch.nicks ∧ AMap.get st.nicks x = some id) ↔ OnChan st lc id := by
  constructor
  · rintro ⟨x, hx, hi⟩
    obtain ⟨id', s, h1, h2, h3⟩ := (h.chans lc ch hc).2.2 x hx
    rw [hi] at h1; cases h1
    exact ⟨x, s, hi, h2, h3⟩
  · rintro ⟨x, s, hi, hs, hl⟩
    obtain ⟨c', hc', hcont⟩ := h.member x id s hi hs lc hl
    rw [hc] at hc'; cases hc'
    exact ⟨x, AMap.contains_iff_mem_keys.1 hcont, hi⟩

theorem rcChannel_ids {st : St} (h : WInv st) {lc : String} {ch : Channel}
    (hc : AMap.get st.channels lc = some ch) {rc : List Nat} (hr : rcChannel st ch = .ok rc) :
    IdsOf rc (OnChan st lc) := by
  intro n
  unfold rcChannel at hr
  rw [mapRes_mem_iff hr]
  constructor
  · rintro ⟨x, hx, hf⟩
    obtain ⟨id, h1, h2⟩ := nickId_eq_ok.1 hf
    exact ⟨id, (h.memberKey_iff hc).1 ⟨x, hx, h1⟩, h2⟩
  · rintro ⟨id, ho, he⟩
    obtain ⟨x, hx, hi⟩ := (h.memberKey_iff hc).2 ho
    exact ⟨x, hx, nickId_eq_ok.2 ⟨id, hi, he⟩⟩

theorem rcChannelButOne_ids {st : St} (h : WInv st) {lc : String} {ch : Channel}
    (hc : AMap.get st.channels lc = some ch) {user : Id} {rc : List Nat}
    (hr : rcChannelButOne st ch user = .ok rc) : IdsOf rc fun id => OnChan st lc id ∧ id ≠ user := by
  intro n
  unfold rcChannelButOne at hr
  obtain ⟨l, hl, hr⟩ := Res.bind_eq_ok.1 hr
  cases hr
  simp only [List.mem_map, List.mem_filter, decide_eq_true_eq]
  have key : ∀ id, id ∈ l ↔ OnChan st lc id := fun id => by
    rw [mapRes_mem_iff hl, ← h.memberKey_iff hc]
    refine exists_congr fun x => and_congr_right fun _ => ?_
    cases AMap.get st.nicks x <;> simp
  exact exists_congr fun id => by rw [key]

/-- **sendCommonChannels** for an arbitrary session *value* `u` (stored or not, flagged deleted or not):
exactly the sessions that are on one of the channels `u` lists (missing channels are skipped) -/
theorem rcCommonChannels_ids {st : St} (h : WInv st) {u : Session} {rc : List Nat}
    (hr : rcCommonChannels st u = .ok rc) : IdsOf rc fun id => ∃ lc ∈ u.channels, OnChan st lc id := by
  intro n
  unfold rcCommonChannels at hr
  obtain ⟨ls, hls, hr⟩ := Res.bind_eq_ok.1 hr
  cases hr
  simp only [List.mem_flatten]
  constructor
  · rintro ⟨l, hl, hn⟩
    obtain ⟨lc, hlc, hf⟩ := (mapRes_mem_iff hls).1 hl
    cases hg : AMap.get st.channels lc with
    | none => rw [hg] at hf; cases hf; cases hn
    | some ch =>
      rw [hg] at hf
      obtain ⟨id, ho, he⟩ := (rcChannel_ids h hg hf n).1 hn
      exact ⟨id, ⟨lc, hlc, ho⟩, he⟩
  · rintro ⟨id, ⟨lc, hlc, x, s, hi, hs, hl⟩, he⟩
    obtain ⟨ch, hg, _⟩ := h.member x id s hi hs lc hl
    obtain ⟨l, hl'⟩ := rcChannel_ok h.toWInvCore hg
    refine ⟨l, (mapRes_mem_iff hls).2 ⟨lc, hlc, by rw [hg]; exact hl'⟩, ?_⟩
    exact (rcChannel_ids h hg hl' n).2 ⟨id, ⟨x, s, hi, hs, hl⟩, he⟩

theorem rcCommonChannels_self {st : St} (h : WInv st) {x : String} {id : Id} {u : Session}
    (hi : AMap.get st.nicks x = some id) (hs : AMap.get st.sessions id = some u) {lc : String}
    (hl : lc ∈ u.channels) {ids : List Nat} (hr : rcCommonChannels st u = Res.ok ids) : id.id ∈ ids :=
  (rcCommonChannels_ids h hr id.id).2 ⟨id, ⟨lc, hl, x, u, hi, hs, hl⟩, rfl⟩

end Robust.Irc
