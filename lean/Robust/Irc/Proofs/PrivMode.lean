import Robust.Irc.Proofs.Priv
/-!
The guard of `MODE` (property C13).  On a channel the actor is on, an actor that is neither channel
operator of it nor IRC operator changes nothing — whatever the mode string: every letter of a
multi-letter mode string, with or without parameters, `+b`/`-b` with a mask; only the ban-list
query (`+b` without a mask) is answered, to the actor.  Off the channel the handler treats the
target as a nickname and never touches a channel.
-/
namespace Robust.Irc
open Robust AMap

/-- one mode change without the privilege: either refused with 482 (`ret = true`: the loop stops) or
the ban-list query (`queryOnly` is passed through) -/
theorem applyChanMode_unpriv {c : Ctx} {sid : Id} {s : Session} {lc chn : String} {q : Bool} {mc : ModeCmd} :
    (applyChanMode c sid s lc chn false mc q).Sat fun r => Refused c r.1 sid ∧ (r.2.2 = true ∨ r.2.1 = q) := by
  intro ⟨c', q', ret⟩ hr
  obtain ⟨ch, _, h⟩ := applyChanMode_result hr
  cases h with
  | notOp => exact ⟨.reply c sid _, .inl rfl⟩
  | banList _ _ h1 =>
    subst h1
    exact ⟨(foldl_invariant (I := fun c1 => Refused c c1 sid) _ (.refl c sid) fun _ _ _ h => h.sendUser _).sendUser _,
      .inr rfl⟩

theorem applyChanModes_unpriv {c0 : Ctx} {sid : Id} {s : Session} {lc chn : String} :
    ∀ (l : List ModeCmd) {c : Ctx} {q : Bool}, Refused c0 c sid →
      (applyChanModes c sid s lc chn false l q).Sat fun r => Refused c0 r.1 sid ∧ (r.2.2 = true ∨ r.2.1 = q)
  | [], c, q, hI => by
    unfold applyChanModes
    exact .ok ⟨hI, .inr rfl⟩
  | mc :: rest, c, q, hI => by
    unfold applyChanModes
    refine applyChanMode_unpriv.andThen fun r ⟨hR1, hq1⟩ => ?_
    obtain ⟨c1, q1, r1⟩ := r
    refine .ite (fun _ => .pure ⟨hI.trans hR1, .inl rfl⟩) fun hret => ?_
    refine (applyChanModes_unpriv rest (hI.trans hR1)).mono fun r2 ⟨hR2, hq2⟩ => ⟨hR2, hq2.imp_right fun h => ?_⟩
    exact h.trans (hq1.resolve_left hret)

/-- MODE on a channel the actor is on goes beyond answering the actor only if the actor is a
channel operator there or an IRC operator -/
theorem cmdMode_guard {c : Ctx} {sid : Id} {m : IrcMsg} {s : Session} {chn : String}
    (hs : AMap.get c.st.sessions sid = some s) (hp0 : m.params[0]? = some chn)
    (hon : s.channels.contains (chanToLower chn) = true) :
    (cmdMode c sid m).Sat fun c' =>
      (chanOpOf c.st s.nick (chanToLower chn) = true ∨ s.operator = true) ∨ Refused c c' sid := by
  refine (cmdMode_result c sid m).mono fun c' ⟨s', chn', hs', hp0', h⟩ => ?_
  obtain rfl : s = s' := Option.some.inj (hs.symm.trans hs')
  obtain rfl : chn = chn' := Option.some.inj (hp0.symm.trans hp0')
  have loop : ∀ {ch : Channel} {mem : Member} {c1 : Ctx} {q1 r1 : Bool},
      AMap.get c.st.channels (chanToLower chn) = some ch → AMap.get ch.nicks (nickToLower s.nick) = some mem →
      applyChanModes c sid s (chanToLower chn) chn (mem.chanop || s.operator) (normalizeModes m) true = .ok (c1, q1, r1) →
      (chanOpOf c.st s.nick (chanToLower chn) = true ∨ s.operator = true) ∨
        (Refused c c1 sid ∧ (r1 = true ∨ q1 = true)) := by
    intro ch mem c1 q1 r1 hc hm h1
    cases hop : mem.chanop || s.operator with
    | true => exact .inl (by rw [chanOpOf_of_get hc hm]; exact Bool.or_eq_true_iff.1 hop)
    | false =>
      rw [hop] at h1
      exact .inr ((applyChanModes_unpriv _ (.refl c sid)).apply h1)
  cases h with
  | chanQuery => exact .inr (.reply c sid _)
  | chanQuiet _ hc _ hm h1 => exact (loop hc hm h1).imp_right fun h => h.1
  | chanRelay _ hc _ hm h1 hq =>
    exact (loop hc hm h1).imp_right fun h => h.2.elim (fun e => absurd e hq.1) fun e => absurd e hq.2.1
  | noNick hoff | otherUser hoff | userQuery hoff | userSet hoff => exact absurd hon hoff

/-- MODE naming something the actor is not on: the target is taken as a nickname; no channel is
touched, and nothing at all unless the nickname is the actor's own or the actor is an IRC operator -/
theorem cmdMode_off {c : Ctx} {sid : Id} {m : IrcMsg} {s : Session} {chn : String}
    (hs : AMap.get c.st.sessions sid = some s) (hp0 : m.params[0]? = some chn)
    (hoff : s.channels.contains (chanToLower chn) = false) :
    (cmdMode c sid m).Sat fun c' => c'.st.channels = c.st.channels ∧
      ((nickToLower chn = nickToLower s.nick ∨ s.operator = true) ∨ Refused c c' sid) := by
  refine (cmdMode_result c sid m).mono fun c' ⟨s', chn', hs', hp0', h⟩ => ?_
  obtain rfl : s = s' := Option.some.inj (hs.symm.trans hs')
  obtain rfl : chn = chn' := Option.some.inj (hp0.symm.trans hp0')
  have self : ¬(nickToLower chn != nickToLower s.nick && !s.operator) = true →
      nickToLower chn = nickToLower s.nick ∨ s.operator = true := by
    intro hx
    cases hno : s.operator
    · rw [hno, Bool.not_false, Bool.and_true] at hx
      exact .inl (Decidable.of_not_not (mt bne_iff_ne.2 hx))
    · exact .inr rfl
  cases h with
  | chanQuery hon | chanQuiet hon | chanRelay hon => exact absurd hon (Bool.eq_false_iff.1 hoff)
  | noNick | otherUser => exact ⟨rfl, .inr (.reply c sid _)⟩
  | userQuery _ _ _ hx => exact ⟨rfl, .inl (self hx)⟩
  | userSet _ _ _ hx h1 =>
    obtain ⟨_, _, e⟩ := modS_eq_ok.1 h1
    exact ⟨by rw [e]; rfl, .inl (self hx)⟩

end Robust.Irc
