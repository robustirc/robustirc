import Robust.Irc.Proofs.RcptPrivmsg
/-!
C12: the stages of `processMessage` before the handler, as far as recipients go: which key the dispatch looks up
for a client session and what the gate lets through (`dispatchStage_client`, `gateStage_loggedIn`), and the
remote-address stage when it closes a banned session: one `ERROR` line to it (`AddrRun.closing`).  The theorem about
whole entries, `applyEntry_lines`, is in `RcptApply.lean`.
-/
namespace Robust.Irc
open Robust AMap

theorem dispatchStage_client {c : Ctx} {s : Session} {m : IrcMsg} {command fname : String} {mp : Nat} {h : Handler}
    (hsrv : s.server = false) (hl : lookupCommand command = some (fname, mp)) (hlen : mp ≤ m.params.length)
    (hh : handlerByName fname = some h) : dispatchStage c s m command = h c s.id m := by
  unfold dispatchStage
  simp only [hsrv, Bool.false_eq_true, ↓reduceIte, String.empty_append]
  rw [hl]
  simp only
  rw [if_neg (by omega), hh]

theorem gateStage_loggedIn {c : Ctx} {e : Entry} {m : IrcMsg} {command : String} {s : Session}
    (hs : AMap.get c.st.sessions e.session = some s) (hl : s.loggedIn = true) :
    gateStage c e m command = dispatchStage c s m command := by
  unfold gateStage
  rw [getS_of_get hs]
  simp only [Res.ok_bind]
  rw [if_neg (by simp [hl])]

/-- the address stage closes the session: one `ERROR` line, to that session -/
theorem AddrRun.closing {c c1 : Ctx} {e : Entry} {s : Session} (hi : Inv c.st)
    (hs : AMap.get c.st.sessions e.session = some s) (ha : AddrRun c e s c1 true) :
    NewOut (ToOnly e.session) c c1 := by
  have hid : s.id = e.session := (hi.sessId _ s hs).1
  cases ha with
  | @banned c0 _ _ _ hm _ _ hd =>
    rw [hid] at hm hd
    have hw0 : WInv c0.st := WInv_modS_inert (withAddr e.remoteAddr) (fun _ => ⟨rfl, rfl, rfl, rfl⟩) hi.toWInv hm
    have hg0 := modS_get_self (f := withAddr e.remoteAddr) hs hid hm
    have sp := deleteSession_spec (c := sendUser c0 e.session _) hw0 hg0 (DelPre.of_live (hi.noDeleted _ s hs)) hd
    exact (((NewOut.refl _ c).frame (.modS hm)).sendUser fun _ _ => rfl).frame sp.frame

end Robust.Irc
