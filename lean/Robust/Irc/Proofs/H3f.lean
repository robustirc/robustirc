import Robust.Irc.Proofs.H3a
/-!
KILL, QUIT (services link), SERVER.
-/
namespace Robust.Irc
open Srv
open Robust AMap

variable {G : Prop}

theorem cmdServerKill_wp : SrvWp cmdServerKill 2 := fun c0 c sid m h => by
  unfold cmdServerKill
  refine .bind (getS_wp fun _ => h.post.actorKept) fun s _ _ => .ite (fun _ => .pure (h.sendSvc _)) fun _ => ?_
  dsimp only
  -- the kill prefix is missing only on a line without prefix
  refine .bind (R := fun kp? => kp? = none → m.pfx = none) (.ite (fun _ => .ok id) fun _ => ?_) fun kp? _ hkp =>
    .bind (param_wp fun g => Nat.lt_of_succ_lt g.2) fun p0 _ _ => ?_
  · cases m.pfx with
    | none => exact .panic _ fun g => nomatch g.1
    | some p =>
      dsimp only
      cases List.find? _ _ with
      | some e => exact .ok nofun
      | none => exact .ok nofun
  · cases hidx : AMap.get c.st.nicks (nickToLower p0) with
    | none => exact .pure (h.sendSvc _)
    | some tid =>
      obtain ⟨t, ht, hlive, _⟩ := h.hinv.index _ tid hidx
      refine .bindEq (getS_of_get ht) ?_
      cases kp? with
      | none => exact .panic _ fun g => by rw [hkp rfl] at g; exact nomatch g.1
      | some kp =>
        exact .bind (rcCommonChannels_wp t fun _ => h.hinv.toWInvCore) fun _ _ _ =>
          ((h.sendUser _ _).emit _ _).deleteSession_wp ht (.of_live hlive)

/-- every stored session that is flagged deleted is unindexed (what `deleteSession` needs when
several sessions are deleted in a row) -/
def AllDelPre (st : St) : Prop := ∀ id t, AMap.get st.sessions id = some t → DelPre st t

theorem AllDelPre.of_inv {st : St} (h : Inv st) : AllDelPre st :=
  fun id t ht => DelPre.of_live (h.noDeleted id t ht)

/-- fold invariant of the loop over the pseudo-clients -/
def QuitInv (c0 : Ctx) (sid : Id) (c : Ctx) : Prop := Mid c0 c sid ∧ AllDelPre c.st

theorem QuitInv.of_pre {c : Ctx} {sid : Id} {s : Session} (h : Pre c sid)
    (hs : AMap.get c.st.sessions sid = some s) (hsrv : s.server = true) : QuitInv c sid c :=
  ⟨.of_pre h hs hsrv, .of_inv h.inv⟩

theorem QuitInv.emit {c0 c : Ctx} {sid : Id} (h : QuitInv c0 sid c) (m : IrcMsg) (r : List Nat) :
    QuitInv c0 sid (emit c m r) := ⟨h.1.emit m r, h.2⟩

theorem QuitInv.deleteSession {c0 c c' : Ctx} {sid tid : Id} {t : Session} (h : QuitInv c0 sid c)
    (ht : AMap.get c.st.sessions tid = some t) (hr : deleteSession c tid = Res.ok c') : QuitInv c0 sid c' :=
  ⟨(h.1.deleteSession_wp (G := False) ht (h.2 tid t ht)).sat c' hr,
    deleteSession_delPre h.1.hinv.toWInv ht (h.2 tid t ht) hr h.2⟩

/-- deleting a stored session keeps the fold invariant, and the set of stored sessions (the session is only flagged) -/
theorem QuitInv.deleteSession_wp {c0 c : Ctx} {sid tid : Id} {t : Session} (h : QuitInv c0 sid c)
    (ht : AMap.get c.st.sessions tid = some t) :
    (Robust.Irc.deleteSession c tid).Wp G fun c' =>
      QuitInv c0 sid c' ∧ AMap.keys c'.st.sessions = AMap.keys c.st.sessions :=
  have hw := h.1.hinv.toWInv
  .of_sat (fun _ hr => ⟨h.deleteSession ht hr, (deleteSession_spec hw ht (h.2 tid t ht) hr).keys⟩)
    fun _ => deleteSession_ok hw ht

/-- QUIT does not panic with or without a prefix: without one the link itself quits and all its pseudo-clients are
removed (the line a DeleteSession entry generates) -/
theorem cmdServerQuit_wp {c0 c : Ctx} {sid : Id} {m : IrcMsg} (h : QuitInv c0 sid c) :
    (cmdServerQuit c sid m).Wp True (QuitInv c0 sid) := by
  unfold cmdServerQuit
  refine .bind (getS_wp fun _ => h.1.post.actorKept) fun s _ hs => ?_
  cases m.pfx with
  | none =>
    refine .bind (h.deleteSession_wp hs) fun c1 _ h1 => ?_
    dsimp only
    -- the pseudo-clients listed are stored in `c1`, and stay stored while the others are deleted
    refine Res.Wp.mono (P := fun c2 => QuitInv c0 sid c2 ∧ AMap.keys c2.st.sessions = AMap.keys c1.st.sessions)
      (.foldlM _ ⟨h1.1, rfl⟩ fun c2 tid hmem hP => ?_) fun _ hP => hP.1
    have hk : tid ∈ AMap.keys c2.st.sessions := by
      obtain ⟨e, he, rfl⟩ := List.mem_map.1 (List.mem_mergeSort.1 hmem)
      rw [hP.2]
      exact AMap.mem_keys_of_mem (List.mem_filter.1 he).1
    obtain ⟨t, ht⟩ := AMap.mem_keys_iff_get.1 hk
    exact .bindEq (getS_of_get ht) (.bind (rcCommonChannels_wp t fun _ => hP.1.1.hinv.toWInvCore) fun _ _ _ =>
      ((hP.1.emit _ _).deleteSession_wp ht).mono fun _ h' => ⟨h'.1, h'.2.trans hP.2⟩)
  | some p =>
    dsimp only
    generalize hfind : List.find? _ c.st.sessions = r
    cases r with
    | none => exact .pure h
    | some e =>
      have hget := AMap.get_of_mem_nodup h.1.hinv.sessNodup (List.mem_of_find?_eq_some hfind)
      exact .bind (rcCommonChannels_wp e.2 fun _ => h.1.hinv.toWInvCore) fun _ _ _ =>
        ((h.emit _ _).deleteSession_wp hget).mono fun _ h' => h'.1

/-! ### SERVER (the actor is a client session that becomes a link) -/

theorem serverBurstChan_wp {t : Session} {c0 c : Ctx} {lc : String} (h : Emits c0 c)
    (hm : G → ∃ ch mem, AMap.get c.st.channels lc = some ch ∧ AMap.get ch.nicks (nickToLower t.nick) = some mem) :
    (serverBurstChan t c lc).Wp G (Emits c0) := by
  unfold serverBurstChan
  cases hch : getChan c lc with
  | none =>
    refine .panic _ fun g => ?_
    obtain ⟨_, _, h1, _⟩ := hm g
    rw [getChan_eq, h1] at hch; cases hch
  | some ch =>
    dsimp only
    cases hmem : AMap.get ch.nicks (nickToLower t.nick) with
    | none =>
      refine .panic _ fun g => ?_
      obtain ⟨_, _, h1, h2⟩ := hm g
      rw [getChan_eq, h1] at hch; cases hch
      rw [hmem] at h2; cases h2
    | some mem => exact .ok (h.trans (.sendSvc _ _))

/-- under the gate the nickname is indexed in a well-formed state: its session is stored, and is a member of every
channel in its list -/
theorem serverBurstNick_wp {c : Ctx} {nick : String} (hg : G → WInv c.st ∧ nick ∈ AMap.keys c.st.nicks) :
    (serverBurstNick c nick).Wp G (Emits c) := by
  unfold serverBurstNick
  cases hidx : AMap.get c.st.nicks nick with
  | none =>
    refine .panic _ fun g => ?_
    obtain ⟨_, h1⟩ := AMap.mem_keys_iff_get.1 (hg g).2
    rw [hidx] at h1; cases h1
  | some tid =>
    refine .bind (getS_wp fun g => (hg g).1.toWInvCore.indexed_stored hidx) fun t _ ht =>
      .ite (fun _ => .ok (.refl c)) fun _ => .foldlM _ (.sendSvc c _) fun c1 lc hlc h1 => serverBurstChan_wp h1 fun g => ?_
    obtain ⟨t', ht', _, _, hmem⟩ := (hg g).1.indexed_member hidx
    rw [ht] at ht'; cases ht'
    rw [h1.st]
    exact hmem lc (List.mem_mergeSort.1 hlc)

theorem cmdServer_wp : ClientWp cmdServer 2 := fun c sid m hp => by
  rw [cmdServer_eq]
  refine .bind (getS_wp fun _ => hp.actor) fun s _ _ => .ite (fun _ => .pure ((CMid.refl hp).sendUser _ _)) fun _ =>
    .bind (param_wp fun g => Nat.lt_of_succ_lt g) fun p0 _ _ => .bind (modS_wp _ fun _ => hp.actor) fun c1 hm _ => ?_
  dsimp only
  -- the update keeps identity, nickname, channels and login state of the actor; `serverSessions` is read by no invariant
  have hp1 : Pre c1 sid := hp.modS_inert' hm (fun _ => ⟨rfl, rfl, rfl, rfl⟩) fun s hs hl => hp.linv sid s hs hl
  have h2 : ∀ ss msg, CMid c (sendSvc { c1 with st := { c1.st with serverSessions := ss } } msg) sid := fun _ _ =>
    ⟨⟨hp1.inv.congr rfl rfl rfl, hp1.linv.congr rfl, hp1.actor, hp.reply0⟩, ((OutStep.refl c).frame (.modS hm)).trans ⟨⟨_, rfl⟩, rfl⟩,
      fun h0 => (h0.modS_keep hm fun _ => ⟨rfl, rfl⟩).congr rfl rfl rfl⟩
  refine Res.Wp.mono (.foldlM _ (I := Emits _) (.refl _) fun c3 nick hn h3 => ?_) fun _ he =>
    (h2 _ _).of_st he.st ⟨he.og.out, he.og.msgid⟩
  exact (serverBurstNick_wp fun _ => by rw [h3.st]; exact ⟨(h2 _ _).pre.inv.toWInv, List.mem_mergeSort.1 hn⟩).mono
    fun _ h => h3.trans h

end Robust.Irc
