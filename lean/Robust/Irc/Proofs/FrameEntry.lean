import Robust.Irc.Proofs.FrameSim
/-!
`maybeDeleteSession`: purging the sessions flagged deleted re-establishes `Inv`.
-/
namespace Robust.Irc
open Robust AMap

/-- dropping stored sessions that are flagged deleted: nothing refers to them -/
theorem HInv_removeDeleted {st st' : St} (h : HInv st) (hnd : (AMap.keys st'.sessions).Nodup)
    (hsub : ∀ id s, AMap.get st'.sessions id = some s → AMap.get st.sessions id = some s)
    (hkeep : ∀ id s, AMap.get st.sessions id = some s → s.deleted = false → AMap.get st'.sessions id = some s)
    (hn : st'.nicks = st.nicks) (hc : st'.channels = st.channels) : HInv st' := by
  refine ⟨⟨⟨hnd, by rw [hn]; exact h.nickNodup, by rw [hc]; exact h.chanNodup, ?_, ?_, ?_, ?_⟩, ?_⟩, ?_⟩
  · intro id s hg; exact h.sessId id s (hsub id s hg)
  · intro id s hg hl hnn; rw [hn]; exact h.owns id s (hsub id s hg) hl hnn
  · intro x id hi
    rw [hn] at hi
    obtain ⟨s0, hg0, hl0, hlow0⟩ := h.index x id hi
    exact ⟨s0, hkeep id s0 hg0 hl0, hl0, hlow0⟩
  · intro lc c hg
    rw [hc] at hg
    obtain ⟨a, b, _⟩ := h.chans lc c hg
    refine ⟨a, b, fun n hn' => ?_⟩
    obtain ⟨id, s0, h1, h2, h3, h4, _, _⟩ := h.toWInvCore.chanMember_live hg hn'
    exact ⟨id, s0, by rw [hn]; exact h1, hkeep id s0 h2 h4, h3⟩
  · intro x id s hi hg ch2 hch2
    rw [hn] at hi; rw [hc]
    exact h.member x id s hi (hsub id s hg) ch2 hch2
  · exact h.nonempty.congr hc

def Privileged (st : St) (sid : Id) : Prop :=
  ∃ a, AMap.get st.sessions sid = some a ∧ (a.server = true ∨ a.operator = true)

/-- `MaybeDeleteSession` filters the stored sessions (`AMap.erase` is a filter, too) and changes nothing else -/
theorem maybeDeleteSession_filter (st : St) (sid : Id) :
    maybeDeleteSession st sid =
      { st with
        sessions := st.sessions.filter fun e =>
          match AMap.get st.sessions sid with
          | none => true
          | some a => (!a.deleted || decide (e.1 ≠ sid)) && (!(a.server || a.operator) || !e.2.deleted) } := by
  unfold maybeDeleteSession
  cases AMap.get st.sessions sid with
  | none => simp only [List.filter_eq_self.2, implies_true]
  | some a =>
    dsimp only
    cases (a.server || a.operator) <;> cases a.deleted <;>
      simp only [AMap.erase, List.filter_filter, List.filter_eq_self.2, Bool.not_true, Bool.not_false, Bool.true_or,
        Bool.false_or, Bool.true_and, Bool.and_true, Bool.false_eq_true, if_true, if_false, implies_true]

theorem maybeDeleteSession_eq (st : St) (sid : Id) :
    ∃ p : Id × Session → Bool, maybeDeleteSession st sid = { st with sessions := st.sessions.filter p } :=
  ⟨_, maybeDeleteSession_filter st sid⟩

theorem maybeDeleteSession_other (st : St) (sid : Id) :
    (maybeDeleteSession st sid).config = st.config ∧ (maybeDeleteSession st sid).lastProcessed = st.lastProcessed ∧
    (maybeDeleteSession st sid).nicks = st.nicks ∧ (maybeDeleteSession st sid).channels = st.channels := by
  rw [maybeDeleteSession_filter]; exact ⟨rfl, rfl, rfl, rfl⟩

theorem maybeDeleteSession_sessions (st : St) (sid : Id) :
    (maybeDeleteSession st sid).sessions = st.sessions.filter fun e =>
      match AMap.get st.sessions sid with
      | none => true
      | some a => (!a.deleted || decide (e.1 ≠ sid)) && (!(a.server || a.operator) || !e.2.deleted) := by
  rw [maybeDeleteSession_filter]

theorem maybeDeleteSession_nodup {st : St} (sid : Id) (hnd : (AMap.keys st.sessions).Nodup) :
    (AMap.keys (maybeDeleteSession st sid).sessions).Nodup := by
  rw [maybeDeleteSession_sessions]; exact AMap.nodup_keys_filter _ hnd

theorem get_maybeDeleteSession {st : St} {sid : Id} (hnd : (AMap.keys st.sessions).Nodup) {id : Id} {s : Session} :
    AMap.get (maybeDeleteSession st sid).sessions id = some s ↔
      AMap.get st.sessions id = some s ∧ (s.deleted = true → id ≠ sid ∧ ¬ Privileged st sid) := by
  rw [maybeDeleteSession_sessions, AMap.get_filter _ hnd]
  refine and_congr_right fun hg => ?_
  unfold Privileged
  cases ha : AMap.get st.sessions sid with
  | none =>
    have hid : id ≠ sid := fun e => by rw [e, ha] at hg; cases hg
    simp [hid]
  | some a =>
    by_cases hid : id = sid
    · subst hid; rw [hg] at ha; cases ha
      cases hd : s.deleted <;> simp [hd]
    · cases hd : s.deleted <;> simp [hid]

theorem Inv_maybeDeleteSession {st : St} {sid : Id} (h : HInv st)
    (hdel : ∀ id s, AMap.get st.sessions id = some s → s.deleted = true → id = sid ∨ Privileged st sid) :
    Inv (maybeDeleteSession st sid) := by
  have hget := fun {id s} => get_maybeDeleteSession (sid := sid) h.sessNodup (id := id) (s := s)
  obtain ⟨_, _, en, ec⟩ := maybeDeleteSession_other st sid
  refine ⟨HInv_removeDeleted h ?_ (fun id s hg => (hget.1 hg).1) (fun id s hg hl => hget.2 ⟨hg, ?_⟩) en ec,
    fun id s hg => ?_⟩
  · exact maybeDeleteSession_nodup sid h.sessNodup
  · intro hd; rw [hl] at hd; cases hd
  · obtain ⟨hg0, hkeep⟩ := hget.1 hg
    cases hd : s.deleted with
    | false => rfl
    | true =>
      obtain ⟨hne, hnp⟩ := hkeep hd
      exact ((hdel id s hg0 hd).elim hne hnp).elim

theorem maybeDeleteSession_of_noDeleted {st : St} {sid : Id}
    (hnd : (AMap.keys st.sessions).Nodup)
    (h : ∀ id s, AMap.get st.sessions id = some s → s.deleted = false) :
    (maybeDeleteSession st sid).nicks = st.nicks ∧ (maybeDeleteSession st sid).channels = st.channels ∧
    ∀ id, AMap.get (maybeDeleteSession st sid).sessions id = AMap.get st.sessions id := by
  refine ⟨(maybeDeleteSession_other st sid).2.2.1, (maybeDeleteSession_other st sid).2.2.2, fun id => ?_⟩
  cases hg : AMap.get st.sessions id with
  | some s => exact (get_maybeDeleteSession hnd).2 ⟨hg, fun hd => by rw [h id s hg] at hd; cases hd⟩
  | none =>
    cases hg' : AMap.get (maybeDeleteSession st sid).sessions id with
    | none => rfl
    | some s => rw [((get_maybeDeleteSession hnd).1 hg').1] at hg; cases hg

end Robust.Irc
