import Robust.Irc.Proofs.H3a
import Robust.Irc.Proofs.H3b
import Robust.Irc.Proofs.H3c
import Robust.Irc.Proofs.H3d
import Robust.Irc.Proofs.H3e
import Robust.Irc.Proofs.H3f
/-!
Services-link handlers (`SCmds.lean`): invariant preservation and panic-freedom — umbrella file.  Each handler is
walked once (`cmdServerX_wp : SrvWp cmdServerX d`, see `WpCore.lean` for the method; NICK and QUIT have gates of
their own, see below); the notions of `H3_summary` and the rows of `Dispatch.lean` are projections of that theorem.

* `H3a` – infrastructure: `PreservesSrv`, `Srv.NoPanic`, `OutGrows`/`Emits`, `SrvActor`, `Mid` and its per-primitive
          transfer lemmas, `SrvWp`;
* `H3b` – SVSHOLD, PRIVMSG/NOTICE, TOPIC, INVITE, KICK, SVSPART;
* `H3c` – MODE, SVSMODE, JOIN, PART (loops);
* `H3d` – SVSJOIN (with the facts of `H2b`/`H2d` about `cmdNames` and `cmdTopic` in query form, which it calls);
* `H3e` – NICK (under its own gate: one parameter or at least four), SVSNICK;
* `H3f` – KILL, QUIT (with or without prefix), SERVER (a client command: `ClientWp`).
-/
namespace Robust.Irc

theorem SrvWp.summary {h : Ctx → Id → IrcMsg → Res Ctx} {d : Nat} (H : SrvWp h d) : PreservesSrv h ∧ ServicesSafe h d :=
  ⟨H.preserves, H.safe⟩

theorem H3_summary :
    (Preserves cmdServer ∧ ClientSafe cmdServer 2 false) ∧
    (PreservesSrv cmdServerNick ∧ ServicesSafe cmdServerNick 4) ∧
    (PreservesSrv cmdServerQuit ∧ ServicesSafe cmdServerQuit 0) ∧
    (PreservesSrv cmdServerKill ∧ ServicesSafe cmdServerKill 2) ∧
    (PreservesSrv cmdServerJoin ∧ ServicesSafe cmdServerJoin 1) ∧
    (PreservesSrv cmdServerPart ∧ ServicesSafe cmdServerPart 1) ∧
    (PreservesSrv cmdServerKick ∧ ServicesSafe cmdServerKick 2) ∧
    (PreservesSrv cmdServerMode ∧ ServicesSafe cmdServerMode 1) ∧
    (PreservesSrv cmdServerPrivmsg ∧ ServicesSafe cmdServerPrivmsg 1) ∧
    (PreservesSrv cmdServerInvite ∧ ServicesSafe cmdServerInvite 2) ∧
    (PreservesSrv cmdServerTopic ∧ ServicesSafe cmdServerTopic 3) ∧
    (PreservesSrv cmdServerSvshold ∧ ServicesSafe cmdServerSvshold 1) ∧
    (PreservesSrv cmdServerSvsjoin ∧ ServicesSafe cmdServerSvsjoin 2) ∧
    (PreservesSrv cmdServerSvsmode ∧ ServicesSafe cmdServerSvsmode 2) ∧
    (PreservesSrv cmdServerSvsnick ∧ ServicesSafe cmdServerSvsnick 2) ∧
    (PreservesSrv cmdServerSvspart ∧ ServicesSafe cmdServerSvspart 2) :=
  ⟨⟨fun c sid m c' hp hr => ((cmdServer_wp c sid m hp).sat c' hr).cpost.post,
    fun c sid m _ hp _ _ _ hn => (cmdServer_wp c sid m hp).safe hn⟩,
   cmdServerNick_srvWp.summary,
   ⟨fun _ _ _ c' _ hp hs hsrv hr => ((cmdServerQuit_wp (.of_pre hp hs hsrv)).sat c' hr).1.post,
    fun _ _ _ _ hp hs hsrv _ _ => (cmdServerQuit_wp (.of_pre hp hs hsrv)).safe trivial⟩,
   cmdServerKill_wp.summary,
   cmdServerJoin_wp.summary,
   cmdServerPart_wp.summary,
   cmdServerKick_wp.summary,
   cmdServerMode_wp.summary,
   cmdServerPrivmsg_wp.summary,
   cmdServerInvite_wp.summary,
   cmdServerTopic_wp.summary,
   cmdServerSvshold_wp.summary,
   cmdServerSvsjoin_wp.summary,
   cmdServerSvsmode_wp.summary,
   cmdServerSvsnick_wp.summary,
   cmdServerSvspart_wp.summary⟩

end Robust.Irc
