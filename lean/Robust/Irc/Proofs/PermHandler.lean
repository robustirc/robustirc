import Robust.Irc.Proofs.PermDelete
/-!
Order-independence, part 6: what "handler congruence" means.

`HCongr h`: on equivalent contexts `h` gives the same kind of result and, when it returns,
equivalent contexts.  No invariant is needed: the working relation `CEq` carries the
duplicate-freeness of all keys.

Two services handlers (`cmdServerQuit`, `cmdServerKill`) search the sessions for the owner of a
nickname with an early exit; they need that a non-empty nickname has at most one owner
(`UniqNick`, a consequence of `Inv`) and that the prefix name of the line is not empty
(`MsgPfxOK`, true of every parsed line): `HCongrU`.

The proofs in `PermH1` … `PermH7` follow the handler's text.  A read is related by `RRel.bind`
with the congruence of what is read (`rcChannel_congr`, …; `RRel.bind_same` for `param`, which
does not look at the state).  A session or a channel that is read comes as one value for the
first run and *the same value with other lists* for the second (`getS_bind`, `getChan_split`,
`StEq.sess_cases`; `SessEq.exists_with` for a session that is an argument): the scalar fields of
the second are those of the first by reduction, so both sides branch on the same conditions and
send the same texts without any rewriting — `RRel.ite` for an `if`, `split` for a `match` on a
lookup that is the same term.  What is rewritten are the lookups in the maps themselves
(`h.st.get_nicks`, `hch.get_nicks`, …), which are different terms with equal values; a bare
`dsimp -zeta only` reduces the projections where `extract_lets` has to see two equal `let`s.
(An entry found by a search, `findOwner_congr`, is related to its counterpart by `EntryRel SessEq`
only: there the field equalities `SessEq.nick`, … are used.)
A leaf sends messages on related contexts: `ceqs`.

An `if` of the handler's body is taken apart by `RRel.ite`, which looks at the two heads only; `split` on an `if`
rewrites the whole goal with the condition, and the goal is the rest of the handler, twice.  Where the goal is
small `split` on an `if` is used: in a helper such as `banBoth`, on the value of one `let` (`ceq_let`), on the
prefix computed by `cmdServerKill`.

`extract_lets x y … x' y' …` names the `let`s of the two runs in the order in which they occur in the goal: all
of the first run, then all of the second; `let`s whose values are the same term in both runs (`lc`) are
merged and appear once.  Besides the `let c := …` of the handler's text these are the join points
the `do` notation introduces where the branches of an `if` go on with the same code (`jpA : Unit → Res Ctx`,
used as `jpA ()`; its congruence is proved once, before the branches).  The names are positional: when a handler
changes, run `extract_lets` without names, read the order off the context, and name them again.
-/
namespace Robust.Irc
open Robust

def HCongr (h : Handler) : Prop := ∀ c c' sid m, CEq c c' → RRel CEq (h c sid m) (h c' sid m)

def UniqNick (st : St) : Prop :=
  ∀ id id' s s', AMap.get st.sessions id = some s → AMap.get st.sessions id' = some s' →
    s.nick ≠ "" → nickToLower s.nick = nickToLower s'.nick → id = id'

def MsgPfxOK (m : IrcMsg) : Prop := ∀ p, m.pfx = some p → p.name ≠ ""

def HCongrU (h : Handler) : Prop :=
  ∀ c c' sid m, UniqNick c.st → MsgPfxOK m → CEq c c' → RRel CEq (h c sid m) (h c' sid m)

theorem HCongr.toU {h : Handler} (hh : HCongr h) : HCongrU h := fun c c' sid m _ _ hc => hh c c' sid m hc

theorem srv_def (c : Ctx) (cmd : String) (ps : List String) :
    srv c cmd ps = ⟨some ⟨c.st.serverName, "", ""⟩, cmd, ps⟩ := rfl

theorem putS_st_serverName (c : Ctx) (s : Session) : (putS c s).st.serverName = c.st.serverName := rfl
theorem putChan_st_serverName (c : Ctx) (lc : String) (ch : Channel) :
    (putChan c lc ch).st.serverName = c.st.serverName := rfl
theorem emit_replyid (c : Ctx) (m : IrcMsg) (r : List Nat) : (emit c m r).replyid = c.replyid + 1 := rfl
theorem sendUser_replyid (c : Ctx) (sid : Id) (m : IrcMsg) : (sendUser c sid m).replyid = c.replyid + 1 := rfl
theorem sendSvc_replyid (c : Ctx) (m : IrcMsg) : (sendSvc c m).replyid = c.replyid + 1 := rfl

/-- recipient lists: close `l.Perm l'` goals built from `++`, hypotheses, `rcServices`, `rcAllUsers` -/
syntax "perm_tac" : tactic
macro_rules
  | `(tactic| perm_tac) => `(tactic| first
      | with_reducible assumption
      | with_reducible exact List.Perm.refl _
      | with_reducible exact rcServices_perm (CEq.st (by assumption))
      | with_reducible exact rcAllUsers_perm (CEq.st (by assumption))
      | with_reducible exact rcServices_perm (by assumption)
      | with_reducible exact rcAllUsers_perm (by assumption)
      | (with_reducible apply List.Perm.append <;> perm_tac))

theorem sendUser_srv_congr {c c' : Ctx} (h : CEq c c') (sid : Id) (cmd : String) {ps ps' : List String} (hp : ps' = ps) :
    CEq (sendUser c sid (srv c cmd ps)) (sendUser c' sid (srv c' cmd ps')) := by
  subst hp; exact sendUser_congr h sid (srv_congr h _ _)

theorem sendSvc_srv_congr {c c' : Ctx} (h : CEq c c') (cmd : String) {ps ps' : List String} (hp : ps' = ps) :
    CEq (sendSvc c (srv c cmd ps)) (sendSvc c' (srv c' cmd ps')) := by
  subst hp; exact sendSvc_congr h (srv_congr h _ _)

theorem emit_srv_congr {c c' : Ctx} (h : CEq c c') (cmd : String) {ps ps' : List String} (hp : ps' = ps)
    {r r' : List Nat} (hr : r.Perm r') : CEq (emit c (srv c cmd ps) r) (emit c' (srv c' cmd ps') r') := by
  subst hp; exact emit_congr h (srv_congr h _ _) hr

theorem CEq.ite {p : Prop} [Decidable p] {a b a' b' : Ctx} (ha : CEq a a') (hb : CEq b b') :
    CEq (if p then a else b) (if p then a' else b') := by
  split
  · exact ha
  · exact hb

/-- contexts: close `CEq …` / `RRel CEq (pure …) (pure …)` goals built with `emit`, `sendUser`, `sendSvc`
on top of a hypothesis, when the messages are syntactically equal or built with `srv` from the context itself -/
syntax "ceqs" : tactic
macro_rules
  | `(tactic| ceqs) => `(tactic| first
      | with_reducible assumption
      | (refine RRel.ok ?_; ceqs)
      | (refine sendUser_srv_congr ?_ _ _ (by with_reducible rfl); ceqs)
      | (refine sendSvc_srv_congr ?_ _ (by with_reducible rfl); ceqs)
      | (refine emit_srv_congr ?_ _ (by with_reducible rfl) ?_ <;> first | ceqs | perm_tac)
      | (refine sendUser_congr ?_ _ (by with_reducible rfl); ceqs)
      | (refine sendSvc_congr ?_ (by with_reducible rfl); ceqs)
      | (refine emit_congr ?_ (by with_reducible rfl) ?_ <;> first | ceqs | perm_tac))

/-- after `extract_lets … c c' …`: relate the two let-bound contexts and forget their values -/
macro "ceq_let " h:ident c:ident c':ident : tactic =>
  `(tactic| (
    have $h : CEq $c $c' := by
      first
        | ceqs
        | (show CEq (if _ then _ else _) (if _ then _ else _); split <;> ceqs)
    clear_value $c:ident $c':ident))
end Robust.Irc
