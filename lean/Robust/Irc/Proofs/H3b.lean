import Robust.Irc.Proofs.H3a
/-!
Services-link handlers without loops: SVSHOLD, PRIVMSG/NOTICE, TOPIC, INVITE, KICK, SVSPART.
-/
namespace Robust.Irc
open Robust AMap

theorem cmdServerSvshold_wp : SrvWp cmdServerSvshold 1 := fun c0 c sid m h => by
  have holds : ∀ x, Mid c0 { c with st := { c.st with svsholds := x } } sid := fun _ =>
    h.other_fields rfl rfl rfl ⟨rfl, [], by simp⟩
  unfold cmdServerSvshold
  refine .bind (getS_wp fun _ => h.post.actorKept) fun s _ _ => .bind (param_wp And.right) fun p0 _ _ => ?_
  dsimp only
  refine .ite (fun hl => .bind (param_wp fun _ => hl) fun p1 _ _ => ?_) fun _ => .pure (holds _)
  cases parseDigits p1 with
  | none => exact .declined _
  | some n => exact .ite (fun _ => .declined _) fun _ => .pure (holds _)

theorem cmdServerPrivmsg_wp : SrvWp cmdServerPrivmsg 1 := fun c0 c sid m h => by
  unfold cmdServerPrivmsg
  refine .ite (fun _ => h.reply_wp And.left _) fun _ => .ite (fun _ => h.reply_wp And.left _) fun _ =>
    .bind (param_wp And.right) fun p0 _ _ => .ite (fun _ => ?_) fun _ => ?_
  · cases hch : getChan c (chanToLower p0) with
    | none => exact h.reply_wp And.left _
    | some ch =>
      exact .bind (servicesPrefix_wp And.left) fun _ _ _ =>
        .bind (rcChannel_wp (fun _ => h.hinv.toWInvCore) hch) fun _ _ _ => .pure (h.emit _ _)
  · cases AMap.get c.st.nicks (nickToLower p0) with
    | none => exact h.reply_wp And.left _
    | some tid => exact .bind (servicesPrefix_wp And.left) fun _ _ _ => .pure (h.sendUser _ _)

theorem parseIntBase0_wp {G : Prop} (s : String) : (parseIntBase0 s).Wp G fun _ => True := by
  unfold parseIntBase0
  dsimp only
  generalize Prod.snd _ = digits
  cases parseDigits digits with
  | none => exact .ite (fun _ => .declined _) fun _ => .ok trivial
  | some n => exact .ite (fun _ => .declined _) fun _ => .ite (fun _ => .ok trivial) fun _ => .ok trivial

theorem cmdServerTopic_wp : SrvWp cmdServerTopic 3 := fun c0 c sid m h => by
  unfold cmdServerTopic
  refine .bind (param_wp fun g => by omega) fun channel _ _ => ?_
  dsimp only
  cases hch : getChan c (chanToLower channel) with
  | none => exact h.reply_wp And.left _
  | some ch =>
    refine .bind (param_wp And.right) fun p2 _ _ => .bind (parseIntBase0_wp p2) fun ts? _ _ => ?_
    cases ts? with
    | none => exact .declined _
    | some ts =>
      refine .bind (param_wp fun g => by omega) fun p1 _ _ => .ite (fun _ => .declined _) fun _ => ?_
      have h1 := h.putChan_inert hch (ch' := { ch with topicNick := p1, topicTime := ts * 1000000000, topic := m.trailing })
        rfl rfl
      exact .bind (servicesPrefix_wp And.left) fun _ _ _ =>
        .bind (rcChannel_wp (fun _ => h1.hinv.toWInvCore) (AMap.get_set_same _ _ _)) fun _ _ _ => .pure (h1.emit _ _)

theorem invite_inert (lc : String) : InertFn fun t => { t with invitedTo := setInsert t.invitedTo lc } :=
  fun _ => ⟨rfl, rfl, rfl, rfl, rfl, rfl⟩

theorem cmdServerInvite_wp : SrvWp cmdServerInvite 2 := fun c0 c sid m h => by
  have hw := h.hinv.toWInvCore
  unfold cmdServerInvite
  refine .bind (param_wp fun g => Nat.lt_of_succ_lt g.2) fun nickname _ _ => .bind (param_wp And.right) fun chn _ _ => ?_
  cases hidx : AMap.get c.st.nicks (nickToLower nickname) with
  | none => exact h.reply_wp And.left _
  | some tid =>
    refine .bind (getS_wp fun _ => hw.indexed_stored hidx) fun t _ ht => ?_
    dsimp only
    cases hch : getChan c (chanToLower chn) with
    | none => exact h.reply_wp And.left _
    | some ch =>
      have h1 := h.modS_inert (invite_inert (chanToLower chn)) (modS_of_get _ ht)
      refine .ite (fun _ => h.reply_wp And.left _) fun _ => .bindEq (modS_of_get _ ht) (.bind (pfxName_wp And.left) fun _ _ _ =>
        .bind (servicesPrefix_wp And.left) fun _ _ _ => .bind (.returns fun _ => ?_) fun _ _ _ =>
          .pure (((h1.sendSvc _).sendUser _ _).emit _ _))
      -- the update touched a session only: the members of `ch` are still indexed
      exact rcChannel_ok_of_indexed (hw.membersIndexed hch)

theorem cmdServerKick_wp : SrvWp cmdServerKick 2 := fun c0 c sid m h => by
  have hw := h.hinv.toWInvCore
  unfold cmdServerKick
  refine .bind (param_wp fun g => Nat.lt_of_succ_lt g.2) fun chn _ _ => .bind (param_wp And.right) fun target _ _ => ?_
  dsimp only
  cases hch : getChan c (chanToLower chn) with
  | none => exact h.reply_wp And.left _
  | some ch =>
    refine .ite (fun _ => h.reply_wp And.left _) fun hcont => ?_
    -- a member of a stored channel is indexed: the panic site is dead
    obtain ⟨tid, hidx⟩ := hw.membersIndexed hch _ (AMap.contains_iff_mem_keys.1 (by simpa using hcont))
    rw [hidx]
    exact .bind (servicesPrefix_wp And.left) fun _ _ _ => .bind (rcChannel_wp (fun _ => hw) hch) fun _ _ _ =>
      (h.emit _ _).leaveChannel_wp hidx hch

theorem cmdServerSvspart_wp : SrvWp cmdServerSvspart 2 := fun c0 c sid m h => by
  have hw := h.hinv.toWInvCore
  unfold cmdServerSvspart
  refine .bind (param_wp fun g => Nat.lt_of_succ_lt g.2) fun p0 _ _ => .bind (param_wp And.right) fun chn _ _ => ?_
  dsimp only
  cases hidx : AMap.get c.st.nicks (nickToLower p0) with
  | none => exact h.reply_wp And.left _
  | some tid =>
    dsimp only
    cases hch : getChan c (chanToLower chn) with
    | none => exact h.reply_wp And.left _
    | some ch =>
      exact .ite (fun _ => h.reply_wp And.left _) fun _ => .bind (getS_wp fun _ => hw.indexed_stored hidx) fun _ _ _ =>
        .bind (rcChannel_wp (fun _ => hw) hch) fun _ _ _ => (h.emit _ _).leaveChannel_wp hidx hch

end Robust.Irc
