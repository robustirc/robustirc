import Robust.Irc.Proofs.H2Base
import Robust.Irc.Proofs.ChanModeSteps
import Robust.Irc.Proofs.HandlerSteps
import Robust.Irc.Proofs.H2b
import Robust.Irc.Proofs.H2d
/-!
MODE, and the announcements at the end of JOIN (`joinAnnounce_wp`), which call MODE and TOPIC in their query forms
and NAMES.
-/
namespace Robust.Irc
open Rd
open AMap

theorem banOne_core (ch : Channel) (add : Bool) (banmask pattern : String) :
    (banOne ch add banmask pattern).Sat fun ch' => ch'.name = ch.name ∧ ch'.nicks = ch.nicks := by
  unfold banOne
  cases parseRe pattern.toList with
  | none => exact .declined _
  | some _ => exact .ite (fun _ => .ok ⟨rfl, rfl⟩) fun _ => .ok ⟨rfl, rfl⟩

theorem banBoth_core (ch : Channel) (add : Bool) (banmask pattern patternAddr : String) :
    (banBoth ch add banmask pattern patternAddr).Sat fun ch' => ch'.name = ch.name ∧ ch'.nicks = ch.nicks :=
  (banOne_core _ _ _ _).andThen fun _ h1 =>
    .ite (fun _ => (banOne_core _ _ _ _).mono fun _ h2 => ⟨h2.1.trans h1.1, h2.2.trans h1.2⟩) fun _ => .pure h1

theorem applyChanMode_wp {G : Prop} {c0 c : Ctx} {sid : Id} {s : Session} {lc chn : String} {op q : Bool} {mc : ModeCmd}
    (hw : WInvCore c0.st) (hI : Inert c0 c) (hst : G → ∃ ch, AMap.get c.st.channels lc = some ch) :
    (applyChanMode c sid s lc chn op mc q).Wp G fun r => Inert c0 r.1 := by
  cases hch : AMap.get c.st.channels lc with
  | none =>
    unfold applyChanMode
    rw [getChan_eq, hch]
    refine .panic _ fun g => ?_
    obtain ⟨_, h⟩ := hst g
    rw [hch] at h; cases h
  | some ch =>
    have h := applyChanMode_run (sid := sid) (s := s) (chn := chn) (op := op) (q := q) (mc := mc) hch
    generalize applyChanMode c sid s lc chn op mc q = r at h
    cases h with
    | banList _ _ h1 => subst h1; exact .ok ((foldl_invariant (I := Inert c0) _ hI fun _ _ _ h => h.sendUser _ _).sendUser _ _)
    | notOp | noCaptcha | opAbsent | unknown => exact .ok (hI.sendUser _ _)
    | keyEmpty | opSame => exact .ok hI
    | flag | captcha => exact .ok (hI.putChan hw hch rfl rfl)
    | keySet =>
      exact .ok (((hI.putChan hw hch (by rfl) (by rfl)).sendUser _ _).putChan hw (AMap.get_set_same ..) (by rfl) (by rfl))
    | keyClear => exact .ok ((hI.sendUser _ _).putChan hw hch rfl rfl)
    | opSet _ hm => exact .ok (hI.putChan hw hch rfl (AMap.keys_set_of_mem _ (AMap.mem_keys_of_get hm)))
    | ban _ _ hb =>
      obtain ⟨e1, e2⟩ := (banBoth_core _ _ _ _ _).apply hb
      exact .ok (hI.putChan hw hch e1 (by rw [e2]))
    | banDeclined => exact .declined _

theorem applyChanModes_wp {G : Prop} {c0 : Ctx} {sid : Id} {s : Session} {lc chn : String} {op : Bool}
    (hw : WInvCore c0.st) (hst : G → ∃ ch0, AMap.get c0.st.channels lc = some ch0) (l : List ModeCmd) {c : Ctx}
    {q : Bool} (hI : Inert c0 c) : (applyChanModes c sid s lc chn op l q).Wp G fun r => Inert c0 r.1 :=
  -- an inert update leaves the channel stored
  applyChanModes_rule l hI fun _ _ _ _ hI =>
    applyChanMode_wp hw hI fun g => (hst g).elim fun _ h => hI.getChan h

/-- MODE is also called by JOIN, for the session that has joined -/
theorem cmdMode_wp : InertWp cmdMode fun c sid m => 1 ≤ m.params.length ∧ Listed c sid := fun c sid m hw => by
  have h0 := Inert.refl hw
  unfold cmdMode
  refine .bind (getS_wp fun g => g.2.2.imp fun _ h => h.1) fun s _ hs => .bind (param_wp fun g => g.1) fun chn _ _ => ?_
  dsimp only
  refine .ite (fun hcont => ?_) fun _ => ?_
  · -- a sender as `Listed` says is a member of the channels it lists
    have hmemb := fun g : 1 ≤ m.params.length ∧ Listed c sid => g.2.member hs (List.contains_iff_mem.1 hcont)
    cases hch : getChan c (chanToLower chn) with
    | none =>
      refine .panic _ fun g => ?_
      obtain ⟨_, _, h, _⟩ := hmemb g
      rw [← getChan_eq, hch] at h; cases h
    | some ch =>
      dsimp only
      refine .ite (fun _ => .pure (h0.sendUser _ _)) fun _ => ?_
      cases hm : AMap.get ch.nicks (nickToLower s.nick) with
      | none =>
        refine .panic _ fun g => ?_
        obtain ⟨_, _, h, h'⟩ := hmemb g
        rw [← getChan_eq, hch] at h; cases h
        rw [hm] at h'; cases h'
      | some mem =>
        refine .bind (applyChanModes_wp hw (fun _ => ⟨ch, hch⟩) _ h0) fun r _ hI => ?_
        obtain ⟨c1, q1, r1⟩ := r
        refine .ite (fun _ => .pure hI) fun _ => .ite (fun _ => .pure hI) fun _ => .ite (fun _ => .pure hI) fun _ => ?_
        -- an inert update leaves the channel stored
        obtain ⟨ch1, hch1⟩ := hI.getChan hch
        rw [getChan_eq, hch1]
        exact .bind (rcChannel_wp (fun _ => hI.winvCore hw) hch1) fun _ _ _ => .pure (hI.emit _ _)
  · cases hi : AMap.get c.st.nicks (nickToLower chn) with
    | none => exact .pure (h0.sendUser _ _)
    | some tid =>
      refine .bind (getS_indexed_wp hi fun _ => hw) fun t _ ht => .ite (fun _ => .pure (h0.sendUser _ _)) fun _ =>
        .ite (fun _ => .pure (h0.emit _ _)) fun _ => .bind (modS_wp _ fun _ => ⟨t, ht⟩) fun c1 h1 _ => ?_
      exact .pure ((h0.modS hw h1 (fun _ => ⟨rfl, rfl, rfl, rfl⟩) fun _ => ⟨rfl, rfl⟩).emit _ _)

/-- MODE with at most one parameter is a query.  Asked of a channel the sender is on, it only answers the sender;
otherwise the parameter is read as a nick, and the answer may go to the services links as well. -/
theorem cmdMode_query {c : Ctx} {sid : Id} {m : IrcMsg} (hn : m.params.length ≤ 1) :
    (cmdMode c sid m).Sat fun c' => Emits c c' ∧ ∀ s chn, AMap.get c.st.sessions sid = some s →
      m.params[0]? = some chn → chanToLower chn ∈ s.channels → Refused c c' sid := by
  have hm : ((normalizeModes m).length == 0) = true := by
    unfold normalizeModes
    rw [if_pos hn]
    rfl
  refine (cmdMode_result c sid m).mono fun c' ⟨s, chn, hs, hp, r⟩ => ?_
  have key : Refused c c' sid ∨ (Emits c c' ∧ ¬s.channels.contains (chanToLower chn) = true) := by
    cases r with
    | chanQuery | noNick | otherUser => exact .inl (.reply c sid _)
    | userQuery hon => exact .inr ⟨(Emits.refl c).emit _ _, hon⟩
    | chanQuiet _ _ h0 | chanRelay _ _ h0 | userSet _ _ _ _ _ h0 => exact absurd hm h0
  refine ⟨key.elim Refused.emits And.left, fun s' chn' hs' hp' hon => key.elim id fun h => ?_⟩
  rw [hs] at hs'; cases hs'
  rw [hp] at hp'; cases hp'
  exact absurd (List.contains_iff_mem.2 hon) h.2

/-- the query form as JOIN calls it, for the session that has joined -/
theorem cmdMode_query_wp {c : Ctx} {sid : Id} {m : IrcMsg} (hn : m.params.length = 1) :
    (cmdMode c sid m).Wp (Listed c sid) (Emits c) :=
  ⟨(cmdMode_query (Nat.le_of_eq hn)).mono fun _ h => h.1,
    fun g => (cmdMode_wp c sid m g.1.toWInvCore).safe ⟨Nat.le_of_eq hn.symm, g⟩⟩

theorem cmdMode_inert {c c' : Ctx} {sid : Id} {m : IrcMsg} (hw : WInvCore c.st)
    (hr : cmdMode c sid m = .ok c') : Inert c c' :=
  cmdMode_wp.inert hw hr

theorem cmdMode_safe : ClientSafe cmdMode 1 true :=
  fun c sid m _ hp hs _ hl hn => (cmdMode_wp c sid m hp.inv.toWInvCore).safe ⟨hn, .of_pre hp hs (hl rfl)⟩

theorem cmdMode_safe_member {c : Ctx} {sid : Id} {s : Session} {m : IrcMsg} (hw : WInv c.st)
    (hs : AMap.get c.st.sessions sid = some s) (hlive : s.deleted = false) (hnick : s.nick ≠ "")
    (hn : 1 ≤ m.params.length) : ∀ site, cmdMode c sid m ≠ .panic site :=
  (cmdMode_wp c sid m hw.toWInvCore).safe ⟨hn, hw, s, hs, hlive, hnick⟩

theorem Listed.emits {c c' : Ctx} {sid : Id} (h : Listed c sid) (e : Emits c c') : Listed c' sid := by
  unfold Listed
  rw [e.st]
  exact h

/-- The announcements only append output: MODE and TOPIC are called with one parameter (queries) and, like NAMES,
answer the session that has joined.  They do not panic for a sender as `Listed` says and a channel whose members are
indexed. -/
theorem joinAnnounce_wp {G : Prop} {c : Ctx} {sid : Id} {chn : String} {ch : Channel} {ex : Bool} {mm : Option IrcMsg}
    (hl : G → Listed c sid) (hidx : G → MembersIndexed c.st ch) :
    (joinAnnounce c sid chn ch ex mm).Wp G (Emits c) := by
  unfold joinAnnounce
  refine .bind (getS_wp fun g => (hl g).2.imp fun _ h => h.1) fun s _ _ => .bind (rcChannel_indexed_wp hidx) fun rc _ _ => ?_
  dsimp only
  refine .bind (R := Emits c) ?_ fun c1 _ e1 => ?_
  · cases mm with
    | none => exact .pure ((Emits.refl c).emit _ _)
    | some m =>
      exact .bind (rcChannel_indexed_wp (st := (emit c _ _).st) hidx) fun _ _ _ =>
        .pure (((Emits.refl c).emit _ _).emit _ _)
  have e2 := e1.emit (srv c1 "SJOIN" ["1", chn, (if !ex then "@" else "") ++ s.nick]) (rcServices c1.st)
  refine .bind ((cmdMode_query_wp rfl).gate fun g => (hl g).emits e2) fun c3 _ e3 => ?_
  have e3 := e2.trans e3
  refine .bind ((cmdTopic_query_wp rfl).gate fun g => ((hl g).emits e3).2.imp fun _ h => h.1) fun c4 _ e4 => ?_
  have e4 := e3.trans e4.emits
  exact ((cmdNames_wp c4 sid _).gate fun g => have l := (hl g).emits e4; ⟨l.1.toWInvCore, l.2.imp fun _ h => h.1⟩).mono
    fun _ e5 => e4.trans e5.emits

end Robust.Irc
