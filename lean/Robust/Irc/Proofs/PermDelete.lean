import Robust.Irc.Proofs.PermPrim
import Robust.Irc.Proofs.FrameDelete
/-!
Order-independence, part 5: `deleteSession`.

The loop over `i.channels` in `deleteSessionLocked` visits the channels in map order.  Its effect
is described extensionally (`DelSem`): after visiting the keys `P`,

* channel `k ∈ P` has lost the member `lcn` and is gone if it became empty (`delChan`),
* every session has lost the invitations to the visited channels that are gone (`keepInv`),

which depends on `P` only through membership.  Hence two runs over permuted channel maps end in
equivalent states.
-/

namespace Robust.Irc
open Robust

/-- what the loop body does to one channel: drop the member; `none` = the channel is deleted -/
def delChan (lcn : String) (ch : Channel) : Option Channel :=
  if (AMap.erase ch.nicks lcn).length > 0 then some { ch with nicks := AMap.erase ch.nicks lcn } else none

def deadKey (lcn : String) (chs : AMap String Channel) (k : String) : Bool :=
  match AMap.get chs k with
  | some ch => (delChan lcn ch).isNone
  | none => false

def keepInv (lcn : String) (chs : AMap String Channel) (P : List String) (x : String) : Bool :=
  !(decide (x ∈ P) && deadKey lcn chs x)

structure DelSem (lcn : String) (c0 c : Ctx) (P : List String) : Prop where
  nicks : c.st.nicks = c0.st.nicks
  svsholds : c.st.svsholds = c0.st.svsholds
  serverSessions : c.st.serverSessions = c0.st.serverSessions
  lastProcessed : c.st.lastProcessed = c0.st.lastProcessed
  serverName : c.st.serverName = c0.st.serverName
  config : c.st.config = c0.st.config
  msgid : c.msgid = c0.msgid
  replyid : c.replyid = c0.replyid
  out : c.out = c0.out
  chanNodup : (AMap.keys c.st.channels).Nodup
  chan : ∀ k, AMap.get c.st.channels k =
    if k ∈ P then (AMap.get c0.st.channels k).bind (delChan lcn) else AMap.get c0.st.channels k
  sessKeys : AMap.keys c.st.sessions = AMap.keys c0.st.sessions
  sess : ∀ id, AMap.get c.st.sessions id = (AMap.get c0.st.sessions id).map
    fun s => { s with invitedTo := s.invitedTo.filter (keepInv lcn c0.st.channels P) }

theorem DelSem.init (lcn : String) (c : Ctx) (hn : (AMap.keys c.st.channels).Nodup) : DelSem lcn c c [] := by
  refine ⟨rfl, rfl, rfl, rfl, rfl, rfl, rfl, rfl, rfl, hn, fun k => by simp, rfl, fun id => ?_⟩
  have : keepInv lcn c.st.channels [] = fun _ => true := by
    funext x; simp [keepInv]
  rw [this]
  cases AMap.get c.st.sessions id with
  | none => rfl
  | some s =>
    have hf : List.filter (fun _ => true) s.invitedTo = s.invitedTo := by simp
    simp only [Option.map_some, hf]

theorem DelSem.step {lcn : String} {c0 c : Ctx} {P : List String} (h : DelSem lcn c0 c P)
    (hk0 : ∀ lc ch, AMap.get c0.st.channels lc = some ch → chanToLower ch.name = lc)
    (e : String × Channel) (he : e.1 ∉ P) : DelSem lcn c0 (delStep lcn c e) (e.1 :: P) := by
  obtain ⟨k, chIgnored⟩ := e
  simp only at he ⊢
  have hgk : AMap.get c.st.channels k = AMap.get c0.st.channels k := by rw [h.chan k, if_neg he]
  -- the invitation filter after the step, in the two cases
  have keep_same : deadKey lcn c0.st.channels k = false →
      keepInv lcn c0.st.channels (k :: P) = keepInv lcn c0.st.channels P := by
    intro hd
    funext x
    unfold keepInv
    by_cases hx : x = k
    · subst hx; simp [hd, he]
    · simp [hx]
  have keep_dead : deadKey lcn c0.st.channels k = true → ∀ x,
      (keepInv lcn c0.st.channels P x && decide (x ≠ k)) = keepInv lcn c0.st.channels (k :: P) x := by
    intro hd x
    unfold keepInv
    by_cases hx : x = k
    · subst hx; simp [hd]
    · simp [hx]
  unfold delStep
  simp only [getChan_eq]
  cases hg : AMap.get c0.st.channels k with
  | none =>
    rw [hg] at hgk
    simp only [hgk]
    have hd : deadKey lcn c0.st.channels k = false := by simp [deadKey, hg]
    refine { h with chan := fun k' => ?_, sess := fun id => by rw [keep_same hd]; exact h.sess id }
    rw [h.chan k']
    by_cases hkk : k' = k
    · subst hkk; simp [he, hg]
    · simp [hkk]
  | some ch =>
    rw [hg] at hgk
    simp only [hgk]
    have hname : chanToLower ch.name = k := hk0 k ch hg
    unfold dropMember
    have hget1 : AMap.get (putChan c k { ch with nicks := AMap.erase ch.nicks lcn }).st.channels k =
        some { ch with nicks := AMap.erase ch.nicks lcn } := by simp
    by_cases hnil : AMap.erase ch.nicks lcn = []
    · -- the channel is deleted
      have hd : deadKey lcn c0.st.channels k = true := by simp [deadKey, hg, delChan, hnil]
      rw [maybeDeleteChannel_empty hget1 hnil]
      simp only [hname]
      refine { h with chanNodup := ?_, chan := fun k' => ?_, sessKeys := ?_, sess := fun id => ?_ }
      · exact AMap.nodup_keys_erase _ (AMap.nodup_keys_set _ _ h.chanNodup)
      · show AMap.get (AMap.erase (AMap.set c.st.channels k _) k) k' = _
        rw [AMap.get_erase]
        by_cases hkk : k' = k
        · subst hkk
          simp [hg, delChan, hnil]
        · rw [if_neg hkk, AMap.get_set_other _ hkk, h.chan k']
          simp [hkk]
      · show AMap.keys ((c.st.sessions).map fun e => (e.1, _)) = _
        rw [AMap.keys_map_val c.st.sessions
          (fun e => ({ e.2 with invitedTo := e.2.invitedTo.filter (· ≠ k) } : Session))]
        exact h.sessKeys
      · show AMap.get ((c.st.sessions).map fun e => (e.1, _)) id = _
        rw [AMap.get_map_val c.st.sessions
          (fun s => ({ s with invitedTo := s.invitedTo.filter (· ≠ k) } : Session)), h.sess id]
        cases AMap.get c0.st.sessions id with
        | none => rfl
        | some s =>
          simp only [Option.map_some, List.filter_filter]
          congr 2
          apply List.filter_congr
          intro x _
          rw [Bool.and_comm]
          have := keep_dead hd x
          simpa using this
    · -- the channel stays
      have hd : deadKey lcn c0.st.channels k = false := by
        have : (AMap.erase ch.nicks lcn).length > 0 := List.length_pos_iff.2 hnil
        simp [deadKey, hg, delChan, this]
      rw [maybeDeleteChannel_nonempty hget1 hnil]
      refine { h with chanNodup := AMap.nodup_keys_set _ _ h.chanNodup, chan := fun k' => ?_,
                      sess := fun id => by rw [keep_same hd]; exact h.sess id }
      show AMap.get (AMap.set c.st.channels k _) k' = _
      rw [AMap.get_set]
      by_cases hkk : k' = k
      · subst hkk
        have : (AMap.erase ch.nicks lcn).length > 0 := List.length_pos_iff.2 hnil
        simp [hg, delChan, this]
      · rw [if_neg hkk, h.chan k']
        simp [hkk]

theorem DelSem.foldl {lcn : String} {c0 : Ctx}
    (hk0 : ∀ lc ch, AMap.get c0.st.channels lc = some ch → chanToLower ch.name = lc) :
    ∀ (l : List (String × Channel)) (c : Ctx) (P : List String), DelSem lcn c0 c P →
      (l.map (·.1)).Nodup → (∀ k ∈ l.map (·.1), k ∉ P) →
      DelSem lcn c0 (l.foldl (delStep lcn) c) ((l.map (·.1)).reverse ++ P)
  | [], c, P, h, _, _ => by simpa using h
  | e :: t, c, P, h, hn, hd => by
    simp only [List.map_cons, List.nodup_cons] at hn
    have h1 := h.step hk0 e (hd e.1 (by simp))
    have := DelSem.foldl hk0 t _ (e.1 :: P) h1 hn.2 (fun k hk => by
      intro hm
      rcases List.mem_cons.1 hm with rfl | hm
      · exact hn.1 hk
      · exact hd k (by simp only [List.map_cons]; exact List.mem_cons_of_mem _ hk) hm)
    simpa using this

structure DelFinal (lcn : String) (c0 c : Ctx) : Prop where
  nicks : c.st.nicks = c0.st.nicks
  svsholds : c.st.svsholds = c0.st.svsholds
  serverSessions : c.st.serverSessions = c0.st.serverSessions
  lastProcessed : c.st.lastProcessed = c0.st.lastProcessed
  serverName : c.st.serverName = c0.st.serverName
  config : c.st.config = c0.st.config
  msgid : c.msgid = c0.msgid
  replyid : c.replyid = c0.replyid
  out : c.out = c0.out
  chanNodup : (AMap.keys c.st.channels).Nodup
  chan : ∀ k, AMap.get c.st.channels k = (AMap.get c0.st.channels k).bind (delChan lcn)
  sessKeys : AMap.keys c.st.sessions = AMap.keys c0.st.sessions
  sess : ∀ id, AMap.get c.st.sessions id = (AMap.get c0.st.sessions id).map
    fun s => { s with invitedTo := s.invitedTo.filter (fun x => !deadKey lcn c0.st.channels x) }

theorem delLoop_final (lcn : String) (c : Ctx) (hn : (AMap.keys c.st.channels).Nodup)
    (hk0 : ∀ lc ch, AMap.get c.st.channels lc = some ch → chanToLower ch.name = lc) :
    DelFinal lcn c (c.st.channels.foldl (delStep lcn) c) := by
  have h := DelSem.foldl (lcn := lcn) hk0 c.st.channels c [] (DelSem.init lcn c hn) hn (fun _ _ => by simp)
  rw [List.append_nil] at h
  have hmem : ∀ k, k ∈ (c.st.channels.map (·.1)).reverse ↔ k ∈ AMap.keys c.st.channels := by
    intro k; rw [List.mem_reverse]; rfl
  have hkeep : keepInv lcn c.st.channels (c.st.channels.map (·.1)).reverse =
      fun x => !deadKey lcn c.st.channels x := by
    funext x
    unfold keepInv
    by_cases hx : x ∈ AMap.keys c.st.channels
    · simp [(hmem x).2 hx]
    · have : deadKey lcn c.st.channels x = false := by
        unfold deadKey; rw [AMap.get_eq_none_iff.2 hx]
      simp [this]
  refine { h with chan := fun k => ?_, sess := fun id => by rw [h.sess id, hkeep] }
  rw [h.chan k]
  split
  · rfl
  · rename_i hk
    have : k ∉ AMap.keys c.st.channels := fun hm => hk ((hmem k).2 hm)
    rw [AMap.get_eq_none_iff.2 this]; rfl

theorem delChan_congr (lcn : String) {ch ch' : Channel} (h : ChanEq ch ch') :
    ORel ChanEq (delChan lcn ch) (delChan lcn ch') := by
  unfold delChan
  have he := h.nicks.erase lcn
  rw [he.length_eq]
  split
  · exact .ss (h.withNicks he)
  · exact .nn

theorem deadKey_congr (lcn : String) {m m' : AMap String Channel} (h : MEq ChanEq m m') (k : String) :
    deadKey lcn m' k = deadKey lcn m k := by
  unfold deadKey
  have hk := h.rel k
  generalize AMap.get m k = o at hk
  generalize AMap.get m' k = o' at hk
  cases hk with
  | nn => rfl
  | ss hr =>
    rename_i a b
    have := delChan_congr lcn hr
    show (delChan lcn b).isNone = (delChan lcn a).isNone
    generalize delChan lcn a = x at this
    generalize delChan lcn b = y at this
    cases this <;> rfl

theorem delChan_name {lcn : String} {ch x : Channel} (h : delChan lcn ch = some x) : x.name = ch.name := by
  unfold delChan at h
  split at h
  · cases h; rfl
  · cases h

theorem delLoop_congr {c c' : Ctx} (h : CEq c c') (lcn : String) :
    CEq (c.st.channels.foldl (delStep lcn) c) (c'.st.channels.foldl (delStep lcn) c') := by
  have f := delLoop_final lcn c h.st.channels.nd h.st.ckey
  have f' := delLoop_final lcn c' h.st.channels.nd' h.st.ckey'
  refine ⟨⟨?_, ?_, ?_, ?_, ?_, ?_, ?_, ?_, ?_⟩, ?_, ?_, ?_⟩
  · -- sessions
    refine ⟨by rw [f.sessKeys]; exact h.st.sessions.nd, by rw [f'.sessKeys]; exact h.st.sessions.nd', fun id => ?_⟩
    rw [f.sess id, f'.sess id]
    refine (h.st.sessions.rel id).map (fun s s' hs => ?_)
    have : (fun x => !deadKey lcn c'.st.channels x) = fun x => !deadKey lcn c.st.channels x := by
      funext x; rw [deadKey_congr lcn h.st.channels x]
    rw [this]
    exact hs.withInvitedTo (hs.invitedTo.filter _)
  · rw [f.nicks, f'.nicks]; exact h.st.nicks
  · refine ⟨f.chanNodup, f'.chanNodup, fun k => ?_⟩
    rw [f.chan k, f'.chan k]
    exact (h.st.channels.rel k).bind (fun ch ch' hch => delChan_congr lcn hch)
  · rw [f.svsholds, f'.svsholds]; exact h.st.svsholds
  · rw [f.serverSessions, f'.serverSessions]; exact h.st.serverSessions
  · rw [f.lastProcessed, f'.lastProcessed]; exact h.st.lastProcessed
  · rw [f.serverName, f'.serverName]; exact h.st.serverName
  · rw [f.config, f'.config]; exact h.st.config
  · intro lc x hg
    rw [f.chan lc] at hg
    cases hg0 : AMap.get c.st.channels lc with
    | none => rw [hg0] at hg; cases hg
    | some ch =>
      rw [hg0] at hg
      rw [delChan_name hg]
      exact h.st.ckey lc ch hg0
  · rw [f.msgid, f'.msgid]; exact h.msgid
  · rw [f.replyid, f'.replyid]; exact h.replyid
  · rw [f.out, f'.out]; exact h.out

theorem deleteSession_congr {c c' : Ctx} (h : CEq c c') (sid : Id) :
    RRel CEq (deleteSession c sid) (deleteSession c' sid) := by
  rcases h.st.sess_cases sid with ⟨h1, h2⟩ | ⟨s, chs, inv, h1, h2, hs⟩
  · rw [deleteSession_none h1, deleteSession_none h2]; exact .panic
  · rw [deleteSession_eq h1, deleteSession_eq h2]
    have hl := delLoop_congr h (nickToLower s.nick)
    refine modS_congr_upd (hl.withSt (hl.st.withNicks (hl.st.nicks.erase _))) sid _
     

end Robust.Irc
