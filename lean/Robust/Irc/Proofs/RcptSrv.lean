import Robust.Irc.Proofs.RcptMem
import Robust.Irc.Proofs.H3
/-!
C12: PRIVMSG / NOTICE sent by a services link on behalf of one of its pseudo-clients
(`cmdServerPrivmsg`): numeric replies go to the services links, the message to exactly the sessions
listing the channel, resp. to the owner of the target nickname.  (Services links are trusted: the
prefix is the one the link supplies, with user and host `services`.)
-/
namespace Robust.Irc
open Robust AMap

inductive SrvPrivmsgLine (st : St) (m : IrcMsg) (o : Out) : Prop
  /-- numeric reply (411, 412, 403, 401): to the services links only -/
  | reply (h : o.rcpt = st.serverSessions)
  /-- channel message: to exactly the sessions listing the channel -/
  | chan (p0 pn : String) (ch : Channel) (hp : m.params[0]? = some p0) (hh : hasPrefix p0 "#" = true)
      (hc : AMap.get st.channels (chanToLower p0) = some ch) (hpn : pfxName m = .ok pn)
      (hd : o.data = (IrcMsg.mk (some ⟨pn, "services", "services"⟩) m.command [p0, m.trailing]).render)
      (hr : RcptIs o (Lists st (chanToLower p0)) [])
  /-- private message: to the session owning the target nickname only -/
  | user (p0 pn : String) (tid : Id) (hp : m.params[0]? = some p0) (hh : hasPrefix p0 "#" = false)
      (hi : AMap.get st.nicks (nickToLower p0) = some tid) (hpn : pfxName m = .ok pn)
      (hd : o.data = (IrcMsg.mk (some ⟨pn, "services", "services"⟩) m.command [p0, m.trailing]).render)
      (hr : ToOnly tid o)

theorem servicesPrefix_eq_ok {m : IrcMsg} {sp : Prefix} (h : servicesPrefix m = .ok sp) :
    ∃ pn, pfxName m = .ok pn ∧ sp = ⟨pn, "services", "services"⟩ := by
  unfold servicesPrefix at h
  obtain ⟨pn, hpn, h⟩ := Res.bind_eq_ok.1 h
  cases h
  exact ⟨pn, hpn, rfl⟩

theorem cmdServerPrivmsg_out {c c' : Ctx} {sid : Id} {m : IrcMsg} (hi : Inv c.st) (hn : NI c.st)
    (hr : cmdServerPrivmsg c sid m = .ok c') :
    c'.st = c.st ∧ NewOut (SrvPrivmsgLine c.st m) c c' := by
  revert c' hr
  show (cmdServerPrivmsg c sid m).Sat _
  have reply : ∀ f : String → IrcMsg, (do let pn ← pfxName m; pure (sendSvc c (f pn))).Sat
      fun c' => c'.st = c.st ∧ NewOut (SrvPrivmsgLine c.st m) c c' :=
    fun _ => .bind fun _ _ => .pure ⟨rfl, (NewOut.refl _ c).emit fun _ _ => .reply rfl⟩
  unfold cmdServerPrivmsg
  refine .ite (fun _ => reply _) fun _ => .ite (fun _ => reply _) fun _ => .andThen (param_sat m 0) fun p0 hp => ?_
  refine .ite (fun hh => ?_) fun hh => ?_
  · cases hch : getChan c (chanToLower p0) with
    | none => exact reply _
    | some ch =>
      refine .bind fun sp hsp => .bind fun rc hrc => .pure ?_
      obtain ⟨pn, hpn, rfl⟩ := servicesPrefix_eq_ok hsp
      exact ⟨rfl, (NewOut.refl _ c).emit fun _ _ =>
        .chan p0 pn ch hp hh hch hpn rfl (rcChannel_lists hi hn hch hrc).rcptIs_nil⟩
  · cases hti : AMap.get c.st.nicks (nickToLower p0) with
    | none => exact reply _
    | some tid =>
      refine .bind fun sp hsp => .pure ?_
      obtain ⟨pn, hpn, rfl⟩ := servicesPrefix_eq_ok hsp
      exact ⟨rfl, (NewOut.refl _ c).sendUser fun _ _ => .user p0 pn tid hp (by simpa using hh) hti hpn rfl rfl⟩

end Robust.Irc
