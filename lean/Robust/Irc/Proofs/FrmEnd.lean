import Robust.Irc.Proofs.FrmEntry
/-!
End of a session (C17): what holds for a session `σ` after `deleteSession` has run for it —
it is flagged `deleted`, its nickname is free and it is on no channel (`Ended`) — and that
`MaybeDeleteSession` then removes it from the session map.  Lifted through `processMessage`
for the two commands that end a session by name (QUIT of the acting client, KILL by an operator)
and for the GLINE-ban path of the address stage, and then through one committed entry (`Gone`,
`applyEntry_delete_ends` / `_quit_ends` / `_kill_ends` / `_banned_ends`): after the entry the session is not
stored, its nickname is free and it is on no channel.
-/
namespace Robust.Irc
open Robust AMap

structure Ended (st : St) (σ : Id) (lcn : String) : Prop where
  flagged : ∃ s', AMap.get st.sessions σ = some s' ∧ s'.deleted = true
  nickFree : AMap.get st.nicks lcn = none
  offChans : ∀ lc ch, AMap.get st.channels lc = some ch → lcn ∉ AMap.keys ch.nicks

theorem deleteSession_ended {c c' : Ctx} {σ : Id} {s : Session} (h : WInv c.st)
    (hs : AMap.get c.st.sessions σ = some s) (hl : s.deleted = false)
    (hr : deleteSession c σ = .ok c') : Ended c'.st σ (nickToLower s.nick) := by
  have sp := deleteSession_spec h hs (DelPre.of_live hl) hr
  obtain ⟨inv, hinv⟩ := sp.self
  refine ⟨⟨_, hinv, rfl⟩, ?_, sp.gone⟩
  rw [sp.nicks]; exact AMap.get_erase_same _ _

theorem cmdQuit_ended {c : Ctx} {sid : Id} {m : IrcMsg} {s : Session} (hp : Pre c sid)
    (hs : AMap.get c.st.sessions sid = some s) :
    (cmdQuit c sid m).Sat fun c' => Ended c'.st sid (nickToLower s.nick) := by
  unfold cmdQuit
  refine .bind fun c1 h1 => ?_
  have e1 := deleteSession_ended hp.inv.toWInv hs (hp.live hs) h1
  exact .bind fun s1 _ => .ite (fun _ => .bind fun rc _ => .pure e1) fun _ => .pure e1

theorem cmdKill_ended {c : Ctx} {sid tid : Id} {m : IrcMsg} {s : Session} {p0 : String} (hp : Pre c sid)
    (hs : AMap.get c.st.sessions sid = some s) (hop : s.operator = true) (hp0 : param m 0 = .ok p0)
    (ht : AMap.get c.st.nicks (nickToLower p0) = some tid) :
    (cmdKill c sid m).Sat fun c' => Ended c'.st tid (nickToLower p0) ∧
      ∃ a, AMap.get c'.st.sessions sid = some a ∧ (a.operator = true ∨ sid = tid) := by
  unfold cmdKill
  refine .bindEq (getS_of_get hs) (.ite (fun h => absurd h (by rw [hop]; decide)) fun _ => .bindEq hp0 ?_)
  rw [ht]
  obtain ⟨t, ht1, htl, htn⟩ := hp.inv.index _ _ ht
  refine .bind fun c1 h1 => .bind fun t1 _ => .bind fun s2 _ => .bind fun rc _ => .pure ?_
  have sp := deleteSession_spec hp.inv.toWInv ht1 (DelPre.of_live htl) h1
  have e1 := deleteSession_ended hp.inv.toWInv ht1 htl h1
  rw [htn] at e1
  refine ⟨e1, ?_⟩
  by_cases hst : sid = tid
  · subst hst
    obtain ⟨s', hs', _⟩ := e1.flagged
    exact ⟨s', hs', Or.inr rfl⟩
  · obtain ⟨inv, hinv⟩ := sp.others sid s hst hs
    exact ⟨_, hinv, Or.inl hop⟩

theorem maybeDeleteSession_removes {st : St} {sid : Id} {s : Session}
    (hs : AMap.get st.sessions sid = some s) (hd : s.deleted = true) :
    AMap.get (maybeDeleteSession st sid).sessions sid = none := by
  unfold maybeDeleteSession
  simp only [hs, hd, if_true]
  exact AMap.get_erase_same _ _

theorem maybeDeleteSession_purges {st : St} {sid tid : Id} {a t : Session}
    (hnd : (AMap.keys st.sessions).Nodup) (ha : AMap.get st.sessions sid = some a)
    (hpriv : (a.server || a.operator) = true)
    (ht : AMap.get st.sessions tid = some t) (hd : t.deleted = true) :
    AMap.get (maybeDeleteSession st sid).sessions tid = none := by
  cases hg : AMap.get (maybeDeleteSession st sid).sessions tid with
  | none => rfl
  | some v =>
    obtain ⟨h1, h2⟩ := (get_maybeDeleteSession hnd).1 hg
    rw [ht] at h1; cases h1
    exact ((h2 hd).2 ⟨a, ha, by simpa using hpriv⟩).elim

theorem GateRun.reaches {c c' : Ctx} {e : Entry} {m : IrcMsg} {fname : String} {mp : Nat} {h : Handler} {s : Session}
    (hg : GateRun c e m c') (hs : AMap.get c.st.sessions e.session = some s) (hid : s.id = e.session)
    (hgate : GateOK s (toUpper m.command))
    (hkey : lookupCommand ((if s.server then "server_" else "") ++ toUpper m.command) = some (fname, mp))
    (hlen : mp ≤ m.params.length) (hh : handlerByName fname = some h) : h c e.session m = .ok c' := by
  cases hg with
  | refused hs1 hng | expired hs1 hng => cases hs.symm.trans hs1; exact absurd hgate hng
  | unknown hs1 _ hl => cases hs.symm.trans hs1; cases hkey.symm.trans hl
  | fewParams hs1 _ hl hlt => cases hs.symm.trans hs1; cases hkey.symm.trans hl; omega
  | call hs1 _ hl _ hh1 hr =>
    cases hs.symm.trans hs1; cases hkey.symm.trans hl; cases hh.symm.trans hh1
    rw [← hid]; exact hr

theorem addrStage_ended {c c1 : Ctx} {e : Entry} {s : Session} (hp : Pre c e.session)
    (hs : AMap.get c.st.sessions e.session = some s) (ha : AddrRun c e s c1 true) :
    Ended c1.st e.session (nickToLower s.nick) := by
  have hid : s.id = e.session := (hp.inv.sessId _ s hs).1
  cases ha with
  | banned _ hm _ _ hd =>
    rw [hid] at hm hd
    have hp0 := hp.modS_inert hm (fun _ => ⟨rfl, rfl, rfl, rfl⟩) (fun _ => rfl)
    exact deleteSession_ended (s := { s with remoteAddr := e.remoteAddr }) (hp0.sendUser _ _).inv.toWInv
      (modS_get_self hs hid hm) (hp.live (s := s) hs) hd

theorem addrStage_pass {c c1 : Ctx} {e : Entry} {s : Session} {b : Bool}
    (hnb : AMap.get c.st.config.banned e.remoteAddr = none) (ha : AddrRun c e s c1 b) :
    b = false := by
  cases ha with
  | same => rfl
  | stored => rfl
  | banned _ hm hb =>
    rw [(modS_frame hm).2.1, hnb] at hb
    cases hb

/-- `ProcessMessage` on a line whose command is in the table, passes the gate and has enough
parameters: either the sender's address was banned (and the sender deleted), or the handler ran on
a context that differs from the original one by the sender's `remoteAddr` only -/
theorem processMessage_reaches {c c' : Ctx} {e : Entry} {m : IrcMsg} {fname : String} {mp : Nat}
    {h : Handler} {s : Session} (hp : Pre c e.session) (hn : NI c.st)
    (hs : AMap.get c.st.sessions e.session = some s) (hgate : GateOK s (toUpper m.command))
    (hkey : lookupCommand ((if s.server then "server_" else "") ++ toUpper m.command) = some (fname, mp))
    (hlen : mp ≤ m.params.length) (hh : handlerByName fname = some h)
    (hr : processMessage c e (some m) = .ok c') :
    AddrRun c e s c' true ∨
    ∃ c1 a, AddrRun c e s c1 false ∧ Pre c1 e.session ∧
      AMap.get c1.st.sessions e.session = some { s with remoteAddr := a } ∧
      c1.st.nicks = c.st.nicks ∧ c1.st.channels = c.st.channels ∧ h c1 e.session m = .ok c' := by
  have hid : s.id = e.session := (hp.inv.sessId _ s hs).1
  cases processMessage_run hr with
  | banned hs1 ha => cases hs.symm.trans hs1; exact .inl ha
  | @gate _ _ c1 _ hs1 ha hg =>
    cases hs.symm.trans hs1
    obtain ⟨hp1, _⟩ := ha.spec hp hn hs
    obtain ⟨a, ha1, hn1, hc1, _⟩ := ha.actor hs hid
    exact .inr ⟨c1, a, ha, hp1, ha1, hn1, hc1,
      hg.reaches (s := { s with remoteAddr := a }) ha1 hid hgate hkey hlen hh⟩

/-- the line generated for a DeleteSession entry always parses -/
theorem parseMessage_quit_some (x : String) : ∃ m, parseMessage ("QUIT :" ++ x) = some m :=
  (String.append_assoc (s₁ := "QUIT") (s₂ := " :") (s₃ := x)) ▸
    parseMessage_some_of_prefix "QUIT" (" :" ++ x) 'Q' 'U' ['I', 'T'] rfl (by decide) (by decide)

/-- QUIT of a client session (typed by the client or generated for a DeleteSession entry):
the acting session is ended -/
theorem processMessage_quit_ended {c c' : Ctx} {e : Entry} {m : IrcMsg} {s : Session}
    (hp : Pre c e.session) (hn : NI c.st) (hs : AMap.get c.st.sessions e.session = some s)
    (hsv : s.server = false) (hq : toUpper m.command = "QUIT")
    (hr : processMessage c e (some m) = .ok c') : Ended c'.st e.session (nickToLower s.nick) := by
  have hkey : lookupCommand ((if s.server then "server_" else "") ++ toUpper m.command) = some ("cmdQuit", 0) := by
    rw [hsv, hq]; decide +kernel
  have hgate : GateOK s (toUpper m.command) := by
    rw [hq]; exact Or.inr (Or.inr (Or.inr (Or.inr (Or.inr (Or.inl rfl)))))
  rcases processMessage_reaches hp hn hs hgate hkey (Nat.zero_le _) rfl hr with h1 | ⟨c1, a, _, hp1, ha, _, _, hq1⟩
  · exact addrStage_ended hp hs h1
  · exact (cmdQuit_ended (s := { s with remoteAddr := a }) hp1 ha).apply hq1

/-- KILL by a registered IRC operator whose address is not banned: the named session is ended, and
the operator's session is still privileged when `MaybeDeleteSession` runs -/
theorem processMessage_kill_ended {c c' : Ctx} {e : Entry} {m : IrcMsg} {s : Session} {p0 : String} {tid : Id}
    (hp : Pre c e.session) (hn : NI c.st) (hs : AMap.get c.st.sessions e.session = some s)
    (hsv : s.server = false) (hli : s.loggedIn = true) (hop : s.operator = true)
    (hnb : AMap.get c.st.config.banned e.remoteAddr = none)
    (hq : toUpper m.command = "KILL") (hlen : 2 ≤ m.params.length) (hp0 : param m 0 = .ok p0)
    (ht : AMap.get c.st.nicks (nickToLower p0) = some tid)
    (hr : processMessage c e (some m) = .ok c') :
    Ended c'.st tid (nickToLower p0) ∧
    ∃ a, AMap.get c'.st.sessions e.session = some a ∧ (a.operator = true ∨ e.session = tid) := by
  have hkey : lookupCommand ((if s.server then "server_" else "") ++ toUpper m.command) = some ("cmdKill", 2) := by
    rw [hsv, hq]; decide +kernel
  have hgate : GateOK s (toUpper m.command) := Or.inr (Or.inl hli)
  rcases processMessage_reaches hp hn hs hgate hkey hlen rfl hr with h1 | ⟨c1, a, _, hp1, ha, hn1, _, hk1⟩
  · exact absurd (addrStage_pass hnb h1) (by decide)
  · exact (cmdKill_ended (s := { s with remoteAddr := a }) hp1 ha hop hp0 (by rw [hn1]; exact ht)).apply hk1

structure Gone (st : St) (σ : Id) (lcn : String) : Prop where
  notStored : AMap.get st.sessions σ = none
  nickFree : AMap.get st.nicks lcn = none
  offChans : ∀ lc ch, AMap.get st.channels lc = some ch → lcn ∉ AMap.keys ch.nicks

theorem Ended.finish_self {st : St} {σ x : Id} {lcn : String} (h : Ended st σ lcn) :
    Gone (maybeDeleteSession { st with lastProcessed := x } σ) σ lcn := by
  obtain ⟨s', hs', hd⟩ := h.flagged
  obtain ⟨_, _, hn, hc⟩ := maybeDeleteSession_other { st with lastProcessed := x } σ
  refine ⟨maybeDeleteSession_removes (st := { st with lastProcessed := x }) hs' hd, ?_, ?_⟩
  · rw [hn]; exact h.nickFree
  · rw [hc]; exact h.offChans

theorem Ended.finish_priv {st : St} {sid tid x : Id} {lcn : String} {a : Session}
    (hnd : (AMap.keys st.sessions).Nodup) (ha : AMap.get st.sessions sid = some a)
    (hp : a.operator = true ∨ sid = tid) (h : Ended st tid lcn) :
    Gone (maybeDeleteSession { st with lastProcessed := x } sid) tid lcn := by
  rcases hp with hp | hp
  · obtain ⟨t', ht', hd⟩ := h.flagged
    obtain ⟨_, _, hn, hc⟩ := maybeDeleteSession_other { st with lastProcessed := x } sid
    refine ⟨maybeDeleteSession_purges (st := { st with lastProcessed := x }) hnd ha (by rw [hp]; simp) ht' hd, ?_, ?_⟩
    · rw [hn]; exact h.nickFree
    · rw [hc]; exact h.offChans
  · subst hp; exact h.finish_self

/-- DeleteSession entry (expiry, DELETE request) of a stored client session -/
theorem applyEntry_delete_ends {st st' : St} {e : Entry} {out : List Out} {s : Session} (h : GInv st)
    (he : EntryOk st e) (ht : e.type = 1) (hs : AMap.get st.sessions e.session = some s)
    (hsv : s.server = false) (hr : applyEntry st e = .ok (st', out)) :
    Gone st' e.session (nickToLower s.nick) := by
  rcases applyEntry_delete ht hr with ⟨hn, _, _⟩ | ⟨s0, c, hs0, hpm, rfl, _⟩
  · rw [hs] at hn; cases hn
  · obtain ⟨m, hm⟩ := parseMessage_quit_some e.data
    rw [hm] at hpm
    have hp : Pre { st := st, msgid := e.id } e.session := h.pre hs (he.1 (Or.inl ht))
    exact (processMessage_quit_ended hp h.ni hs hsv (parseMessage_quit _ hm).2 hpm).finish_self

theorem GInv.clientStart {st st1 : St} {e : Entry} {s : Session} (h : GInv st) (he : EntryOk st e) (ht : e.type = 2)
    (hs : AMap.get st.sessions e.session = some s) (hu : updateLastClientMessageID st e = some st1) :
    ∃ s1, LastUpdate st e st1 s s1 ∧ GInv st1 ∧ Pre { st := st1, msgid := e.id } e.session := by
  obtain ⟨s0, s1, u⟩ := updateLast_run hu
  cases hs.symm.trans u.get
  exact ⟨s1, u, h.clientPre he ht hu⟩

/-- QUIT typed by a client -/
theorem applyEntry_quit_ends {st st' : St} {e : Entry} {out : List Out} {s : Session} {m : IrcMsg} (h : GInv st)
    (he : EntryOk st e) (ht : e.type = 2) (hs : AMap.get st.sessions e.session = some s)
    (hsv : s.server = false) (hm : parseMessage e.data = some m) (hq : toUpper m.command = "QUIT")
    (hr : applyEntry st e = .ok (st', out)) : Gone st' e.session (nickToLower s.nick) := by
  rcases applyEntry_client ht hr with ⟨hn, _, _⟩ | ⟨st1, c, hu, hpm, rfl, _⟩
  · rw [hs] at hn; cases hn
  · obtain ⟨s1, u, h1, hp⟩ := h.clientStart he ht hs hu
    rw [hm] at hpm
    have := processMessage_quit_ended hp h1.ni u.get1 (by rw [u.same.server]; exact hsv) hq hpm
    rw [u.same.nick] at this
    exact this.finish_self

/-- KILL by a registered IRC operator (whose address is not banned) of the session indexed under
the first parameter -/
theorem applyEntry_kill_ends {st st' : St} {e : Entry} {out : List Out} {s : Session} {m : IrcMsg}
    {p0 : String} {tid : Id} (h : GInv st) (he : EntryOk st e) (ht : e.type = 2)
    (hs : AMap.get st.sessions e.session = some s) (hsv : s.server = false) (hli : s.loggedIn = true)
    (hop : s.operator = true) (hnb : AMap.get st.config.banned e.remoteAddr = none)
    (hm : parseMessage e.data = some m) (hq : toUpper m.command = "KILL") (hlen : 2 ≤ m.params.length)
    (hp0 : param m 0 = .ok p0) (htid : AMap.get st.nicks (nickToLower p0) = some tid)
    (hr : applyEntry st e = .ok (st', out)) : Gone st' tid (nickToLower p0) := by
  rcases applyEntry_client ht hr with ⟨hn, _, _⟩ | ⟨st1, c, hu, hpm, rfl, _⟩
  · rw [hs] at hn; cases hn
  · obtain ⟨s1, u, h1, hp⟩ := h.clientStart he ht hs hu
    rw [hm] at hpm
    have hnd := ((processMessage_frm (he.1 (Or.inr ht)) h1.sessWf).apply hpm).1.wf.nodup
    obtain ⟨hend, a, ha, hpa⟩ := processMessage_kill_ended (c := { st := st1, msgid := e.id }) hp h1.ni u.get1
      (by rw [u.same.server]; exact hsv) (by rw [u.same.loggedIn]; exact hli) (by rw [u.same.operator]; exact hop)
      (by show AMap.get st1.config.banned e.remoteAddr = none; rw [u.config]; exact hnb) hq hlen hp0
      (by show AMap.get st1.nicks (nickToLower p0) = some tid; rw [u.nicks]; exact htid) hpm
    exact hend.finish_priv hnd ha hpa

/-- a banned address: the address stage ends the sender -/
theorem addrStage_banned {c c1 : Ctx} {e : Entry} {s : Session} {b : Bool} {reason : String}
    (hne : (e.remoteAddr != "" && e.remoteAddr != s.remoteAddr) = true)
    (hb : AMap.get c.st.config.banned e.remoteAddr = some reason) (hre : reason ≠ "")
    (ha : AddrRun c e s c1 b) : b = true := by
  cases ha with
  | same h => exact absurd hne h
  | stored _ hm hb0 =>
    rw [(modS_frame hm).2.1] at hb0
    exact absurd (hb0 _ hb) hre
  | banned => rfl

/-- a client entry that arrives from a new, GLINE-banned address ends the session -/
theorem applyEntry_banned_ends {st st' : St} {e : Entry} {out : List Out} {s : Session} {m : IrcMsg}
    {reason : String} (h : GInv st) (he : EntryOk st e) (ht : e.type = 2)
    (hs : AMap.get st.sessions e.session = some s) (hm : parseMessage e.data = some m)
    (hne : (e.remoteAddr != "" && e.remoteAddr != s.remoteAddr) = true)
    (hb : AMap.get st.config.banned e.remoteAddr = some reason) (hre : reason ≠ "")
    (hr : applyEntry st e = .ok (st', out)) : Gone st' e.session (nickToLower s.nick) := by
  rcases applyEntry_client ht hr with ⟨hn, _, _⟩ | ⟨st1, c, hu, hpm, rfl, _⟩
  · rw [hs] at hn; cases hn
  · obtain ⟨s1, u, _, hp⟩ := h.clientStart he ht hs hu
    have hbt {c1 : Ctx} {b : Bool} : AddrRun { st := st1, msgid := e.id } e s1 c1 b → b = true :=
      addrStage_banned (by rw [u.same.remoteAddr]; exact hne)
        (by show AMap.get st1.config.banned e.remoteAddr = some reason; rw [u.config]; exact hb) hre
    rw [hm] at hpm
    cases processMessage_run hpm with
    | banned hs1 ha =>
      cases u.get1.symm.trans hs1
      have := addrStage_ended hp u.get1 ha
      rw [u.same.nick] at this
      exact this.finish_self
    | gate hs1 ha => cases u.get1.symm.trans hs1; cases hbt ha

end Robust.Irc
