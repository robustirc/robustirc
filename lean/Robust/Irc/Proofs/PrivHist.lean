import Robust.Irc.Proofs.PrivMode
import Robust.Irc.Proofs.PrivJoin
import Robust.Irc.Proofs.StableTable
/-!
Privilege is history dependent (property C13): where can a channel-operator flag come from?

`OpsLe lc c0 c`: no member key of channel `lc` carries the chanop flag in `c` unless it carried it
in `c0` already ("the chanop flags of `lc` do not gain a new `true`").  It speaks of `c.st.channels`
only and survives the handlers' ordinary updates (`OpsLe.stable`), so every handler that cannot set a flag
keeps it by the common walk (`Special.of_channels`, `handler_stable`).  The closure lemmas below (output,
session updates, a channel value whose flags are among the stored ones, any value under another key) serve
the three client handlers that can: MODE, JOIN and NICK (`PrivHistH.lean`).
-/
namespace Robust.Irc
open Robust AMap

def opFlagC (chs : AMap String Channel) (lc n : String) : Bool :=
  match AMap.get chs lc with
  | some ch => memFlag ch n
  | none => false

theorem chanOpOf_eq (st : St) (nick lc : String) : chanOpOf st nick lc = opFlagC st.channels lc (nickToLower nick) := by
  unfold chanOpOf memberOf opFlagC memFlag
  cases AMap.get st.channels lc <;> rfl

theorem opFlagC_set (chs : AMap String Channel) (lc' : String) (ch' : Channel) (lc n : String) :
    opFlagC (AMap.set chs lc' ch') lc n = if lc = lc' then memFlag ch' n else opFlagC chs lc n := by
  unfold opFlagC
  rw [AMap.get_set]
  by_cases h : lc = lc'
  · rw [if_pos h, if_pos h]
  · rw [if_neg h, if_neg h]

theorem opFlagC_erase (chs : AMap String Channel) (lc' lc n : String) :
    opFlagC (AMap.erase chs lc') lc n = if lc = lc' then false else opFlagC chs lc n := by
  unfold opFlagC
  rw [AMap.get_erase]
  by_cases h : lc = lc'
  · rw [if_pos h, if_pos h]
  · rw [if_neg h, if_neg h]

theorem memFlag_erase (ch : Channel) (k n : String) :
    memFlag { ch with nicks := AMap.erase ch.nicks k } n = if n = k then false else memFlag ch n := by
  unfold memFlag
  dsimp only
  rw [AMap.get_erase]
  by_cases h : n = k
  · rw [if_pos h, if_pos h]
  · rw [if_neg h, if_neg h]

theorem memFlag_set (ch : Channel) (k : String) (mem : Member) (n : String) :
    memFlag { ch with nicks := AMap.set ch.nicks k mem } n = if n = k then mem.chanop else memFlag ch n := by
  unfold memFlag
  dsimp only
  rw [AMap.get_set]
  by_cases h : n = k
  · rw [if_pos h, if_pos h]
  · rw [if_neg h, if_neg h]

def OpsLe (lc : String) (c0 c : Ctx) : Prop :=
  ∀ n, opFlagC c.st.channels lc n = true → opFlagC c0.st.channels lc n = true

namespace OpsLe
variable {lc : String} {c0 c : Ctx}

theorem refl (lc : String) (c : Ctx) : OpsLe lc c c := fun _ h => h

theorem trans {a b c : Ctx} (h1 : OpsLe lc a b) (h2 : OpsLe lc b c) : OpsLe lc a c :=
  fun n h => h1 n (h2 n h)

theorem of_eq {c' : Ctx} (h : OpsLe lc c0 c) (e : c'.st.channels = c.st.channels) : OpsLe lc c0 c' :=
  fun n hn => h n (by rw [← e]; exact hn)

theorem sendUser (h : OpsLe lc c0 c) (sid : Id) (m : IrcMsg) : OpsLe lc c0 (sendUser c sid m) := h.of_eq rfl

theorem modS (h : OpsLe lc c0 c) (sid : Id) (f : Session → Session) : (modS c sid f).Sat (OpsLe lc c0) :=
  (modS_sat c sid f).mono fun _ ⟨_, _, e⟩ => h.of_eq (by rw [e]; rfl)

theorem putChan_other (h : OpsLe lc c0 c) {lc' : String} (ch' : Channel) (hne : lc ≠ lc') :
    OpsLe lc c0 (putChan c lc' ch') := by
  intro n hn
  apply h n
  rw [putChan_channels, opFlagC_set, if_neg hne] at hn
  exact hn

end OpsLe

/-- `OpsLe lc c0` survives the handlers' ordinary updates: they set no chanop flag -/
theorem OpsLe.stable (lc : String) (c0 : Ctx) :
    Stable fun st => ∀ n, opFlagC st.channels lc n = true → opFlagC c0.st.channels lc n = true where
  congr h _ hch _ _ := fun n hn => h n (by rw [← hch]; exact hn)
  setSession h _ _ := h
  mapSessions _ h _ := h
  setChannel ch h hg hk := fun n hn => h n (by
    rw [opFlagC_set] at hn
    split at hn
    · rename_i e
      subst e
      unfold opFlagC
      rw [hg]
      exact hk n hn
    · exact hn)
  eraseChannel lc' h := fun n hn => h n (by
    rw [opFlagC_erase] at hn
    split at hn
    · cases hn
    · exact hn)

theorem OpsLe.sendSvc {lc : String} {c0 c : Ctx} (h : OpsLe lc c0 c) (m : IrcMsg) :
    OpsLe lc c0 (sendSvc c m) := h.of_eq rfl

theorem OpsLe.ite {lc : String} {c0 : Ctx} {p : Prop} [Decidable p] {a b : Ctx} (ha : OpsLe lc c0 a)
    (hb : OpsLe lc c0 b) : OpsLe lc c0 (if p then a else b) := by
  split <;> assumption

end Robust.Irc
