import Robust.Irc.Proofs.H3a
import Robust.Irc.Proofs.H2b
import Robust.Irc.Proofs.H2d
/-!
SVSJOIN.  It calls `cmdTopic` (with one parameter: a query, which only answers) and `cmdNames` on behalf of the
joined session.
-/
namespace Robust.Irc
open Srv
open Robust AMap

theorem Srv.Emits.of_emits {c c' : Ctx} (h : Robust.Irc.Emits c c') : Srv.Emits c c' := ⟨h.st, h.msgid, h.out⟩

theorem cmdServerSvsjoin_wp : SrvWp cmdServerSvsjoin 2 := fun c0 c sid m h => by
  unfold cmdServerSvsjoin
  refine .bind (param_wp fun g => Nat.lt_of_succ_lt g.2) fun p0 _ _ => .bind (param_wp And.right) fun chn _ _ => ?_
  dsimp only
  cases hidx : AMap.get c.st.nicks (nickToLower p0) with
  | none => exact h.reply_wp And.left _
  | some tid =>
    refine .ite (fun _ => h.reply_wp And.left _) fun hvc =>
      .ite (fun _ => h.reply_wp And.left _) fun _ => .ite (fun hcont => .pure ?_) fun _ => ?_
    · -- already a member: the stored channel is written back
      cases hg : AMap.get c.st.channels (chanToLower chn) with
      | none => rw [getChan_eq, hg] at hcont; cases hcont
      | some ch => rw [getChan_eq, hg, Option.getD_some, putChan_same hg]; exact h
    · rw [putChan_putChan]
      refine .bind (h.addMember_wp hidx (.getD c.st rfl) (getD_chan_valid hvc)) fun c1 _ ⟨h1, hl, hidx1⟩ => ?_
      have hw1 := h1.hinv.toWInvCore
      refine .bind (getS_wp fun _ => hw1.indexed_stored hidx1) fun t _ ht =>
        .bind (rcChannel_wp (fun _ => hw1) hl) fun rc _ _ => ?_
      have h2 := (h1.emit ⟨some t.ircPrefix, "JOIN", [chn]⟩ rc).sendSvc
      -- TOPIC in its query form and NAMES, for the joined session, which is stored: they only append output
      exact .bind ((cmdTopic_query_wp rfl).gate fun _ => ⟨t, ht⟩) fun c2 _ r2 =>
        ((cmdNames_wp c2 tid _).gate fun _ => ⟨by rw [r2.st]; exact hw1, by rw [r2.st]; exact ⟨t, ht⟩⟩).mono fun _ r =>
          ((h2 _).emits (.of_emits r2.emits)).emits (.of_emits r.emits)

end Robust.Irc
