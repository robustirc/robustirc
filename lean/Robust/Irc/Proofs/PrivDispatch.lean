import Robust.Irc.Proofs.Priv
import Robust.Irc.Proofs.Entry
/-!
Services commands are only honoured from an authenticated services link (property C13):
the handlers `cmdServerInvite … cmdServerTopic` are registered under `server_…` keys only, and
`processMessage` builds a `server_…` key only for a session with `s.server = true`; the flag
`server` is set by `cmdServer` only (see `cmdServer_guard`).
-/
namespace Robust.Irc
open Robust AMap

/-- the handler functions that implement the server-to-server protocol (`cmdServer` itself is
the *client* command SERVER that authenticates the link) -/
def isServicesHandlerName (f : String) : Bool := hasPrefix f "cmdServer" && f != "cmdServer"

/-- the regenerated command table: a services handler is registered only under keys that start
with a lower-case `s` (`server_…`), and those keys are exactly the `server_…` keys -/
theorem table_services_keys :
    Gen.Commands.commands.all (fun e =>
      (startsLowerS e.1 || !isServicesHandlerName e.2.1) && (startsLowerS e.1 == hasPrefix e.1 "server_")) = true := by
  decide +kernel

theorem lookup_services_key {key fname : String} {mp : Nat} (h : lookupCommand key = some (fname, mp))
    (hs : isServicesHandlerName fname = true) : startsLowerS key = true := by
  have hm := lookupCommand_mem h
  have := List.all_eq_true.1 table_services_keys _ hm
  simp only [Bool.and_eq_true, Bool.or_eq_true, Bool.not_eq_true', beq_iff_eq] at this
  rcases this.1 with h1 | h1
  · exact h1
  · rw [hs] at h1; cases h1

/-- no client command line selects a services handler: the command is upper-cased before the lookup -/
theorem lookup_client_not_services {x fname : String} {mp : Nat} (h : lookupCommand (toUpper x) = some (fname, mp)) :
    isServicesHandlerName fname = false := by
  cases hs : isServicesHandlerName fname with
  | false => rfl
  | true =>
    have := lookup_services_key h hs
    rw [startsLowerS_toUpper] at this
    cases this

/-- what the dispatch does for a session that is not a services link: a numeric to the actor
(unknown command / not enough parameters), or a handler that is not a services handler -/
inductive ClientDispatched (c : Ctx) (s : Session) (m : IrcMsg) (command : String) (c' : Ctx) : Prop
  | refused (h : Refused c c' s.id)
  | handler (fname : String) (mp : Nat) (h : Handler) (hl : lookupCommand command = some (fname, mp))
      (hn : isServicesHandlerName fname = false) (hh : handlerByName fname = some h) (hr : h c s.id m = .ok c')

theorem dispatchStage_client {c c' : Ctx} {s : Session} {m : IrcMsg} {x : String}
    (hsv : s.server = false) (hr : dispatchStage c s m (toUpper x) = .ok c') :
    ClientDispatched c s m (toUpper x) c' := by
  refine Res.Sat.apply (dispatchStage_sat (fun _ => .refused (.reply c s.id _)) fun hl _ hh c' hr => ?_) hr
  simp only [hsv, Bool.false_eq_true, ↓reduceIte, String.empty_append] at hl
  exact .handler _ _ _ hl (lookup_client_not_services hl) hh hr

/-- the same through the registration gate: additionally the 451 reply (and the session closing
itself after ten minutes without registration) -/
theorem gateStage_client {c c' : Ctx} {e : Entry} {m : IrcMsg} {x : String} {s : Session}
    (hs : AMap.get c.st.sessions e.session = some s) (hsv : s.server = false)
    (hr : gateStage c e m (toUpper x) = .ok c') :
    ClientDispatched c s m (toUpper x) c' ∨
      (s.loggedIn = false ∧
        (c' = sendUser c s.id (srv c "451" [toUpper x, "You have not registered"]) ∨
         deleteSession (sendUser (sendUser c s.id (srv c "451" [toUpper x, "You have not registered"])) s.id
           ⟨none, "ERROR", ["Closing Link: You have not registered within 10 minutes"]⟩) s.id = .ok c')) := by
  unfold gateStage at hr
  rw [getS_of_get hs] at hr
  simp only [Res.ok_bind] at hr
  split at hr
  · rename_i hg
    have hl : s.loggedIn = false := by
      cases h : s.loggedIn with
      | false => rfl
      | true => simp [h] at hg
    refine Or.inr ⟨hl, ?_⟩
    split at hr
    · exact Or.inr hr
    · cases hr; exact Or.inl rfl
  · exact Or.inl (dispatchStage_client hsv hr)

/-- `ProcessMessage` for a session that is not a services link never runs a services handler:
after the remote-address stage (which keeps the `server` flag) the line goes through
`gateStage_client` -/
theorem processMessage_client {c c' : Ctx} {e : Entry} {m : IrcMsg} {s : Session}
    (hp : Pre c e.session) (hn : NI c.st) (hs : AMap.get c.st.sessions e.session = some s) (hsv : s.server = false)
    (hr : processMessage c e (some m) = .ok c') :
    ∃ c1 b, addrStage c e s = .ok (c1, b) ∧ (b = true → c' = c1) ∧
      (b = false → ∃ s1, AMap.get c1.st.sessions e.session = some s1 ∧ s1.server = false ∧
        gateStage c1 e m (toUpper m.command) = .ok c') := by
  rw [processMessage_eq, getS_of_get hs] at hr
  simp only [Res.ok_bind] at hr
  obtain ⟨⟨c1, b⟩, h1, hr⟩ := Res.bind_eq_ok.1 hr
  refine ⟨c1, b, h1, ?_, ?_⟩
  · intro hb
    subst hb
    simp only [↓reduceIte, Res.pure_eq, Res.ok.injEq] at hr
    exact hr.symm
  · intro hb
    subst hb
    simp only [Bool.false_eq_true, ↓reduceIte] at hr
    obtain ⟨_, _, _, s1, hs1, hsv1⟩ := (addrStage_run h1).spec hp hn hs
    exact ⟨s1, hs1, hsv1.trans hsv, hr⟩

end Robust.Irc
