import Robust.Irc.Proofs.PermH2
/-!
Order-independence, handlers 3: `cmdKnock`, `cmdPart`, `cmdQuit`, `cmdKill`, `cmdGline`, `cmdInvite`,
`cmdMode`, `cmdJoin`.
-/
namespace Robust.Irc
open Robust
attribute [local irreducible] IrcMsg.render emit sendUser sendSvc
theorem cmdKnock_congr : HCongr cmdKnock := by
  intro c c' sid m h
  unfold cmdKnock
  refine getS_bind h sid (fun s chs inv hs => ?_)
  refine RRel.bind_same (fun channelname => ?_)
  rcases getChan_split h (chanToLower channelname) with ⟨h1, h2⟩ | ⟨ch, n, h1, h2, hch, hk⟩
  · simp only [h1, h2]; ceqs
  · simp only [h1, h2]
    apply RRel.ite
    · ceqs
    · refine RRel.bind (rcChannel_congr h.st hch) (fun rc rc' hrc => ?_)
      ceqs

theorem partOne_congr {c c' : Ctx} (h : CEq c c') (sid : Id) (chn : String) :
    RRel CEq (partOne c sid chn) (partOne c' sid chn) := by
  unfold partOne
  refine getS_bind h sid (fun s chs inv hs => ?_)
  rcases getChan_split h (chanToLower chn) with ⟨h1, h2⟩ | ⟨ch, n, h1, h2, hch, hk⟩
  · simp only [h1, h2]; ceqs
  · simp only [h1, h2, hch.contains_nicks]
    apply RRel.ite
    · ceqs
    · refine RRel.bind (rcChannel_congr h.st hch) (fun rc rc' hrc => ?_)
      exact leaveChannel_congr (emit_congr h rfl (hrc.append (rcServices_perm h.st))) _ _ _

theorem cmdPart_congr : HCongr cmdPart := by
  intro c c' sid m h
  unfold cmdPart
  refine RRel.bind_same (fun p0 => ?_)
  exact foldlM_rrel_same _ (fun c c' a _ hc => partOne_congr hc sid a) h

theorem cmdQuit_congr : HCongr cmdQuit := by
  intro c c' sid m h
  unfold cmdQuit
  refine RRel.bind (deleteSession_congr h sid) (fun c1 c1' h1 => ?_)
  refine getS_bind h1 sid (fun s chs inv hs => ?_)
  apply RRel.ite
  · refine RRel.bind (rcCommonChannels_congr h1.st hs) (fun rc rc' hrc => ?_)
    ceqs
  · ceqs

theorem cmdKill_congr : HCongr cmdKill := by
  intro c c' sid m h
  unfold cmdKill
  refine getS_bind h sid (fun s chs inv hs => ?_)
  apply RRel.ite
  · ceqs
  refine RRel.bind_same (fun p0 => ?_)
  rw [h.st.get_nicks]
  split
  · ceqs
  · rename_i tid _
    refine RRel.bind (deleteSession_congr h tid) (fun c1 c1' h1 => ?_)
    refine getS_bind h1 tid (fun t chs inv ht => ?_)
    refine getS_bind h1 sid (fun s1 chs inv hs1 => ?_)
    refine RRel.bind (rcCommonChannels_congr h1.st ht) (fun rc rc' hrc => ?_)
    ceqs

theorem cmdGline_congr : HCongr cmdGline := by
  intro c c' sid m h
  unfold cmdGline
  refine getS_bind h sid (fun s chs inv hs => ?_)
  apply RRel.ite
  · ceqs
  refine RRel.bind_same (fun p0 => ?_)
  rw [h.st.get_nicks]
  split
  · ceqs
  · rename_i tid _
    refine getS_bind h tid (fun t chs inv ht => ?_)
    rw [h.config]
    apply RRel.ite
    · ceqs
    · exact cmdKill_congr _ _ _ _ (h.withSt (h.st.withConfig _))

theorem cmdInvite_congr : HCongr cmdInvite := by
  intro c c' sid m h
  unfold cmdInvite
  refine getS_bind h sid (fun s chs inv hs => ?_)
  refine RRel.bind_same (fun nickname => ?_)
  refine RRel.bind_same (fun channelname => ?_)
  rw [h.st.get_nicks]
  extract_lets lc
  rcases getChan_split h lc with ⟨h1, h2⟩ | ⟨ch, n, h1, h2, hch, hk⟩
  · simp only [h1, h2]; ceqs
  · simp -zeta only [h1, h2, hch.get_nicks, hch.contains_nicks]
    split
    · ceqs
    split
    · ceqs
    rename_i tid _
    refine getS_bind h tid (fun t chs inv ht => ?_)
    apply RRel.ite
    · ceqs
    apply RRel.ite
    · ceqs
    refine RRel.bind (modS_congr h tid (fun s s' hs => hs.withInvitedTo (setInsert_perm hs.invitedTo _))) (fun c1 c1' hc1 => ?_)
    extract_lets c2 c3 c2' c3'
    ceq_let hc2 c2 c2'
    ceq_let hc3 c3 c3'
    refine RRel.bind (rcChannel_congr hc3.st hch) (fun rc rc' hrc => ?_)
    extract_lets c4 c4'
    ceq_let hc4 c4 c4'
    apply RRel.ite <;> ceqs

theorem resolveSessionToRemoteAddr_congr {st st' : St} (h : StEq st st') (p : String) :
    resolveSessionToRemoteAddr st' p = resolveSessionToRemoteAddr st p := by
  unfold resolveSessionToRemoteAddr
  split
  · rfl
  · dsimp only
    refine ite_congr rfl (fun _ => rfl) (fun _ => ?_)
    split
    · rfl
    · rename_i id _
      refine ite_congr rfl (fun _ => rfl) (fun _ => ?_)
      rcases h.sess_cases ⟨id, 0⟩ with ⟨h1, h2⟩ | ⟨s, chs, inv, h1, h2, hs⟩
      · rw [h1, h2]
      · rw [h1, h2]

theorem banOne_congr {ch ch' : Channel} (h : ChanEq ch ch') (add : Bool) (bm p : String) :
    RRel (fun a b => ChanEq a b ∧ a.name = ch.name) (banOne ch add bm p) (banOne ch' add bm p) := by
  unfold banOne
  split
  · exact .declined
  · apply RRel.ite
    · exact .ok ⟨h.upd (fun ch => { ch with bans := ch.bans ++ _ }) (fun _ => rfl) (fun _ => rfl), rfl⟩
    · exact .ok ⟨h.upd (fun ch => { ch with bans := ch.bans.filter _ }) (fun _ => rfl) (fun _ => rfl), rfl⟩

theorem banBoth_congr {ch ch' : Channel} (h : ChanEq ch ch') (add : Bool) (bm p pa : String) :
    RRel (fun a b => ChanEq a b ∧ a.name = ch.name) (banBoth ch add bm p pa) (banBoth ch' add bm p pa) := by
  unfold banBoth
  refine RRel.bind (banOne_congr h add bm p) (fun ch1 ch1' h1 => ?_)
  split
  · exact (banOne_congr h1.1 add bm pa).mono (fun a b hab => ⟨hab.1, hab.2.trans h1.2⟩)
  · exact .ok h1

theorem applyChanMode_congr {c c' : Ctx} (h : CEq c c') (sid : Id) {s s' : Session} (hs : SessEq s s')
    (lc chn : String) (op : Bool) (mc : ModeCmd) (q : Bool) :
    RRel (fun r r' => CEq r.1 r'.1 ∧ r.2 = r'.2) (applyChanMode c sid s lc chn op mc q) (applyChanMode c' sid s' lc chn op mc q) := by
  unfold applyChanMode
  obtain ⟨chs, inv, rfl⟩ := hs.exists_with
  rw [h.config]
  rcases getChan_split h lc with ⟨h1, h2⟩ | ⟨ch, n, h1, h2, hch, hk⟩
  · rw [h1, h2]; exact .panic
  · rw [h1, h2]
    dsimp -zeta only
    extract_lets b nv chA cA cB cC nick pattern patterns cD chA' cA' cB' cC' cD'
    rw [hch.get_nicks]
    have hchA : ChanEq chA chA' := ⟨rfl, hch.nicks⟩
    have hcA : CEq cA cA' := putChan_congr h lc hchA hk
    have hcB : CEq cB cB' := by ceqs
    have hcC : CEq cC cC' := by ceqs
    have hcD : CEq cD cD' := foldl_rel_same _ (fun c c' a _ hc => by ceqs) h
    clear_value cB cB' cC cC' cD cD'
    apply RRel.ite
    · apply RRel.ite
      · refine mrel_ok ?_; ceqs
      apply RRel.ite
      · exact mrel_ok (putChan_congr h lc ⟨rfl, hch.nicks⟩ hk)
      apply RRel.ite
      · apply RRel.ite
        · apply RRel.ite
          · exact mrel_ok h
          · rcases getChan_split hcB lc with ⟨h3, h4⟩ | ⟨ch2, n2, h3, h4, hch2, hk2⟩
            · rw [h3, h4]; exact .panic
            · simp only [h3, h4]
              exact mrel_ok (putChan_congr hcB lc ⟨rfl, hch2.nicks⟩ hk2)
        · exact mrel_ok (putChan_congr hcC lc ⟨rfl, hch.nicks⟩ hk)
      apply RRel.ite
      · apply RRel.ite
        · exact mrel_ok (putChan_congr h lc ⟨rfl, hch.nicks⟩ hk)
        · refine mrel_ok ?_; ceqs
      apply RRel.ite
      · split
        · refine mrel_ok ?_; ceqs
        · apply RRel.ite
          · exact mrel_ok (putChan_congr h lc ⟨rfl, hch.nicks.set _ rfl⟩ hk)
          · exact mrel_ok h
      apply RRel.ite
      · rw [resolveSessionToRemoteAddr_congr h.st]
        refine RRel.bind_same (fun pa => ?_)
        refine RRel.bind (banBoth_congr hch _ _ _ _) (fun ch1 ch1' hch1 => ?_)
        exact mrel_ok (putChan_congr h lc hch1.1 (by rw [hch1.2]; exact hk))
      · refine mrel_ok ?_; ceqs
    · refine mrel_ok ?_; ceqs

theorem applyChanModes_congr (sid : Id) {s s' : Session} (hs : SessEq s s')
    (lc chn : String) (op : Bool) (l : List ModeCmd) :
    ∀ {c c' : Ctx} (_ : CEq c c') (q : Bool),
    RRel (fun r r' => CEq r.1 r'.1 ∧ r.2 = r'.2) (applyChanModes c sid s lc chn op l q) (applyChanModes c' sid s' lc chn op l q) := by
  induction l with
  | nil => intro c c' h q; exact .ok ⟨h, rfl⟩
  | cons mc rest ih =>
    intro c c' h q
    unfold applyChanModes
    refine RRel.bind_ctx (applyChanMode_congr h sid hs lc chn op mc q) (fun c1 c1' r hc1 => ?_)
    obtain ⟨q1, ret⟩ := r
    dsimp only
    apply RRel.ite
    · exact .ok ⟨hc1, rfl⟩
    · exact ih hc1 q1

theorem cmdMode_congr : HCongr cmdMode := by
  intro c c' sid m h
  unfold cmdMode
  refine getS_bind h sid (fun s chs inv hs => ?_)
  refine RRel.bind_same (fun chn => ?_)
  dsimp -zeta only
  extract_lets lc nick modes jp jp'
  rw [hs.chanContains]
  have hjp : RRel CEq (jp ()) (jp' ()) := by
    dsimp only [jp, jp']
    rw [h.st.get_nicks]
    split
    · rename_i tid _
      refine getS_bind h tid (fun t chs inv ht => ?_)
      apply RRel.ite
      · ceqs
      apply RRel.ite
      · ceqs
      · refine RRel.bind (modS_congr_upd h tid _) (fun c1 c1' h1 => ?_)
        ceqs
    · ceqs
  clear_value jp jp'
  refine RRel.ite ?_ hjp
  rcases getChan_split h lc with ⟨h1, h2⟩ | ⟨ch, n, h1, h2, hch, hk⟩
  · rw [h1, h2]; exact .panic
  · rw [h1, h2]
    dsimp -zeta only
    rw [hch.get_nicks]
    apply RRel.ite
    · ceqs
    split
    · rename_i mem _
      dsimp only
      refine RRel.bind_ctx (applyChanModes_congr sid hs lc chn _ modes h true) (fun c1 c1' r hc1 => ?_)
      obtain ⟨q1, ret⟩ := r
      dsimp only
      rw [hc1.replyid]
      apply RRel.ite
      · exact .ok hc1
      apply RRel.ite
      · exact .ok hc1
      apply RRel.ite
      · exact .ok hc1
      rcases getChan_split hc1 lc with ⟨h3, h4⟩ | ⟨ch2, n2, h3, h4, hch2, hk2⟩
      · rw [h3, h4]; exact .panic
      · rw [h3, h4]
        dsimp only
        refine RRel.bind (rcChannel_congr hc1.st hch2) (fun rc rc' hrc => ?_)
        ceqs
    · exact .panic

theorem joinAdmit_congr {c c' : Ctx} (h : CEq c c') (sid : Id) {s s' : Session} (hs : SessEq s s') (chn key : String) :
    RRel (fun r r' => CEq r.1 r'.1 ∧ r.2 = r'.2) (joinAdmit c sid s chn key) (joinAdmit c' sid s' chn key) := by
  unfold joinAdmit
  obtain ⟨chs, inv, rfl⟩ := hs.exists_with
  rw [h.config, h.st.channels.length_eq, srv_congr h "MODE"]
  extract_lets lc
  rw [hs.invContains]
  refine RRel.bind_ctx (α := Option IrcMsg × Bool) ?_ (fun c1 c1' x hc1 => ?_)
  · rcases getChan_split h lc with ⟨h1, h2⟩ | ⟨ch, n, h1, h2, hch, hk⟩
    · rw [h1, h2]
      dsimp -zeta only
      apply RRel.ite
      · refine mrel_ok ?_; ceqs
      · refine mrel_ok (putChan_congr h lc (ChanEq.refl_of List.nodup_nil) rfl)
    · rw [h1, h2]
      dsimp -zeta only
      apply RRel.ite
      · refine mrel_ok ?_; ceqs
      apply RRel.ite
      · exact .declined
      refine RRel.bind_same (fun isB => ?_)
      apply RRel.ite
      · refine mrel_ok ?_; ceqs
      apply RRel.ite
      · refine mrel_ok ?_; ceqs
      · exact mrel_ok h
  · dsimp only
    apply RRel.ite <;> exact mrel_ok hc1

theorem joinAnnounce_congr {c c' : Ctx} (h : CEq c c') (sid : Id) (chn : String) {ch ch' : Channel} (hch : ChanEq ch ch')
    (existed : Bool) (mm : Option IrcMsg) :
    RRel CEq (joinAnnounce c sid chn ch existed mm) (joinAnnounce c' sid chn ch' existed mm) := by
  unfold joinAnnounce
  refine getS_bind h sid (fun s chs inv hs => ?_)
  refine RRel.bind (rcChannel_congr h.st hch) (fun rc rc' hrc => ?_)
  extract_lets c1 c1'
  ceq_let h1 c1 c1'
  refine RRel.bind (?_ : RRel CEq _ _) (fun c2 c2' h2 => ?_)
  · cases mm with
    | none => exact .ok h1
    | some mm =>
      dsimp only
      refine RRel.bind (rcChannel_congr h1.st hch) (fun rc2 rc2' hrc2 => ?_)
      ceqs
  · extract_lets c3 c3'
    ceq_let h3 c3 c3'
    refine RRel.bind (cmdMode_congr _ _ _ _ h3) (fun c4 c4' h4 => ?_)
    refine RRel.bind (cmdTopic_congr _ _ _ _ h4) (fun c5 c5' h5 => ?_)
    exact cmdNames_congr _ _ _ _ h5

theorem joinTail_congr {c c' : Ctx} (h : CEq c c') (sid : Id) {s s' : Session} (hs : SessEq s s') (chn : String)
    (existed : Bool) (mm : Option IrcMsg) :
    RRel CEq (joinTail c sid s chn existed mm) (joinTail c' sid s' chn existed mm) := by
  unfold joinTail
  obtain ⟨chs, inv, rfl⟩ := hs.exists_with
  extract_lets lc lcn
  rcases getChan_split h lc with ⟨h1, h2⟩ | ⟨ch, n, h1, h2, hch, hk⟩
  · rw [h1, h2]; exact .panic
  · rw [h1, h2]
    dsimp -zeta only
    rw [hch.contains_nicks]
    refine RRel.bind (?_ : RRel CEq _ _) (fun c1 c1' hc1 => ?_)
    · apply RRel.ite
      · exact modS_congr h sid (fun s s' hs => hs.withInvitedTo (hs.invitedTo.filter _))
      · exact .ok h
    · apply RRel.ite
      · exact .ok hc1
      extract_lets chA cA chA' cA'
      have hchA : ChanEq chA chA' := ⟨rfl, hch.nicks.set lcn rfl⟩
      have hcA : CEq cA cA' := putChan_congr hc1 lc hchA hk
      clear_value cA cA'
      refine RRel.bind (modS_congr hcA sid (fun s s' hs => hs.withChannels (setInsert_perm hs.channels _))) (fun c2 c2' hc2 => ?_)
      exact joinAnnounce_congr hc2 sid chn hchA existed mm

theorem joinOne_congr {c c' : Ctx} (h : CEq c c') (sid : Id) (chn key : String) :
    RRel CEq (joinOne c sid chn key) (joinOne c' sid chn key) := by
  rw [joinOne_eq, joinOne_eq]
  refine getS_bind h sid (fun s chs inv hs => ?_)
  rw [(getChan_congr h (chanToLower chn)).isSome_eq]
  apply RRel.ite
  · ceqs
  refine RRel.bind_ctx (joinAdmit_congr h sid hs chn key) (fun c1 c1' x hc1 => ?_)
  dsimp only
  cases x with
  | none => exact .ok hc1
  | some mm => exact joinTail_congr hc1 sid hs chn _ mm

theorem joinLoop_congr (sid : Id) (keys : List String) (l : List String) :
    ∀ {c c' : Ctx} (_ : CEq c c') (idx : Nat), RRel CEq (joinLoop c sid keys l idx) (joinLoop c' sid keys l idx) := by
  induction l with
  | nil => intro c c' h idx; exact .ok h
  | cons a rest ih =>
    intro c c' h idx
    unfold joinLoop
    exact RRel.bind (joinOne_congr h sid a _) (fun c1 c1' h1 => ih h1 _)

theorem cmdJoin_congr : HCongr cmdJoin := by
  intro c c' sid m h
  unfold cmdJoin
  refine RRel.bind_same (fun p0 => ?_)
  exact joinLoop_congr sid _ _ h 0

end Robust.Irc
