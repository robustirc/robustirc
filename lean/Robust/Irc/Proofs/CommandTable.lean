import Robust.Irc.Apply
/-!
The command table (`Gen.Commands.commands`, resolved by `handlerByName`) read once, as two relations between
a key, the minimal number of parameters and the handler: one constructor per handler.  A statement about every
handler the table can reach is then proved by `cases` on these relations.
-/
namespace Robust.Irc
open Robust

inductive ClientHandler : String → Nat → Handler → Prop
  | away : ClientHandler "AWAY" 0 cmdAway
  | alias {key : String} (h : key ∈ ["BOTSERV", "BS", "CHANSERV", "CS", "HOSTSERV", "HS", "MEMOSERV", "MS",
      "NICKSERV", "NS", "OPERSERV", "OS"]) : ClientHandler key 0 cmdServiceAlias
  | gline : ClientHandler "GLINE" 2 cmdGline
  | invite : ClientHandler "INVITE" 2 cmdInvite
  | ison : ClientHandler "ISON" 1 cmdIson
  | join : ClientHandler "JOIN" 1 cmdJoin
  | kick : ClientHandler "KICK" 2 cmdKick
  | kill : ClientHandler "KILL" 2 cmdKill
  | knock : ClientHandler "KNOCK" 1 cmdKnock
  | list : ClientHandler "LIST" 0 cmdList
  | mode : ClientHandler "MODE" 1 cmdMode
  | motd : ClientHandler "MOTD" 0 cmdMotd
  | names : ClientHandler "NAMES" 0 cmdNames
  | nick : ClientHandler "NICK" 0 cmdNick
  | oper : ClientHandler "OPER" 2 cmdOper
  | part : ClientHandler "PART" 1 cmdPart
  | pass : ClientHandler "PASS" 0 cmdPass
  | ping : ClientHandler "PING" 0 cmdPing
  | privmsg {key : String} (h : key ∈ ["PRIVMSG", "NOTICE"]) : ClientHandler key 0 cmdPrivmsg
  | quit : ClientHandler "QUIT" 0 cmdQuit
  | server : ClientHandler "SERVER" 2 cmdServer
  | topic : ClientHandler "TOPIC" 1 cmdTopic
  | user : ClientHandler "USER" 3 cmdUser
  | userhost : ClientHandler "USERHOST" 1 cmdUserhost
  | who : ClientHandler "WHO" 0 cmdWho
  | whois : ClientHandler "WHOIS" 1 cmdWhois

/-- the rows `server_…` of the command table, by the command of the services link -/
inductive ServicesHandler : String → Nat → Handler → Prop
  | invite : ServicesHandler "INVITE" 2 cmdServerInvite
  | join : ServicesHandler "JOIN" 0 cmdServerJoin
  | kick : ServicesHandler "KICK" 2 cmdServerKick
  | kill : ServicesHandler "KILL" 1 cmdServerKill
  | mode : ServicesHandler "MODE" 0 cmdServerMode
  | nick : ServicesHandler "NICK" 0 cmdServerNick
  | privmsg {cmd : String} (h : cmd ∈ ["PRIVMSG", "NOTICE"]) : ServicesHandler cmd 0 cmdServerPrivmsg
  | part : ServicesHandler "PART" 0 cmdServerPart
  | ping : ServicesHandler "PING" 0 cmdPing
  | quit : ServicesHandler "QUIT" 0 cmdServerQuit
  | svshold : ServicesHandler "SVSHOLD" 1 cmdServerSvshold
  | svsjoin : ServicesHandler "SVSJOIN" 2 cmdServerSvsjoin
  | svsmode : ServicesHandler "SVSMODE" 2 cmdServerSvsmode
  | svsnick : ServicesHandler "SVSNICK" 2 cmdServerSvsnick
  | svspart : ServicesHandler "SVSPART" 2 cmdServerSvspart
  | topic : ServicesHandler "TOPIC" 3 cmdServerTopic

/-- every row of the table that is not under the test-only guard, with the handler its name resolves to -/
theorem handler_of_table {key fname : String} {mp : Nat} {h : Handler}
    (hmem : (key, fname, mp, false) ∈ Gen.Commands.commands) (hh : handlerByName fname = some h) :
    ClientHandler key mp h ∨ ∃ cmd, key = "server_" ++ cmd ∧ ServicesHandler cmd mp h := by
  simp only [Gen.Commands.commands, List.mem_cons, Prod.mk.injEq, List.not_mem_nil, or_false, and_true,
    Bool.false_eq_true, and_false, false_or, or_false] at hmem
  rcases hmem with
    ⟨rfl, rfl, rfl⟩ | ⟨rfl, rfl, rfl⟩ | ⟨rfl, rfl, rfl⟩ | ⟨rfl, rfl, rfl⟩ | ⟨rfl, rfl, rfl⟩ |
    ⟨rfl, rfl, rfl⟩ | ⟨rfl, rfl, rfl⟩ | ⟨rfl, rfl, rfl⟩ | ⟨rfl, rfl, rfl⟩ | ⟨rfl, rfl, rfl⟩ |
    ⟨rfl, rfl, rfl⟩ | ⟨rfl, rfl, rfl⟩ | ⟨rfl, rfl, rfl⟩ | ⟨rfl, rfl, rfl⟩ | ⟨rfl, rfl, rfl⟩ |
    ⟨rfl, rfl, rfl⟩ | ⟨rfl, rfl, rfl⟩ | ⟨rfl, rfl, rfl⟩ | ⟨rfl, rfl, rfl⟩ | ⟨rfl, rfl, rfl⟩ |
    ⟨rfl, rfl, rfl⟩ | ⟨rfl, rfl, rfl⟩ | ⟨rfl, rfl, rfl⟩ | ⟨rfl, rfl, rfl⟩ | ⟨rfl, rfl, rfl⟩ |
    ⟨rfl, rfl, rfl⟩ | ⟨rfl, rfl, rfl⟩ | ⟨rfl, rfl, rfl⟩ | ⟨rfl, rfl, rfl⟩ | ⟨rfl, rfl, rfl⟩ |
    ⟨rfl, rfl, rfl⟩ | ⟨rfl, rfl, rfl⟩ | ⟨rfl, rfl, rfl⟩ | ⟨rfl, rfl, rfl⟩ | ⟨rfl, rfl, rfl⟩ |
    ⟨rfl, rfl, rfl⟩ | ⟨rfl, rfl, rfl⟩ | ⟨rfl, rfl, rfl⟩ | ⟨rfl, rfl, rfl⟩ | ⟨rfl, rfl, rfl⟩ |
    ⟨rfl, rfl, rfl⟩ | ⟨rfl, rfl, rfl⟩ | ⟨rfl, rfl, rfl⟩ | ⟨rfl, rfl, rfl⟩ | ⟨rfl, rfl, rfl⟩ |
    ⟨rfl, rfl, rfl⟩ | ⟨rfl, rfl, rfl⟩ | ⟨rfl, rfl, rfl⟩ | ⟨rfl, rfl, rfl⟩ | ⟨rfl, rfl, rfl⟩ |
    ⟨rfl, rfl, rfl⟩ | ⟨rfl, rfl, rfl⟩ | ⟨rfl, rfl, rfl⟩ | ⟨rfl, rfl, rfl⟩ | ⟨rfl, rfl, rfl⟩
  all_goals (rw [handlerByName] at hh; cases hh)
  · exact .inl .away
  · exact .inl (.alias (by decide +kernel))
  · exact .inl (.alias (by decide +kernel))
  · exact .inl (.alias (by decide +kernel))
  · exact .inl (.alias (by decide +kernel))
  · exact .inl .gline
  · exact .inl (.alias (by decide +kernel))
  · exact .inl (.alias (by decide +kernel))
  · exact .inl .invite
  · exact .inl .ison
  · exact .inl .join
  · exact .inl .kick
  · exact .inl .kill
  · exact .inl .knock
  · exact .inl .list
  · exact .inl (.alias (by decide +kernel))
  · exact .inl .mode
  · exact .inl .motd
  · exact .inl (.alias (by decide +kernel))
  · exact .inl .names
  · exact .inl .nick
  · exact .inl (.alias (by decide +kernel))
  · exact .inl (.privmsg (by decide +kernel))
  · exact .inl (.alias (by decide +kernel))
  · exact .inl .oper
  · exact .inl (.alias (by decide +kernel))
  · exact .inl (.alias (by decide +kernel))
  · exact .inl .part
  · exact .inl .pass
  · exact .inl .ping
  · exact .inl (.privmsg (by decide +kernel))
  · exact .inl .quit
  · exact .inl .server
  · exact .inl .topic
  · exact .inl .user
  · exact .inl .userhost
  · exact .inl .who
  · exact .inl .whois
  · exact .inr ⟨"INVITE", rfl, .invite⟩
  · exact .inr ⟨"JOIN", rfl, .join⟩
  · exact .inr ⟨"KICK", rfl, .kick⟩
  · exact .inr ⟨"KILL", rfl, .kill⟩
  · exact .inr ⟨"MODE", rfl, .mode⟩
  · exact .inr ⟨"NICK", rfl, .nick⟩
  · exact .inr ⟨"NOTICE", rfl, (.privmsg (by decide +kernel))⟩
  · exact .inr ⟨"PART", rfl, .part⟩
  · exact .inr ⟨"PING", rfl, .ping⟩
  · exact .inr ⟨"PRIVMSG", rfl, (.privmsg (by decide +kernel))⟩
  · exact .inr ⟨"QUIT", rfl, .quit⟩
  · exact .inr ⟨"SVSHOLD", rfl, .svshold⟩
  · exact .inr ⟨"SVSJOIN", rfl, .svsjoin⟩
  · exact .inr ⟨"SVSMODE", rfl, .svsmode⟩
  · exact .inr ⟨"SVSNICK", rfl, .svsnick⟩
  · exact .inr ⟨"SVSPART", rfl, .svspart⟩
  · exact .inr ⟨"TOPIC", rfl, .topic⟩

/-! ### telling the two halves apart: services keys start with `s`, client keys do not -/

def startsLowerS (k : String) : Bool :=
  match k.toList with
  | c :: _ => c == 's'
  | [] => false

theorem startsLowerS_server (cmd : String) : startsLowerS ("server_" ++ cmd) = true := by
  unfold startsLowerS
  rw [String.toList_append]
  rfl

theorem server_key_inj {a b : String} (h : "server_" ++ a = "server_" ++ b) : a = b := by
  have := congrArg String.toList h
  rw [String.toList_append, String.toList_append] at this
  exact String.toList_inj.1 (List.append_cancel_left this)

theorem ClientHandler.head_ne {key : String} {mp : Nat} {h : Handler} (hc : ClientHandler key mp h) :
    startsLowerS key = false := by
  cases hc with
  | alias hk => exact (by decide +kernel : ∀ k ∈ ["BOTSERV", "BS", "CHANSERV", "CS", "HOSTSERV", "HS", "MEMOSERV", "MS",
      "NICKSERV", "NS", "OPERSERV", "OS"], startsLowerS k = false) _ hk
  | privmsg hk => exact (by decide +kernel : ∀ k ∈ ["PRIVMSG", "NOTICE"], startsLowerS k = false) _ hk
  | _ => decide +kernel

theorem ClientHandler.of_table {key fname : String} {mp : Nat} {h : Handler}
    (hmem : (key, fname, mp, false) ∈ Gen.Commands.commands) (hh : handlerByName fname = some h)
    (hns : startsLowerS key = false) : ClientHandler key mp h := by
  rcases handler_of_table hmem hh with hc | ⟨cmd, rfl, _⟩
  · exact hc
  · exact absurd (startsLowerS_server cmd) (Bool.eq_false_iff.1 hns)

theorem ServicesHandler.of_table {cmd fname : String} {mp : Nat} {h : Handler}
    (hmem : ("server_" ++ cmd, fname, mp, false) ∈ Gen.Commands.commands) (hh : handlerByName fname = some h) :
    ServicesHandler cmd mp h := by
  rcases handler_of_table hmem hh with hc | ⟨cmd', he, hs⟩
  · exact absurd (startsLowerS_server cmd) (Bool.eq_false_iff.1 hc.head_ne)
  · rw [server_key_inj he]
    exact hs

end Robust.Irc
