import Robust.Irc.Proofs.RunEntries
/-!
More about side conditions along a history (`Along`, `RunEntries.lean`): the algebra of `Along` (`mono`, `and`,
`of_all`); a Boolean check of a condition defined by that recursion is sound as soon as it unfolds one step
(`along_of_check`).  Besides an invariant (`run_along`) two more shapes of conclusion: a reflexive transitive
relation between start and end (`run_rel`: "nothing but … changes X"), and the origin of a fact that holds at the
end (`run_origin`: it held at the start, or the history splits at an entry that established it).
-/
namespace Robust.Irc
open Robust

namespace Along
variable {A B : St → Entry → Prop}

theorem mono (h : ∀ st e, A st e → B st e) : ∀ {es : List Entry} {st : St}, Along A st es → Along B st es
  | [], _, _ => trivial
  | _ :: _, _, ⟨ha, hn⟩ => ⟨h _ _ ha, fun st' out hap => mono h (hn st' out hap)⟩

theorem and : ∀ {es : List Entry} {st : St}, Along A st es → Along B st es → Along (fun st e => A st e ∧ B st e) st es
  | [], _, _, _ => trivial
  | _ :: _, _, ⟨ha, hn⟩, ⟨hb, hm⟩ => ⟨⟨ha, hb⟩, fun st' out hap => and (hn st' out hap) (hm st' out hap)⟩

theorem of_all {es : List Entry} (h : ∀ e ∈ es, ∀ st, A st e) : ∀ st, Along A st es := by
  induction es with
  | nil => exact fun _ => trivial
  | cons e es ih =>
    exact fun st => ⟨h e List.mem_cons_self st, fun st' _ _ => ih (fun x hx => h x (List.mem_cons_of_mem _ hx)) st'⟩

end Along

theorem along_of_check {A : St → Entry → Prop} {b : St → List Entry → Bool}
    (hb : ∀ {st e es}, b st (e :: es) = true →
      A st e ∧ ∀ st' out, applyEntry st e = .ok (st', out) → b st' es = true) :
    ∀ {es : List Entry} {st : St}, b st es = true → Along A st es
  | [], _, _ => trivial
  | _ :: _, _, h => ⟨(hb h).1, fun st' out hap => along_of_check hb ((hb h).2 st' out hap)⟩

section
variable {A : St → Entry → Prop} {I : St → Prop}

theorem run_rel {R : St → St → Prop} (refl : ∀ st, R st st) (trans : ∀ {a b c}, R a b → R b c → R a c)
    (inv : ∀ {st st1 : St} {e : Entry} {out : List Out}, I st → A st e → applyEntry st e = .ok (st1, out) → I st1)
    (step : ∀ {st st1 : St} {e : Entry} {out : List Out}, I st → A st e → applyEntry st e = .ok (st1, out) → R st st1)
    {st st' : St} {es : List Entry} (h : I st) (ha : Along A st es) (hr : runEntries st es = .ok st') : R st st' :=
  runEntries_induction (Q := fun st es => I st → Along A st es → R st st') (fun _ _ => refl _)
    (fun hap _ ih h ⟨ha, hnext⟩ => trans (step h ha hap) (ih (inv h ha hap) (hnext _ _ hap))) hr h ha

def SplitsAt (E : St → Entry → Prop) (st : St) (es : List Entry) : Prop :=
  ∃ pre e post mid, es = pre ++ e :: post ∧ runEntries st pre = .ok mid ∧ E mid e

theorem SplitsAt.cons {E : St → Entry → Prop} {st st1 : St} {e : Entry} {out : List Out} {es : List Entry}
    (hap : applyEntry st e = .ok (st1, out)) : SplitsAt E st1 es → SplitsAt E st (e :: es)
  | ⟨pre, e', post, mid, hes, hrun, ho⟩ =>
    ⟨e :: pre, e', post, mid, by rw [hes]; rfl, (runEntries_cons pre hap).trans hrun, ho⟩

theorem run_origin {F : St → Prop} {E : St → Entry → Prop}
    (inv : ∀ {st st1 : St} {e : Entry} {out : List Out}, I st → applyEntry st e = .ok (st1, out) → I st1)
    (step : ∀ {st st1 : St} {e : Entry} {out : List Out}, I st → applyEntry st e = .ok (st1, out) → F st1 → F st ∨ E st e)
    {st st' : St} {es : List Entry} (h : I st) (hr : runEntries st es = .ok st') (hf : F st') :
    F st ∨ SplitsAt E st es :=
  runEntries_induction (Q := fun st es => I st → F st ∨ SplitsAt E st es) (fun _ => Or.inl hf)
    (fun hap _ ih h => (ih (inv h hap)).elim
      (fun f1 => (step h hap f1).imp_right fun he => ⟨[], _, _, _, rfl, rfl, he⟩) fun hh => Or.inr (hh.cons hap))
    hr h

end

end Robust.Irc
