import Robust.Irc.Proofs.PermEquiv
/-!
Order-independence, part 4: congruence of the primitives of `Send.lean` / `Cmds.lean`
(`getS`, `putS`, `modS`, `getChan`, `putChan`, `emit`, `sendUser`, `sendSvc`, `nickId`,
`rcChannel`, `rcChannelButOne`, `rcCommonChannels`, `rcAllUsers`, `rcServices`,
`maybeDeleteChannel`, `leaveChannel`) with respect to the working relation `CEq`.
-/

namespace Robust.Irc
open Robust

theorem srv_congr {c c' : Ctx} (h : CEq c c') (cmd : String) (ps : List String) : srv c' cmd ps = srv c cmd ps := by
  unfold srv serverPrefix
  rw [h.st.serverName]

theorem serverPrefix_congr {c c' : Ctx} (h : CEq c c') : serverPrefix c'.st = serverPrefix c.st := by
  unfold serverPrefix
  rw [h.st.serverName]

theorem getS_congr {c c' : Ctx} (h : CEq c c') (sid : Id) : RRel SessEq (getS c sid) (getS c' sid) := by
  unfold getS
  have hk := h.st.sessions.rel sid
  generalize AMap.get c.st.sessions sid = o at hk
  generalize AMap.get c'.st.sessions sid = o' at hk
  cases hk with
  | nn => exact .panic
  | ss hr => exact .ok hr

/-- The lookup of a session in related states.  The second session is given as the first one with other lists
(`SessEq.exists_with`): its scalar fields are those of the first by reduction, nothing has to be rewritten. -/
theorem StEq.sess_cases {st st' : St} (h : StEq st st') (id : Id) :
    (AMap.get st.sessions id = none ∧ AMap.get st'.sessions id = none) ∨
    ∃ s chs inv, AMap.get st.sessions id = some s ∧
      AMap.get st'.sessions id = some { s with channels := chs, invitedTo := inv } ∧
      SessEq s { s with channels := chs, invitedTo := inv } := by
  rcases (h.sessions.rel id).cases' with h1 | ⟨s, s', h1, h2, hs⟩
  · exact Or.inl h1
  · obtain ⟨chs, inv, rfl⟩ := hs.exists_with
    exact Or.inr ⟨s, chs, inv, h1, h2, hs⟩

theorem getS_bind {α β : Type} {R : α → β → Prop} {c c' : Ctx} (h : CEq c c') (sid : Id)
    {k : Session → Res α} {k' : Session → Res β}
    (hk : ∀ s chs inv, SessEq s { s with channels := chs, invitedTo := inv } →
      RRel R (k s) (k' { s with channels := chs, invitedTo := inv })) :
    RRel R (getS c sid >>= k) (getS c' sid >>= k') :=
  RRel.bind (getS_congr h sid) fun s s' hs => by
    obtain ⟨chs, inv, rfl⟩ := hs.exists_with
    exact hk s chs inv hs

theorem StEq.withSessions {st st' : St} (h : StEq st st') {m m' : AMap Id Session} (hm : MEq SessEq m m') :
    StEq { st with sessions := m } { st' with sessions := m' } :=
  { h with sessions := hm }

theorem StEq.withNicks {st st' : St} (h : StEq st st') {m m' : AMap String Id} (hm : MEq (fun a b => a = b) m m') :
    StEq { st with nicks := m } { st' with nicks := m' } :=
  { h with nicks := hm }

theorem StEq.withSvsholds {st st' : St} (h : StEq st st') {m m' : AMap String SvsHold}
    (hm : MEq (fun a b => a = b) m m') : StEq { st with svsholds := m } { st' with svsholds := m' } :=
  { h with svsholds := hm }

theorem StEq.withServerSessions {st st' : St} (h : StEq st st') {l l' : List Nat} (hl : l.Perm l') :
    StEq { st with serverSessions := l } { st' with serverSessions := l' } :=
  { h with serverSessions := hl }

theorem StEq.withConfig {st st' : St} (h : StEq st st') (cf : Config) :
    StEq { st with config := cf } { st' with config := cf } :=
  { h with config := rfl }

theorem StEq.withLastProcessed {st st' : St} (h : StEq st st') (x : Id) :
    StEq { st with lastProcessed := x } { st' with lastProcessed := x } :=
  { h with lastProcessed := rfl }

theorem StEq.withChannels {st st' : St} (h : StEq st st') {m m' : AMap String Channel} (hm : MEq ChanEq m m')
    (hk : ∀ lc ch, AMap.get m lc = some ch → chanToLower ch.name = lc) :
    StEq { st with channels := m } { st' with channels := m' } :=
  { h with channels := hm, ckey := hk }

theorem putS_congr {c c' : Ctx} (h : CEq c c') {s s' : Session} (hs : SessEq s s') : CEq (putS c s) (putS c' s') := by
  unfold putS
  obtain ⟨chs, inv, rfl⟩ := hs.exists_with
  exact h.withSt (h.st.withSessions (h.st.sessions.set s.id hs))

theorem modS_congr {c c' : Ctx} (h : CEq c c') (sid : Id) {f f' : Session → Session}
    (hf : ∀ s s', SessEq s s' → SessEq (f s) (f' s')) : RRel CEq (modS c sid f) (modS c' sid f') := by
  unfold modS
  exact RRel.bind (getS_congr h sid) (fun s s' hs => .ok (putS_congr h (hf s s' hs)))

theorem modS_congr_upd {c c' : Ctx} (h : CEq c c') (sid : Id) (f : Session → Session)
    (hs : ∀ t, (f t).scal = (f t.scal).scal := by intro; rfl) (hc : ∀ t, (f t).channels = t.channels := by intro; rfl)
    (hi : ∀ t, (f t).invitedTo = t.invitedTo := by intro; rfl) : RRel CEq (modS c sid f) (modS c' sid f) :=
  modS_congr h sid (fun _ _ hss => hss.upd f hs hc hi)

theorem createSession_congr {st st' : St} (h : StEq st st') (id : Id) (auth : String) (ts : Int) :
    ORel StEq (createSession st id auth ts) (createSession st' id auth ts) := by
  unfold createSession
  rw [h.sessions.length_eq, h.config]
  split
  · exact .nn
  · exact .ss { h with sessions := h.sessions.set id (SessEq.refl _), config := rfl }

theorem getChan_congr {c c' : Ctx} (h : CEq c c') (lc : String) : ORel ChanEq (getChan c lc) (getChan c' lc) :=
  h.st.channels.rel lc

theorem getChan_split {c c' : Ctx} (h : CEq c c') (lc : String) :
    (getChan c lc = none ∧ getChan c' lc = none) ∨
    ∃ ch n, getChan c lc = some ch ∧ getChan c' lc = some { ch with nicks := n } ∧
      ChanEq ch { ch with nicks := n } ∧ chanToLower ch.name = lc := by
  rcases (getChan_congr h lc).cases' with h1 | ⟨ch, ch', h1, h2, hch⟩
  · exact Or.inl h1
  · obtain ⟨n, rfl⟩ := hch.exists_with
    exact Or.inr ⟨ch, n, h1, h2, hch, h.st.ckey lc ch h1⟩

theorem putChan_congr {c c' : Ctx} (h : CEq c c') (lc : String) {ch ch' : Channel} (hch : ChanEq ch ch')
    (hk : chanToLower ch.name = lc) : CEq (putChan c lc ch) (putChan c' lc ch') := by
  unfold putChan
  refine h.withSt (h.st.withChannels (h.st.channels.set lc hch) ?_)
  intro k x hg
  rcases AMap.get_of_get_set hg with ⟨rfl, rfl⟩ | ⟨_, hg⟩
  · exact hk
  · exact h.st.ckey k x hg

/-- the channel a services JOIN works on: the stored one, or a fresh one -/
theorem getChanD_congr {c c' : Ctx} (h : CEq c c') (channelname : String) :
    ChanEq ((getChan c (chanToLower channelname)).getD { name := channelname })
      ((getChan c' (chanToLower channelname)).getD { name := channelname }) ∧
    chanToLower ((getChan c (chanToLower channelname)).getD { name := channelname }).name = chanToLower channelname := by
  rcases getChan_split h (chanToLower channelname) with ⟨h1, h2⟩ | ⟨ch, n, h1, h2, hch, hk⟩
  · simp only [h1, h2]
    exact ⟨ChanEq.refl_of List.nodup_nil, rfl⟩
  · simp only [h1, h2]
    exact ⟨hch, hk⟩

theorem emit_congr {c c' : Ctx} (h : CEq c c') {m m' : IrcMsg} (hm : m' = m) {r r' : List Nat} (hr : r.Perm r') :
    CEq (emit c m r) (emit c' m' r') := by
  subst hm
  unfold emit
  refine ⟨h.st, h.msgid, ?_, ?_⟩
  · show c'.replyid + 1 = c.replyid + 1
    rw [h.replyid]
  · show All2 OutEq (c.out ++ [_]) (c'.out ++ [_])
    refine All2.append h.out (.cons ⟨?_, ?_, rfl, hr⟩ .nil)
    · exact h.msgid
    · show c'.replyid + 1 = c.replyid + 1
      rw [h.replyid]

theorem sendUser_congr {c c' : Ctx} (h : CEq c c') (sid : Id) {m m' : IrcMsg} (hm : m' = m) :
    CEq (sendUser c sid m) (sendUser c' sid m') :=
  emit_congr h hm (List.Perm.refl _)

theorem rcServices_perm {st st' : St} (h : StEq st st') : (rcServices st).Perm (rcServices st') := h.serverSessions

theorem sendSvc_congr {c c' : Ctx} (h : CEq c c') {m m' : IrcMsg} (hm : m' = m) :
    CEq (sendSvc c m) (sendSvc c' m') :=
  emit_congr h hm (rcServices_perm h.st)

theorem rcAllUsers_perm {st st' : St} (h : StEq st st') : (rcAllUsers st).Perm (rcAllUsers st') := by
  unfold rcAllUsers
  exact h.nicks.perm.map _

theorem nickId_congr {st st' : St} (h : StEq st st') (lcnick : String) : nickId st' lcnick = nickId st lcnick := by
  unfold nickId
  rw [h.get_nicks]

theorem nickId_ne_declined (st : St) (n : String) (w : String) : nickId st n ≠ .declined w := by
  unfold nickId
  split <;> intro h <;> cases h

theorem rcChannel_congr {st st' : St} (h : StEq st st') {ch ch' : Channel} (hch : ChanEq ch ch') :
    RRel List.Perm (rcChannel st ch) (rcChannel st' ch') := by
  unfold rcChannel
  have : nickId st' = nickId st := funext (nickId_congr h)
  rw [this]
  exact mapRes_perm hch.keys_perm (fun a _ w => nickId_ne_declined st a w)

theorem rcChannel_ne_declined (st : St) (ch : Channel) (w : String) : rcChannel st ch ≠ .declined w :=
  mapRes_ne_declined (fun a _ w => nickId_ne_declined st a w) w

theorem rcChannelButOne_congr {st st' : St} (h : StEq st st') {ch ch' : Channel} (hch : ChanEq ch ch') (user : Id) :
    RRel List.Perm (rcChannelButOne st ch user) (rcChannelButOne st' ch' user) := by
  unfold rcChannelButOne
  refine RRel.bind (R := PermR (fun a b => a = b)) ?_
    (fun ids ids' hp => .ok ((hp.perm.filter _).map _))
  refine mapRes_perm_rel hch.keys_perm (fun a _ => ?_) (fun a _ w => ?_)
  · rw [h.get_nicks a]
    exact RRel.refl (fun _ => rfl) _
  · split <;> intro h <;> cases h

theorem rcCommonChannels_congr {st st' : St} (h : StEq st st') {s s' : Session} (hs : SessEq s s') :
    RRel List.Perm (rcCommonChannels st s) (rcCommonChannels st' s') := by
  unfold rcCommonChannels
  refine RRel.bind (R := PermR List.Perm) ?_ (fun ls ls' hp => .ok hp.flatten)
  refine mapRes_perm_rel hs.channels (fun chn _ => ?_) (fun chn _ w => ?_)
  · have hk := h.channels.rel chn
    generalize AMap.get st.channels chn = o at hk
    generalize AMap.get st'.channels chn = o' at hk
    cases hk with
    | nn => exact .ok (List.Perm.refl _)
    | ss hr => exact rcChannel_congr h hr
  · split
    · exact rcChannel_ne_declined _ _ w
    · intro h; cases h

theorem maybeDeleteChannel_congr {c c' : Ctx} (h : CEq c c') (lc : String) :
    CEq (maybeDeleteChannel c lc) (maybeDeleteChannel c' lc) := by
  rcases getChan_split h lc with ⟨h1, h2⟩ | ⟨ch, n, h1, h2, hch, hk⟩
  · rw [maybeDeleteChannel_none h1, maybeDeleteChannel_none h2]; exact h
  · by_cases hnil : ch.nicks = []
    · have hnil' : n = [] := hch.nicks.eq_nil_iff.1 hnil
      rw [maybeDeleteChannel_empty h1 hnil, maybeDeleteChannel_empty h2 hnil']
      refine h.withSt { h.st with sessions := ?_, channels := h.st.channels.erase _, ckey := ?_ }
      · exact h.st.sessions.mapVal (f := fun e => { e.2 with invitedTo := e.2.invitedTo.filter (· ≠ chanToLower ch.name) })
          (f' := fun e => { e.2 with invitedTo := e.2.invitedTo.filter (· ≠ chanToLower ch.name) })
          (fun k v v' hr => hr.withInvitedTo (hr.invitedTo.filter _))
      · intro k x hg
        obtain ⟨_, hg0⟩ := AMap.get_of_get_erase hg
        exact h.st.ckey k x hg0
    · have hnil' : n ≠ [] := fun e => hnil (hch.nicks.eq_nil_iff.2 e)
      rw [maybeDeleteChannel_nonempty h1 hnil, maybeDeleteChannel_nonempty h2 hnil']; exact h

theorem leaveChannel_congr {c c' : Ctx} (h : CEq c c') (lc lcn : String) (tid : Id) :
    RRel CEq (leaveChannel c lc lcn tid) (leaveChannel c' lc lcn tid) := by
  unfold leaveChannel
  rcases getChan_split h lc with ⟨h1, h2⟩ | ⟨ch, n, h1, h2, hch, hk⟩
  · rw [h1, h2]; exact .panic
  · rw [h1, h2]
    dsimp only
    have h3 : CEq (putChan c lc { ch with nicks := AMap.erase ch.nicks lcn })
        (putChan c' lc { ch with nicks := AMap.erase n lcn }) :=
      putChan_congr h lc (hch.withNicks (hch.nicks.erase lcn)) hk
    exact modS_congr (maybeDeleteChannel_congr h3 lc) tid
      (fun s s' hs => hs.withChannels (hs.channels.filter _))

end Robust.Irc
