import Robust.Irc.Proofs.H3a
/-!
NICK (introduce a pseudo-client), SVSNICK.
-/
namespace Robust.Irc
open Robust AMap

variable {G : Prop}

/-- the gate of NICK: the documented form (at least 4 parameters), or the one-parameter form, which is a no-op -/
theorem cmdServerNick_wp {c0 c : Ctx} {sid : Id} {m : IrcMsg} (h : Mid c0 c sid) :
    (cmdServerNick c sid m).Wp (m.params.length = 1 ∨ 4 ≤ m.params.length) fun c' => Mid c0 c' sid := by
  unfold cmdServerNick
  refine .bind (getS_wp fun _ => h.post.actorKept) fun s _ hs => .ite (fun _ => .pure h) fun h1 => ?_
  have h4 : m.params.length = 1 ∨ 4 ≤ m.params.length → 4 ≤ m.params.length :=
    fun g => g.resolve_left fun e => h1 (by rw [e]; rfl)
  refine .bind (param_wp fun g => Nat.lt_of_lt_of_le (by decide) (h4 g)) fun p0 _ _ =>
    .ite (fun _ => .pure (h.sendSvc _)) fun hv => .ite (fun _ => .pure (h.sendSvc _)) fun hnick => ?_
  have hvalid : isValidNickname p0 = true := by simpa using hv
  dsimp only
  refine .ite (fun _ => .pure (h.sendSvc _)) fun hsess => ?_
  cases hcs : createSession c.st ⟨s.id.id, fnv64 p0⟩ "" s.lastActivity with
  | none => exact .pure (h.sendSvc _)
  | some st1 =>
    have e1 := createSession_eq hcs
    subst e1
    refine .bind (param_wp h4) fun p3 _ _ => .bind (modS_wp _ fun _ => ⟨_, AMap.get_set_same _ _ _⟩) fun c2 hm _ => .pure ?_
    have hnone : AMap.get c.st.nicks (nickToLower p0) = none :=
      AMap.contains_eq_false_iff.1 (by simpa using hnick)
    have hfresh : AMap.get c.st.sessions ⟨s.id.id, fnv64 p0⟩ = none :=
      AMap.contains_eq_false_iff.1 (by simpa using hsess)
    have hfree := h.hinv.toWInvCore.unindexed_of_fresh hfresh
    have hw := WInv_serverNick h.hinv.toWInv hfree hnone hcs hm fun _ => ⟨rfl, rfl, rfl, rfl⟩
    have hne : sid ≠ ⟨s.id.id, fnv64 p0⟩ := by
      intro he; rw [← he, hs] at hfresh; cases hfresh
    have hl1 := LInv.createSession h.linv hcs
    have hni : NI c0.st → NI (Ctx.mk (St.mk c2.st.sessions (AMap.set c2.st.nicks (nickToLower p0) ⟨s.id.id, fnv64 p0⟩)
        c2.st.channels c2.st.svsholds c2.st.serverSessions c2.st.lastProcessed c2.st.serverName c2.st.config)
        c2.msgid c2.replyid c2.out).st := fun h0 =>
      (((h.ninv h0).createSession hcs).modS_nick hm (fun _ => hvalid)).setNick
        (nickToLower_ne_empty_of_valid hvalid) rfl rfl rfl
    obtain ⟨ns, hns, rfl⟩ := modS_eq_ok.1 hm
    change AMap.get (AMap.set c.st.sessions _ _) _ = some ns at hns
    rw [AMap.get_set_same] at hns
    cases hns
    refine ⟨⟨hw, h.hinv.nonempty.congr rfl⟩, ?_, ?_, h.og.trans ⟨rfl, [], by simp⟩, hni⟩
    · refine LInv.congr (st := (putS _ _).st) (LInv.putS hl1 ?_) rfl
      intro hl; cases hl
    · exact (h.actor.set_other hne rfl).set_other (st' := (putS _ _).st) hne rfl

/-- in the documented form NICK is a services handler like the others -/
theorem cmdServerNick_srvWp : SrvWp cmdServerNick 4 := fun _ _ _ _ h => (cmdServerNick_wp h).gate fun g => .inr g.2

theorem updateIrcPrefix_inertFn : InertFn updateIrcPrefix := fun _ => ⟨rfl, rfl, rfl, rfl, rfl, rfl⟩

/-- how SVSNICK re-keys: a case-only change keeps the index entry, otherwise the new key is free (were it indexed
to `tid` as well, the two keys would be the same) -/
theorem svsnick_renameCase {st : St} (hw : WInvCore st) {tid : Id} (t : Session) {p0 p1 : String}
    (hidx : AMap.get st.nicks (nickToLower p0) = some tid)
    (hnew : AMap.get st.nicks (nickToLower p1) = none ∨ AMap.get st.nicks (nickToLower p1) = some tid) :
    RenameCase st.nicks tid t (nickToLower p1) (nickToLower p0) (nickToLower p1 != nickToLower p0) := by
  by_cases he : nickToLower p1 = nickToLower p0
  · have : (nickToLower p1 != nickToLower p0) = false := by simp [he]
    rw [this]; exact .same (by rw [he]; exact hidx)
  · have : (nickToLower p1 != nickToLower p0) = true := by simp [he]
    rw [this]
    exact .rekey hidx (hnew.resolve_right fun h1 => he (hw.index_inj h1 hidx))

theorem svsnick_rename {c0 c c1 : Ctx} {sid tid : Id} {t : Session} {p0 p1 : String} (h : Mid c0 c sid)
    (hvalid : isValidNickname p1 = true)
    (hidx : AMap.get c.st.nicks (nickToLower p0) = some tid)
    (hnew : AMap.get c.st.nicks (nickToLower p1) = none ∨ AMap.get c.st.nicks (nickToLower p1) = some tid)
    (ht : AMap.get c.st.sessions tid = some t)
    (hm1 : modS c tid (fun t => { t with nick := p1 }) = Res.ok c1) :
    Mid c0 (renameCtx c1 tid (nickToLower p1) (nickToLower p0) (nickToLower p1 != nickToLower p0)) sid ∧
    ∃ t', AMap.get (renameCtx c1 tid (nickToLower p1) (nickToLower p0) (nickToLower p1 != nickToLower p0)).st.sessions tid = some t' := by
  have hcase := svsnick_renameCase h.hinv.toWInvCore t hidx hnew
  generalize (nickToLower p1 != nickToLower p0) = b at hcase ⊢
  have hI := rename_HInv h.hinv ht hm1 (fun s => ⟨rfl, rfl, rfl, rfl⟩) hcase
  have hL1 : LInv c1.st := h.linv.modS hm1 (fun s _ _ => isValidNickname_ne_empty hvalid)
  have hA1 : SrvActor c1.st sid := h.actor.modS h.hinv.toWInvCore (by intro s; exact ⟨rfl, rfl⟩) hm1
  have hss := renameCtx_sessions c1 tid (nickToLower p1) (nickToLower p0) b
  refine ⟨⟨hI, hL1.congr hss, hA1.congr hss, (h.og.trans (.of_frame (.modS hm1))).trans (.of_frame (renameCtx_frame _ _ _ _ _)),
    fun h0 => ((h.ninv h0).modS_nick hm1 (fun _ => hvalid)).renameCtx _ _ _
      (nickToLower_ne_empty_of_valid hvalid)⟩, ?_⟩
  rw [hss]
  exact modS_keeps hm1 ⟨_, ht⟩

theorem svsnickTail_wp {c0 c : Ctx} {sid tid : Id} {p0 p1 : String} (h : Mid c0 c sid)
    (hvalid : isValidNickname p1 = true)
    (hidx : AMap.get c.st.nicks (nickToLower p0) = some tid)
    (hnew : AMap.get c.st.nicks (nickToLower p1) = none ∨ AMap.get c.st.nicks (nickToLower p1) = some tid) :
    (svsnickTail c p0 p1 tid).Wp G fun c' => Mid c0 c' sid := by
  unfold svsnickTail
  refine .bind (getS_wp fun _ => h.hinv.toWInvCore.indexed_stored hidx) fun t _ ht => ?_
  dsimp only
  refine .bind (modS_wp _ fun _ => ⟨t, ht⟩) fun c1 hm1 _ => ?_
  obtain ⟨hM, t', ht'⟩ := svsnick_rename h hvalid hidx hnew ht hm1
  generalize (nickToLower p1 != nickToLower p0) = b at hM ht' ⊢
  refine .bind (modS_wp _ fun _ => ⟨t', ht'⟩) fun c2 hm2 _ => ?_
  have hM2 := hM.modS_inert updateIrcPrefix_inertFn hm2
  exact .bind (getS_wp fun _ => modS_keeps hm2 ⟨_, ht'⟩) fun t2 _ _ =>
    .bind (rcCommonChannels_wp t2 fun _ => hM2.hinv.toWInvCore) fun _ _ _ => .pure (hM2.emit _ _)

theorem cmdServerSvsnick_wp : SrvWp cmdServerSvsnick 2 := fun c0 c sid m h => by
  rw [cmdServerSvsnick_eq]
  refine .bind (param_wp fun g => Nat.lt_of_succ_lt g.2) fun p0 _ _ => .bind (param_wp And.right) fun p1 _ _ =>
    .ite (fun _ => .pure (h.sendSvc _)) fun hv => ?_
  have hvalid : isValidNickname p1 = true := by simpa using hv
  cases hidx : AMap.get c.st.nicks (nickToLower p0) with
  | none => exact .pure (h.sendSvc _)
  | some tid =>
    dsimp only
    cases hother : AMap.get c.st.nicks (nickToLower p1) with
    | none => exact svsnickTail_wp h hvalid hidx (.inl hother)
    | some other =>
      refine .ite (fun _ => .pure (h.sendSvc _)) fun hne => ?_
      have : other = tid := by simpa using hne
      subst this
      exact svsnickTail_wp h hvalid hidx (.inr hother)

end Robust.Irc
