import Robust.Irc.Proofs.RunEntries
import Robust.Irc.Proofs.StableTable
import Robust.Irc.Proofs.KeepsEntry
/-!
From `ProcessMessage` to one committed entry, for a predicate of the state (`applyEntry_keeps`), and what the rows of
the command table say of the line that selects them (`registered_key`: the keys under which the handlers that need
more of a predicate than stability are registered, and what the "has a command" family asks of the line).  A
statement about `ProcessMessage` itself comes down to one about the handler it calls by `processMessage_keeps`
(`KeepsEntry.lean`) with `HLogic.stable`.
-/
namespace Robust.Irc
open Robust AMap

/-- what a row `(key, fname, mp)` of the command table says of the line that selected it.  The key under which a
handler is registered, for the ten handlers whose special update some family turns into a statement about the command
line (`call_frm`, `call_flg`, `call_chan`, `call_sess`): GLINE, the four that can set a privilege flag, SERVER, and the
four that store a new channel or session.  And what `HArgs` asks (`processMessage_kstep`): the key is a short word, and
more than the bare `server_`; PRIVMSG / NOTICE and the service aliases are client rows, the handlers that use the prefix
of the line services rows; USER and SERVER ask for two parameters at least. -/
structure RegisteredKey (key fname : String) (mp : Nat) : Prop where
  gline : fname = "cmdGline" → key = "GLINE"
  oper : fname = "cmdOper" → key = "OPER"
  nick : fname = "cmdNick" → key = "NICK"
  user : fname = "cmdUser" → key = "USER" ∧ 2 ≤ mp
  pass : fname = "cmdPass" → key = "PASS"
  server : fname = "cmdServer" → key = "SERVER" ∧ 2 ≤ mp
  join : fname = "cmdJoin" → key = "JOIN"
  serverJoin : fname = "cmdServerJoin" → key = "server_" ++ "JOIN"
  serverSvsjoin : fname = "cmdServerSvsjoin" → key = "server_" ++ "SVSJOIN"
  serverNick : fname = "cmdServerNick" → key = "server_" ++ "NICK"
  good : key ≠ "" ∧ key ≠ "server_" ∧ Spaceless key ∧ key.toList.length ≤ 82
  client : fname = "cmdPrivmsg" ∨ fname = "cmdServiceAlias" → startsLowerS key = false
  pfx : usesMsgPfx fname = true → startsLowerS key = true

/-- These facts tie the name of a handler to the key it is registered under, and the table is the only place that says
which name stands beside which key: so the table is swept, once. -/
theorem registered_key {key fname : String} {mp : Nat} (h : lookupCommand key = some (fname, mp)) :
    RegisteredKey key fname mp :=
  let ⟨h1, h2, h3, h4, h5, h6, h7, h8, h9, h10, h11, h12, h13⟩ := (by decide +kernel : ∀ e ∈ Gen.Commands.commands,
    (e.2.1 = "cmdGline" → e.1 = "GLINE") ∧ (e.2.1 = "cmdOper" → e.1 = "OPER") ∧ (e.2.1 = "cmdNick" → e.1 = "NICK") ∧
    (e.2.1 = "cmdUser" → e.1 = "USER" ∧ 2 ≤ e.2.2.1) ∧ (e.2.1 = "cmdPass" → e.1 = "PASS") ∧
    (e.2.1 = "cmdServer" → e.1 = "SERVER" ∧ 2 ≤ e.2.2.1) ∧
    (e.2.1 = "cmdJoin" → e.1 = "JOIN") ∧ (e.2.1 = "cmdServerJoin" → e.1 = "server_" ++ "JOIN") ∧
    (e.2.1 = "cmdServerSvsjoin" → e.1 = "server_" ++ "SVSJOIN") ∧ (e.2.1 = "cmdServerNick" → e.1 = "server_" ++ "NICK") ∧
    (e.1 ≠ "" ∧ e.1 ≠ "server_" ∧ Spaceless e.1 ∧ e.1.toList.length ≤ 82) ∧
    (e.2.1 = "cmdPrivmsg" ∨ e.2.1 = "cmdServiceAlias" → startsLowerS e.1 = false) ∧
    (usesMsgPfx e.2.1 = true → startsLowerS e.1 = true))
    _ (lookupCommand_mem h)
  ⟨h1, h2, h3, h4, h5, h6, h7, h8, h9, h10, h11, h12, h13⟩

/-- a key that does not start with `s` is looked up for a client session, and is the command itself -/
theorem client_key {b : Bool} {command K : String} (hK : startsLowerS K = false)
    (h : (if b = true then "server_" else "") ++ command = K) : b = false ∧ command = K := by
  cases b with
  | false => exact ⟨rfl, by rw [← h]; exact String.empty_append.symm⟩
  | true =>
    rw [if_pos rfl] at h
    rw [← h, startsLowerS_server] at hK
    cases hK

/-- a key `server_…` is looked up for a services link (commands are upper-cased, so none starts with `s`) -/
theorem server_key {b : Bool} {command k : String} (hup : startsLowerS command = false)
    (h : (if b = true then "server_" else "") ++ command = "server_" ++ k) : b = true ∧ command = k := by
  cases b with
  | false =>
    rw [if_neg Bool.false_ne_true, String.empty_append] at h
    rw [h, startsLowerS_server] at hup
    cases hup
  | true => exact ⟨rfl, server_key_inj h⟩

theorem applyEntry_keeps {P : St → Prop}
    (hupd : ∀ {st st1 : St} {e : Entry}, P st → updateLastClientMessageID st e = some st1 → P st1)
    (hnew : ∀ {st st1 : St} {id : Id} {auth : String} {ts : Int}, P st → createSession st id auth ts = some st1 → P st1)
    (hfin : ∀ {st : St} (sid x : Id), P st → (AMap.keys st.sessions).Nodup →
      P (maybeDeleteSession { st with lastProcessed := x } sid))
    (hcfg : ∀ {st : St} (cfg : Config), P st → P { st with config := cfg })
    (hpm : ∀ {c : Ctx} {e : Entry} {raw : String} {c' : Ctx}, Pre c e.session → NI c.st → P c.st →
      processMessage c e (parseMessage raw) = .ok c' → P c'.st)
    (st st' : St) (e : Entry) (out : List Out) (h : GInv st) (hp : P st) (he : EntryOk st e)
    (hr : applyEntry st e = .ok (st', out)) : P st' := by
  have fin : ∀ {c0 c : Ctx} {sid x : Id}, Post c0 c sid → P c.st →
      P (maybeDeleteSession { c.st with lastProcessed := x } sid) := fun po hc =>
    hfin _ _ hc ((HInv_lastProcessed _ _).2 po.hinv).sessNodup
  cases applyEntry_run hr with
  | skip => exact hp
  | death _ hu => exact hupd hp hu
  | create _ hcs => exact hnew hp hcs
  | delete h1 hs hpm' =>
    have hpre : Pre { st := st, msgid := e.id } e.session := h.pre hs (he.1 (Or.inl h1))
    exact fin (processMessage_post hpre h.ni hpm') (hpm hpre h.ni hp hpm')
  | client h2 hu hpm' =>
    obtain ⟨g1, hpre⟩ := h.clientPre he h2 hu
    exact fin (processMessage_post hpre g1.ni hpm') (hpm hpre g1.ni (hupd hp hu) hpm')
  | config => exact hcfg _ hp

end Robust.Irc
