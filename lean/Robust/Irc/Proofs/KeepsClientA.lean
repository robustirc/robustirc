import Robust.Irc.Proofs.KeepsClient
/-!
The client handlers that leave the state alone (they only answer or relay) keep every predicate that has an `HLogic`:
PING, MOTD, PRIVMSG / NOTICE, the service aliases, ISON, USERHOST, LIST, KNOCK, NAMES, WHO, WHOIS.
-/
namespace Robust.Irc
open Robust AMap

theorem aliasLines_clean : AllStr Clean (serviceAliases.map (·.2)) :=
  ⟨clean_lit, clean_lit, clean_lit, clean_lit, clean_lit, clean_lit, clean_lit, clean_lit, clean_lit, clean_lit, clean_lit,
    clean_lit⟩

variable {I : Ctx → Prop} (L : HLogic I) {c : Ctx} {sid : Id} {m : IrcMsg}
include L

theorem cmdPing_keeps (hc : I c) (hm : L.Msg m) : (cmdPing c sid m).Sat I := by
  unfold cmdPing
  refine .andThen (L.getS hc) fun s cs => ?_
  cases hp : m.params.head? with
  | none => exact .pure (L.srv "409" hc ⟨cs.nick, L.lit clean_lit⟩)
  | some p0 => exact .pure (L.srv "PONG" hc (hm.head hp))

theorem cmdMotd_keeps (hc : I c) : (cmdMotd c sid m).Sat I := by
  unfold cmdMotd
  refine .andThen (L.getS hc) fun s cs => ?_
  extract_lets c1 c2
  have h1 : I c1 := L.srv "375" hc ⟨cs.nick, (L.lit clean_lit).append (L.serverName hc) |>.append (L.lit clean_lit)⟩
  have h2 : I c2 := L.srv "372" h1 ⟨cs.nick, L.lit clean_lit⟩
  exact .pure (L.srv "376" h2 ⟨cs.nick, L.lit clean_lit⟩)

/-- PRIVMSG / NOTICE relay the command of the received line under the prefix of the acting session.  `hrel`: that
line has a command (it has if the command is a key of the command table and the actor is no services link). -/
theorem cmdPrivmsg_keeps (hc : I c) (hm : L.Msg m)
    (hrel : L.cmds → ∀ s, AMap.get c.st.sessions sid = some s → ∀ ps,
      HasCommand (IrcMsg.mk (some s.ircPrefix) m.command ps).render) :
    (cmdPrivmsg c sid m).Sat I := by
  unfold cmdPrivmsg
  refine .bind fun s hs => ?_
  have cs := L.sess hc (getS_eq_ok.1 hs)
  refine .ite' (.pure (L.srv "411" hc ⟨cs.nick, (L.lit clean_lit).append hm.command |>.append (L.lit clean_lit)⟩)) ?_
  refine .ite' (.pure (L.srv "412" hc ⟨cs.nick, L.lit clean_lit⟩)) ?_
  refine .andThen hm.param fun p0 hp0 => ?_
  have relay {r : List Nat} : I (emit c ⟨some s.ircPrefix, m.command, [p0, m.trailing]⟩ r) :=
    L.emit hc (fun x => .from (cs.clean x).pfx ⟨hp0 x, hm.trailing x⟩ (hm.command x))
      fun y => hrel y s (getS_eq_ok.1 hs) _
  refine .ite' ?_ <| .ite' ?_ ?_
  · cases hch : getChan c (chanToLower p0) with
    | none => exact .pure (L.srv "403" hc ⟨cs.nick, hp0, L.lit clean_lit⟩)
    | some ch =>
      refine .ite' (.pure (L.srv "404" hc ⟨cs.nick, (L.chan hc hch).name, L.lit clean_lit⟩)) ?_
      exact .bind fun rc _ => .pure relay
  · exact .ite' (.pure relay) <| .pure (L.srv "481" hc ⟨cs.nick, L.lit clean_lit⟩)
  · cases AMap.get c.st.nicks (nickToLower p0) with
    | none => exact .pure (L.srv "401" hc ⟨cs.nick, hp0, L.lit clean_lit⟩)
    | some tid =>
      refine .andThen (L.getS hc) fun t ct => .ite' (.pure hc) ?_
      exact .ite' (.pure (L.srv "301" relay ⟨cs.nick, hp0, ct.awayMsg⟩)) <| .pure relay

/-- `hrel`: as for PRIVMSG, of the line that the alias expands to -/
theorem cmdServiceAlias_keeps (hc : I c) (hm : L.Msg m)
    (hrel : L.cmds → ∀ a ∈ serviceAliases, ∀ pm, parseMessage (a.2 ++ joinStr " " m.params) = some pm →
      ∀ s, AMap.get c.st.sessions sid = some s → ∀ ps, HasCommand (IrcMsg.mk (some s.ircPrefix) pm.command ps).render) :
    (cmdServiceAlias c sid m).Sat I := by
  unfold cmdServiceAlias
  cases ha : serviceAliases.find? (fun a => toUpper m.command == a.1) with
  | none => exact .ok hc
  | some a =>
    dsimp only
    have hmem := List.mem_of_find?_eq_some ha
    have hl : L.Str (a.2 ++ joinStr " " m.params) :=
      (L.lit (aliasLines_clean.all _ (List.mem_map_of_mem hmem))).append hm.joinParams
    cases hpm : parseMessage (a.2 ++ joinStr " " m.params) with
    | none => exact .panic _
    | some pm => exact cmdPrivmsg_keeps L hc (fun x => parseMessage_clean _ _ (hl x) hpm) fun y => hrel y a hmem pm hpm

/-- the replies of `ISON` / `USERHOST`: one optional string per parameter that names a stored session -/
theorem nickReplies_keeps (hc : I c) {g : Session → String} (hg : ∀ t, L.Sess t → L.Str (g t)) (l : List String) :
    (mapRes (fun n => match AMap.get c.st.nicks (nickToLower n) with
      | some tid => (getS c tid).bind fun t => Res.ok (some (g t))
      | none => Res.ok none) l).Sat fun on => L.Str (joinStr " " (on.filterMap id)) := by
  refine (Res.Sat.mapRes (P := OptAll L.Str) fun n _ => ?_).mono fun on h => .join clean_lit (OptAll.filterMap h)
  cases AMap.get c.st.nicks (nickToLower n) with
  | none => exact .ok .none
  | some tid => exact .andThen (L.getS hc) fun t ct => .ok (.some (hg t ct))

theorem cmdIson_keeps (hc : I c) : (cmdIson c sid m).Sat I := by
  unfold cmdIson
  refine .andThen (L.getS hc) fun s cs => ?_
  refine (nickReplies_keeps L hc (fun _ ct => ct.nick) _).andThen fun on hon => ?_
  exact .pure (L.srv "303" hc ⟨cs.nick, hon⟩)

theorem cmdUserhost_keeps (hc : I c) : (cmdUserhost c sid m).Sat I := by
  unfold cmdUserhost
  refine .andThen (L.getS hc) fun s cs => ?_
  refine (nickReplies_keeps L hc (fun t ct => ?_) _).andThen fun on hon => .pure (L.srv "302" hc ⟨cs.nick, hon⟩)
  exact (ct.nick.append (L.lit clean_lit)).ite ct.nick |>.append (L.lit clean_lit)
    |>.append ((L.lit clean_lit).ite (L.lit clean_lit)) |>.append ct.pstr

theorem cmdList_keeps (hc : I c) : (cmdList c sid m).Sat I := by
  unfold cmdList
  refine .andThen (L.getS hc) fun s cs => ?_
  extract_lets filter channels c1
  have h1 : I c1 := by
    refine foldl_invariant _ hc fun c2 lc _ h2 => ?_
    cases hch : getChan c2 lc with
    | none => exact h2
    | some ch =>
      have cch := L.chan h2 hch
      exact ite_ind' h2 (L.srv "322" h2 ⟨cs.nick, cch.name, L.lit (clean_natRepr _), cch.topic⟩)
  exact .pure (L.srv "323" h1 ⟨cs.nick, L.lit clean_lit⟩)

theorem cmdKnock_keeps (hc : I c) (hm : L.Msg m) : (cmdKnock c sid m).Sat I := by
  unfold cmdKnock
  refine .andThen (L.getS hc) fun s cs => .andThen hm.param fun chn hchn => ?_
  have refused {why : String} (hw : Clean why := by exact clean_lit) :
      I (sendUser c sid (srv c "480" [s.nick, "Cannot knock on " ++ chn ++ why])) :=
    L.srv "480" hc ⟨cs.nick, (L.lit clean_lit).append hchn |>.append (L.lit hw)⟩
  cases hch : getChan c (chanToLower chn) with
  | none => exact .pure refused
  | some ch =>
    have cch := L.chan hc hch
    refine .ite' (.pure refused) ?_
    extract_lets reason
    have hreason : L.Str reason := (hm.joinDrop 1).ite (L.lit clean_lit)
    refine .bind fun rc _ => ?_
    extract_lets c1
    have h1 : I c1 := L.srv "NOTICE" hc ⟨cch.name, (L.lit clean_lit).append cs.pstr |>.append (L.lit clean_lit)
      |>.append hreason |>.append (L.lit clean_lit)⟩
    exact .pure (L.srv "NOTICE" h1 ⟨cs.nick, (L.lit clean_lit).append cch.name⟩)

theorem cmdNames_keeps (hc : I c) (hm : L.Msg m) : (cmdNames c sid m).Sat I := by
  unfold cmdNames
  refine .andThen (L.getS hc) fun s cs => ?_
  extract_lets fallback
  have hf : I fallback := L.srv "366" hc ⟨cs.nick, L.lit clean_lit, L.lit clean_lit⟩
  cases hp : m.params.head? with
  | none => exact .pure hf
  | some chn =>
    have hchn := hm.head hp
    dsimp -zeta only
    extract_lets lc
    cases hch : getChan c lc with
    | none => exact .pure hf
    | some ch =>
      refine Res.Sat.andThen (.mapRes (P := OptAll L.Str) fun e _ => ?_) fun en hen => ?_
      · cases AMap.get c.st.nicks e.1 with
        | none => exact .panic _
        | some mid =>
          dsimp only
          cases hms : AMap.get c.st.sessions mid with
          | none => exact .panic _
          | some ms =>
            exact .ite' (.ok .none) <|
              .ok (.some (((L.lit clean_lit).ite (L.lit clean_lit)).append (L.sess hc hms).nick))
      · extract_lets nicks c1
        have hn : L.Str (joinStr " " nicks) := .join clean_lit (mergeSort_all (OptAll.filterMap hen))
        have h1 : I c1 := L.srv "353" hc ⟨cs.nick, L.lit clean_lit, hchn, hn⟩
        exact .pure (L.srv "366" h1 ⟨cs.nick, hchn, L.lit clean_lit⟩)

theorem cmdWho_keeps (hc : I c) (hm : L.Msg m) : (cmdWho c sid m).Sat I := by
  unfold cmdWho
  refine .andThen (L.getS hc) fun s cs => ?_
  cases hp : m.params.head? with
  | none => exact .pure (L.srv "315" hc ⟨cs.nick, L.lit clean_lit⟩)
  | some chn =>
    have hchn := hm.head hp
    dsimp -zeta only
    extract_lets lastmsg lc
    -- the closing line is built in the first context, and sent in a later one with the same server name
    have hlast {c1 : Ctx} (h1 : I c1) : I (sendUser c1 sid lastmsg) :=
      L.send h1 (L.srvLine "315" hc ⟨cs.nick, hchn, L.lit clean_lit⟩)
    cases getChan c lc with
    | none => exact .pure (hlast hc)
    | some ch =>
      refine .ite' (.pure (hlast hc)) <| .bind fun members _ => ?_
      extract_lets nicks
      refine Res.Sat.andThen (.foldlM _ hc fun c2 nick _ h2 => ?_) fun c1 h1 => .pure (hlast h1)
      cases AMap.get c2.st.nicks (nickToLower nick) with
      | none => exact .panic _
      | some mid =>
        refine .andThen (L.getS h2) fun ms cms => .ok (L.srv "352" h2 ?_)
        exact ⟨cs.nick, hchn, cms.puser, cms.phost, L.serverName h2, cms.pname, (L.lit clean_lit).ite (L.lit clean_lit),
          (L.lit clean_lit).append cms.realname⟩

theorem cmdWhois_keeps (hc : I c) (hm : L.Msg m) : (cmdWhois c sid m).Sat I := by
  unfold cmdWhois
  refine .andThen (L.getS hc) fun s cs => .andThen hm.param fun p0 hp0 => ?_
  cases AMap.get c.st.nicks (nickToLower p0) with
  | none => exact .pure (L.srv "401" hc ⟨cs.nick, hp0, L.lit clean_lit⟩)
  | some tid =>
    refine .andThen (L.getS hc) fun t ct => ?_
    extract_lets +onlyGivenNames c1
    have h1 : I c1 := L.srv "311" hc ⟨cs.nick, ct.nick, ct.puser, ct.phost, L.lit clean_lit, ct.realname⟩
    refine Res.Sat.andThen (.mapRes (P := OptAll L.Str) fun lc _ => ?_) fun chans hchans => ?_
    · cases hch : getChan c1 lc with
      | none => exact .panic _
      | some ch =>
        refine .ite' (.ok .none) ?_
        cases AMap.get ch.nicks (nickToLower t.nick) with
        | none => exact .panic _
        | some mem => exact .ok (.some (((L.lit clean_lit).ite (L.lit clean_lit)).append (L.chan h1 hch).name))
    · extract_lets +onlyGivenNames channels c2 c3 c4 c5 d
      have hj : L.Str (joinStr " " channels) := .join clean_lit (mergeSort_all (OptAll.filterMap hchans))
      have h2 : I c2 := ite_ind' (L.srv "319" h1 ⟨cs.nick, ct.nick, hj⟩) h1
      have h3 : I c3 := L.srv "312" h2 ⟨cs.nick, ct.nick, L.serverName h2, L.lit clean_lit⟩
      have h4 : I c4 := ite_ind' (L.srv "313" h3 ⟨cs.nick, ct.nick, L.lit clean_lit⟩) h3
      have h5 : I c5 := ite_ind' (L.srv "301" h4 ⟨cs.nick, ct.nick, ct.awayMsg⟩) h4
      refine .ite' (.declined _) ?_
      extract_lets idle signon c6 c7
      have h6 : I c6 := L.srv "317" h5
        ⟨cs.nick, ct.nick, L.lit (clean_toString_int _), L.lit (clean_toString_int _), L.lit clean_lit⟩
      have h7 : I c7 := ite_ind' (L.srv "307" h6 ⟨cs.nick, ct.nick, L.lit clean_lit⟩) h6
      exact .pure (L.srv "318" h7 ⟨cs.nick, ct.nick, L.lit clean_lit⟩)

end Robust.Irc
