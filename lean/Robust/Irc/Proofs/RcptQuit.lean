import Robust.Irc.Proofs.RcptMem
/-!
C12, part 2c/d: QUIT, KILL (and the `deleteSession` they share) — who receives what.
-/
namespace Robust.Irc
open Robust AMap

/-- the recipients of the QUIT line computed after `deleteSession c tid` from the (flagged) session value:
exactly the *other* sessions that shared a channel with `tid` before, plus the services links -/
theorem quit_rcpt {c c1 : Ctx} {tid : Id} {t : Session} {inv : List String} (sp : DelSpec c c1 tid t)
    (hi : Inv c.st) (hn : NI c.st) (ht : AMap.get c.st.sessions tid = some t)
    {rc : List Nat} (hrc : rcCommonChannels c1.st { t with invitedTo := inv, deleted := true } = .ok rc)
    (i k : Nat) (d : Bytes) :
    RcptIs ⟨i, k, d, rc ++ rcServices c1.st⟩
      (fun id => id ≠ tid ∧ ∃ lc ∈ t.channels, Lists c.st lc id) c.st.serverSessions := by
  have hsv : rcServices c1.st = c.st.serverSessions := sp.frame.serverSessions
  rw [hsv]
  refine ((rcCommonChannels_ids sp.winv hrc).congr fun id => ?_).rcptIs
  simp only [sp.onChan hi hn ht]
  exact ⟨fun ⟨lc, hl, h1, h2⟩ => ⟨h2, lc, hl, h1⟩, fun ⟨h2, lc, hl, h1⟩ => ⟨lc, hl, h1, h2⟩⟩

/-- the lines `cmdQuit` can produce (`s` = the stored session *before* the command) -/
inductive QuitLine (st : St) (sid : Id) (s : Session) (m : IrcMsg) (o : Out) : Prop
  /-- the QUIT, under the leaving session's prefix: to exactly the *other* sessions that share a channel with it,
  and the services links -/
  | quit (hl : s.loggedIn = true)
      (hd : o.data = (IrcMsg.mk (some s.ircPrefix) "QUIT" [m.trailing]).render)
      (hr : RcptIs o (fun id => id ≠ sid ∧ ∃ lc ∈ s.channels, Lists st lc id) st.serverSessions)
  /-- the closing ERROR (no prefix): to the session being closed only -/
  | error (h : ToOnly sid o) (hd : ∃ txt, o.data = (IrcMsg.mk none "ERROR" [txt]).render)

/-- **QUIT**: the lines, and the membership afterwards in terms of *indexed* sessions (`OnChan`: the closed
session is still stored, flagged `deleted`, until `maybeDeleteSession` purges it): the former members other than
`sid` -/
theorem cmdQuit_spec {c : Ctx} {sid : Id} {s : Session} (m : IrcMsg) (hp : Pre c sid) (hn : NI c.st)
    (hs : AMap.get c.st.sessions sid = some s) :
    (cmdQuit c sid m).Sat fun c' => NewOut (QuitLine c.st sid s m) c c' ∧
      ∀ lc id, OnChan c'.st lc id ↔ Lists c.st lc id ∧ id ≠ sid := by
  unfold cmdQuit
  refine .bind fun c1 h1 => ?_
  have sp := deleteSession_spec hp.inv.toWInv hs (DelPre.of_live (hp.live hs)) h1
  have h0 : NewOut (QuitLine c.st sid s m) c c1 := (NewOut.refl _ c).frame sp.frame
  have hon : ∀ lc id, OnChan c1.st lc id ↔ Lists c.st lc id ∧ id ≠ sid := fun _ _ => sp.onChan hp.inv hn hs
  obtain ⟨inv, hself⟩ := sp.self
  refine .bindEq (getS_of_get hself) (.ite (fun hlog => .bind fun rc hrc => .pure ⟨?_, hon⟩) fun _ => .pure ⟨h0, hon⟩)
  refine (h0.emit fun i k => ?_).sendUser fun _ _ => .error rfl ⟨_, rfl⟩
  exact .quit hlog rfl (quit_rcpt sp hp.inv hn hs hrc _ _ _)

/-- the lines `cmdKill` can produce (`s` = the stored session of the sender) -/
inductive KillLine (st : St) (sid : Id) (s : Session) (m : IrcMsg) (o : Out) : Prop
  /-- numeric reply (481, 401): to the sender only -/
  | reply (h : ToOnly sid o)
  /-- the victim's QUIT, under the victim's prefix: to exactly the *other* sessions that share a channel with the
  victim, and the services links; the sender is an IRC operator -/
  | quit (p0 : String) (tid : Id) (t : Session) (hop : s.operator = true) (hp : m.params[0]? = some p0)
      (hi : AMap.get st.nicks (nickToLower p0) = some tid) (ht : AMap.get st.sessions tid = some t)
      (hd : o.data = (IrcMsg.mk (some t.ircPrefix) "QUIT" ["Killed by " ++ s.nick ++ ": " ++ m.trailing]).render)
      (hr : RcptIs o (fun id => id ≠ tid ∧ ∃ lc ∈ t.channels, Lists st lc id) st.serverSessions)
  /-- the KILL line (under the operator's prefix) and the closing ERROR: to the killed session only -/
  | victim (p0 : String) (tid : Id) (hop : s.operator = true) (hp : m.params[0]? = some p0)
      (hi : AMap.get st.nicks (nickToLower p0) = some tid) (h : ToOnly tid o)

theorem cmdKill_out {c c' : Ctx} {sid : Id} {m : IrcMsg} {s : Session} (hp : Pre c sid) (hn : NI c.st)
    (hs : AMap.get c.st.sessions sid = some s) (hr : cmdKill c sid m = .ok c') :
    NewOut (KillLine c.st sid s m) c c' := by
  refine Res.Sat.apply ?_ hr
  have reply : ∀ msg, NewOut (KillLine c.st sid s m) c (sendUser c sid msg) :=
    fun _ => (NewOut.refl _ c).sendUser fun _ _ => .reply rfl
  unfold cmdKill
  refine .bindEq (getS_of_get hs) (.ite (fun _ => .pure (reply _)) fun hop => ?_)
  have hop' : s.operator = true := by simpa using hop
  refine .andThen (param_sat m 0) fun p0 hpp => ?_
  cases hidx : AMap.get c.st.nicks (nickToLower p0) with
  | none => exact .pure (reply _)
  | some tid =>
    refine .bind fun c1 h1 => ?_
    obtain ⟨t, ht, htl, _⟩ := hp.inv.index _ tid hidx
    have sp := deleteSession_spec hp.inv.toWInv ht (DelPre.of_live htl) h1
    have h0 : NewOut (KillLine c.st sid s m) c c1 := (NewOut.refl _ c).frame sp.frame
    obtain ⟨inv, hself⟩ := sp.self
    refine .bindEq (getS_of_get hself) (.andThen (getS_sat c1 sid) fun s2 hs2 => .bind fun rc hrc => .pure ?_)
    -- the killer's nickname is read after the victim is closed; it is the stored one, also when they coincide
    have hs2n : s2.nick = s.nick := by
      by_cases hid : sid = tid
      · subst hid
        rw [hself] at hs2; cases hs2
        rw [hs] at ht; cases ht; rfl
      · obtain ⟨inv', h'⟩ := sp.others sid s hid hs
        rw [h'] at hs2; cases hs2; rfl
    refine ((h0.emit fun i k => ?_).sendUser fun _ _ => .victim p0 tid hop' hpp hidx rfl).sendUser
      fun _ _ => .victim p0 tid hop' hpp hidx rfl
    exact .quit p0 tid t hop' hpp hidx ht (by rw [hs2n]) (quit_rcpt sp hp.inv hn ht hrc _ _ _)

end Robust.Irc
