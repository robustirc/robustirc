import Robust.Irc.Apply
/-!
The handler table `handlerByName` as an elimination principle: a property of (Go name, handler) pairs
that holds for each of the 41 rows holds for whatever `handlerByName` returns.  The theorems that say
"every handler keeps …" are instances, one argument per row, in the order of the table.
-/
namespace Robust.Irc

theorem handlerByName_cases {P : String → Handler → Prop}
    (away : P "cmdAway" cmdAway) (serviceAlias : P "cmdServiceAlias" cmdServiceAlias) (gline : P "cmdGline" cmdGline)
    (invite : P "cmdInvite" cmdInvite) (ison : P "cmdIson" cmdIson) (join : P "cmdJoin" cmdJoin)
    (kick : P "cmdKick" cmdKick) (kill : P "cmdKill" cmdKill) (knock : P "cmdKnock" cmdKnock)
    (list : P "cmdList" cmdList) (mode : P "cmdMode" cmdMode) (motd : P "cmdMotd" cmdMotd)
    (names : P "cmdNames" cmdNames) (nick : P "cmdNick" cmdNick) (oper : P "cmdOper" cmdOper)
    (part : P "cmdPart" cmdPart) (pass : P "cmdPass" cmdPass) (ping : P "cmdPing" cmdPing)
    (privmsg : P "cmdPrivmsg" cmdPrivmsg) (quit : P "cmdQuit" cmdQuit) (server : P "cmdServer" cmdServer)
    (topic : P "cmdTopic" cmdTopic) (user : P "cmdUser" cmdUser) (userhost : P "cmdUserhost" cmdUserhost)
    (who : P "cmdWho" cmdWho) (whois : P "cmdWhois" cmdWhois) (serverInvite : P "cmdServerInvite" cmdServerInvite)
    (serverJoin : P "cmdServerJoin" cmdServerJoin) (serverKick : P "cmdServerKick" cmdServerKick)
    (serverKill : P "cmdServerKill" cmdServerKill) (serverMode : P "cmdServerMode" cmdServerMode)
    (serverNick : P "cmdServerNick" cmdServerNick) (serverPrivmsg : P "cmdServerPrivmsg" cmdServerPrivmsg)
    (serverPart : P "cmdServerPart" cmdServerPart) (serverQuit : P "cmdServerQuit" cmdServerQuit)
    (serverSvshold : P "cmdServerSvshold" cmdServerSvshold) (serverSvsjoin : P "cmdServerSvsjoin" cmdServerSvsjoin)
    (serverSvsmode : P "cmdServerSvsmode" cmdServerSvsmode) (serverSvsnick : P "cmdServerSvsnick" cmdServerSvsnick)
    (serverSvspart : P "cmdServerSvspart" cmdServerSvspart) (serverTopic : P "cmdServerTopic" cmdServerTopic) :
    ∀ {fname : String} {h : Handler}, handlerByName fname = some h → P fname h := by
  intro fname h hh
  unfold handlerByName at hh
  split at hh
  · cases hh; exact away
  · cases hh; exact serviceAlias
  · cases hh; exact gline
  · cases hh; exact invite
  · cases hh; exact ison
  · cases hh; exact join
  · cases hh; exact kick
  · cases hh; exact kill
  · cases hh; exact knock
  · cases hh; exact list
  · cases hh; exact mode
  · cases hh; exact motd
  · cases hh; exact names
  · cases hh; exact nick
  · cases hh; exact oper
  · cases hh; exact part
  · cases hh; exact pass
  · cases hh; exact ping
  · cases hh; exact privmsg
  · cases hh; exact quit
  · cases hh; exact server
  · cases hh; exact topic
  · cases hh; exact user
  · cases hh; exact userhost
  · cases hh; exact who
  · cases hh; exact whois
  · cases hh; exact serverInvite
  · cases hh; exact serverJoin
  · cases hh; exact serverKick
  · cases hh; exact serverKill
  · cases hh; exact serverMode
  · cases hh; exact serverNick
  · cases hh; exact serverPrivmsg
  · cases hh; exact serverPart
  · cases hh; exact serverQuit
  · cases hh; exact serverSvshold
  · cases hh; exact serverSvsjoin
  · cases hh; exact serverSvsmode
  · cases hh; exact serverSvsnick
  · cases hh; exact serverSvspart
  · cases hh; exact serverTopic
  · cases hh

end Robust.Irc
