import Robust.Irc.Proofs.FrameLeave
/-!
Creating a channel and adding a member: the state-changing core of `joinOne`,
`serverJoinOne` and `cmdServerSvsjoin`.  `AddSpec` says what the join step leaves, as `LeaveSpec` and `DelSpec` do for
leaving and deleting; the walks of the three handlers read the step through it.
-/
namespace Robust.Irc
open Robust AMap

theorem WInvCore.setChan {st st' : St} {lc : String} {ch' : Channel} (h : WInvCore st)
    (hs : st'.sessions = st.sessions) (hn : st'.nicks = st.nicks) (hc : st'.channels = AMap.set st.channels lc ch')
    (hname : chanToLower ch'.name = lc) (hnd : (AMap.keys ch'.nicks).Nodup)
    (hmem : ∀ n, n ∈ AMap.keys ch'.nicks →
      ∃ id s, AMap.get st.nicks n = some id ∧ AMap.get st.sessions id = some s ∧ lc ∈ s.channels) : WInvCore st' := by
  refine ⟨by rw [hs]; exact h.sessNodup, by rw [hn]; exact h.nickNodup,
    by rw [hc]; exact AMap.nodup_keys_set _ _ h.chanNodup,
    by rw [hs]; exact h.sessId, by rw [hs, hn]; exact h.owns, by rw [hs, hn]; exact h.index, fun lc' c hg => ?_⟩
  rw [hc] at hg; rw [hs, hn]
  rcases AMap.get_of_get_set hg with ⟨rfl, rfl⟩ | ⟨_, hg⟩
  · exact ⟨hname, hnd, hmem⟩
  · exact h.chans lc' c hg

/-! ### a new, still empty channel (`joinOne` stores it before the first member is added) -/

theorem WInv_newChan {st st' : St} {lc : String} {ch : Channel} (h : WInv st)
    (hnone : AMap.get st.channels lc = none) (hname : chanToLower ch.name = lc) (hnil : ch.nicks = [])
    (hs : st'.sessions = st.sessions) (hn : st'.nicks = st.nicks)
    (hc : st'.channels = AMap.set st.channels lc ch) : WInv st' := by
  refine ⟨h.toWInvCore.setChan hs hn hc hname (by rw [hnil]; exact List.nodup_nil)
    (fun n hn' => by rw [hnil] at hn'; cases hn'), fun x id s hi hg ch2 hch2 => ?_⟩
  rw [hn] at hi; rw [hs] at hg
  obtain ⟨c, hc0, hcont⟩ := h.member x id s hi hg ch2 hch2
  have hne : ch2 ≠ lc := by
    intro he; subst he; rw [hnone] at hc0; cases hc0
  exact ⟨c, by rw [hc, AMap.get_set_other _ hne]; exact hc0, hcont⟩

theorem WInv_putChan_new {c : Ctx} {lc : String} {ch : Channel} (h : WInv c.st)
    (hnone : AMap.get c.st.channels lc = none) (hname : chanToLower ch.name = lc) (hnil : ch.nicks = []) :
    WInv (putChan c lc ch).st :=
  WInv_newChan h hnone hname hnil rfl rfl rfl

theorem ChansNonemptyBut_putChan {c : Ctx} (lc : String) (ch : Channel) (h : ChansNonemptyBut c.st lc) :
    ChansNonemptyBut (putChan c lc ch).st lc := by
  intro lc' c2 hne hg
  rw [putChan_channels, AMap.get_set_other _ hne] at hg
  exact h lc' c2 hne hg

/-- `ch` is the channel value a member is added to: the one stored under `lc`, or a fresh empty one when none is
stored (`serverJoinOne`, `cmdServerSvsjoin` use `getD { name := … }`) -/
def ChanOrNew (st : St) (lc : String) (ch : Channel) : Prop :=
  AMap.get st.channels lc = some ch ∨ (AMap.get st.channels lc = none ∧ ch.nicks = [] ∧ chanToLower ch.name = lc)

theorem ChanOrNew.getD (st : St) {lc chn : String} (hlc : chanToLower chn = lc) :
    ChanOrNew st lc ((AMap.get st.channels lc).getD { name := chn }) := by
  unfold ChanOrNew
  cases AMap.get st.channels lc with
  | none => exact Or.inr ⟨rfl, rfl, hlc⟩
  | some ch => exact Or.inl rfl

/-- The session `tid` indexed under `lcn` joins `lc`.  `ch'` / `t'` are the new channel / session values. -/
theorem WInv_addMember {st st' : St} {lc lcn : String} {tid : Id} {t t' : Session} {ch ch' : Channel} {mem : Member}
    (h : WInv st) (hidx : AMap.get st.nicks lcn = some tid) (ht : AMap.get st.sessions tid = some t)
    (hch : ChanOrNew st lc ch)
    (hname : ch'.name = ch.name) (hkeys : AMap.keys ch'.nicks = AMap.keys (AMap.set ch.nicks lcn mem))
    (hid : t'.id = t.id) (hdel : t'.deleted = t.deleted) (hnick : t'.nick = t.nick)
    (hchs : t'.channels = setInsert t.channels lc)
    (hs : st'.sessions = AMap.set st.sessions tid t') (hn : st'.nicks = st.nicks)
    (hc : st'.channels = AMap.set st.channels lc ch') : WInv st' := by
  have htid := h.sessId tid t ht
  -- first the session lists `lc` …
  let st1 : St := { st with sessions := AMap.set st.sessions tid t' }
  have hgett : AMap.get st1.sessions tid = some t' := AMap.get_set_same ..
  have h1 : WInvCore st1 := h.toWInvCore.setSession (st' := st1) rfl rfl rfl
    (by rw [hid]; exact htid.1) (by rw [hchs]; exact nodup_setInsert lc htid.2)
    (fun x hx => by rw [hdel, hnick]; exact h.index_get hx ht)
    (fun hl hnn => by rw [hnick] at hnn ⊢; rw [hdel] at hl; exact h.owns tid t ht hl hnn)
    (fun x lc2 c hx hg hmem => by rw [hchs]; exact mem_setInsert.2 (Or.inr (h.chanMember_get hg hmem hx ht)))
  -- … then `ch`, which is what `lc` holds or a fresh channel, gets the member
  have hch1 : chanToLower ch.name = lc ∧ (AMap.keys ch.nicks).Nodup ∧
      (∀ n, n ∈ AMap.keys ch.nicks →
        ∃ id s, AMap.get st1.nicks n = some id ∧ AMap.get st1.sessions id = some s ∧ lc ∈ s.channels) ∧
      ∀ c, AMap.get st.channels lc = some c → c = ch := by
    rcases hch with e | ⟨e, hnil, hkey⟩
    · exact ⟨(h1.chans lc ch e).1, (h1.chans lc ch e).2.1, (h1.chans lc ch e).2.2,
        fun c hg => by rw [e] at hg; cases hg; rfl⟩
    · exact ⟨hkey, by rw [hnil]; exact List.nodup_nil, (fun n hn' => by rw [hnil] at hn'; cases hn'),
        fun c hg => by rw [e] at hg; cases hg⟩
  obtain ⟨hkey, hnd, hmemb, hold⟩ := hch1
  refine ⟨h1.setChan hs hn hc (by rw [hname]; exact hkey) (by rw [hkeys]; exact AMap.nodup_keys_set _ _ hnd)
    fun n hn' => ?_, fun x id s hi hg ch2 hch2 => ?_⟩
  · rw [hkeys] at hn'
    rcases AMap.mem_keys_set.1 hn' with rfl | hn'
    · exact ⟨tid, t', hidx, hgett, by rw [hchs]; exact mem_setInsert.2 (Or.inl rfl)⟩
    · exact hmemb n hn'
  · rw [hn] at hi; rw [hs] at hg; rw [hc]
    by_cases h2 : ch2 = lc
    · -- in `lc`: the new member, or an old one
      subst h2
      refine ⟨ch', AMap.get_set_same .., AMap.contains_iff_mem_keys.2 ?_⟩
      rw [hkeys, AMap.mem_keys_set]
      rcases AMap.get_of_get_set hg with ⟨rfl, rfl⟩ | ⟨_, hg⟩
      · exact Or.inl (h.index_inj hi hidx)
      · obtain ⟨c, hc0, hcont⟩ := h.member x id s hi hg ch2 hch2
        rw [hold c hc0] at hcont
        exact Or.inr (AMap.contains_iff_mem_keys.1 hcont)
    · rw [AMap.get_set_other _ h2]
      rcases AMap.get_of_get_set hg with ⟨rfl, rfl⟩ | ⟨_, hg⟩
      · rw [hchs] at hch2
        exact h.member x id t hi ht ch2 ((mem_setInsert.1 hch2).resolve_left h2)
      · exact h.member x id s hi hg ch2 hch2

theorem ChansNonempty_addMember {st st' : St} {lc lcn : String} {ch ch' : Channel} {mem : Member}
    (h : ChansNonemptyBut st lc) (hkeys : AMap.keys ch'.nicks = AMap.keys (AMap.set ch.nicks lcn mem))
    (hc : st'.channels = AMap.set st.channels lc ch') : ChansNonempty st' := by
  intro lc2 c hg
  rw [hc] at hg
  rcases AMap.get_of_get_set hg with ⟨_, rfl⟩ | ⟨hne, hg⟩
  · intro hnil
    have : AMap.keys (AMap.set ch.nicks lcn mem) = [] := by rw [← hkeys, hnil]; rfl
    exact AMap.set_ne_nil _ _ _ (AMap.keys_eq_nil.1 this)
  · exact h lc2 c hne hg

/-- what the join step leaves: the counterpart of `LeaveSpec` and `DelSpec` -/
structure AddSpec (c c' : Ctx) (tid : Id) (lc : String) (ch' : Channel) : Prop where
  winv : WInv c'.st
  nonempty : ChansNonemptyBut c.st lc → ChansNonempty c'.st
  frame : CtxFrame c c'
  nicks : c'.st.nicks = c.st.nicks
  chan : AMap.get c'.st.channels lc = some ch'
  self : ∃ t, AMap.get c.st.sessions tid = some t ∧
    c'.st.sessions = AMap.set c.st.sessions tid { t with channels := setInsert t.channels lc }

/-- the two steps `putChan … (AMap.set ch.nicks lcn mem)` + `modS … (setInsert channels lc)`
as they appear in `joinOne` / `serverJoinOne` / `cmdServerSvsjoin` -/
theorem addMember_spec {c c' : Ctx} {lc lcn : String} {tid : Id} {ch : Channel} {mem : Member}
    (h : WInv c.st) (hidx : AMap.get c.st.nicks lcn = some tid)
    (hch : ChanOrNew c.st lc ch)
    (hr : modS (putChan c lc { ch with nicks := AMap.set ch.nicks lcn mem }) tid
            (fun t => { t with channels := setInsert t.channels lc }) = Res.ok c') :
    AddSpec c c' tid lc { ch with nicks := AMap.set ch.nicks lcn mem } := by
  obtain ⟨t, ht, rfl⟩ := modS_eq_ok.1 hr
  change AMap.get c.st.sessions tid = some t at ht
  have hss : AMap.set c.st.sessions t.id { t with channels := setInsert t.channels lc } =
      AMap.set c.st.sessions tid { t with channels := setInsert t.channels lc } := by rw [(h.sessId tid t ht).1]
  exact ⟨WInv_addMember (ch' := { ch with nicks := AMap.set ch.nicks lcn mem })
      (t' := { t with channels := setInsert t.channels lc }) h hidx ht hch rfl rfl rfl rfl rfl rfl hss rfl rfl,
    fun hne => ChansNonempty_addMember (ch := ch) (mem := mem) hne rfl rfl,
    (CtxFrame.putChan c lc _).trans (.putS _ _), rfl, by simp, t, ht, hss⟩

namespace AddSpec
variable {c c' : Ctx} {tid : Id} {lc : String} {ch' : Channel} (sp : AddSpec c c' tid lc ch')
include sp

theorem get_self {t : Session} (ht : AMap.get c.st.sessions tid = some t) :
    AMap.get c'.st.sessions tid = some { t with channels := setInsert t.channels lc } := by
  obtain ⟨t', ht', e⟩ := sp.self
  cases ht.symm.trans ht'
  rw [e]; exact AMap.get_set_same ..

theorem stored {id : Id} {s' : Session} (hg : AMap.get c'.st.sessions id = some s') :
    ∃ s, AMap.get c.st.sessions id = some s ∧ s' = { s with channels := s'.channels } := by
  obtain ⟨t, ht, e⟩ := sp.self
  rw [e] at hg
  rcases AMap.get_of_get_set hg with ⟨rfl, rfl⟩ | ⟨_, hg⟩
  · exact ⟨t, ht, rfl⟩
  · exact ⟨s', hg, rfl⟩

theorem live (h : ∀ id s, AMap.get c.st.sessions id = some s → s.deleted = false) :
    ∀ id s, AMap.get c'.st.sessions id = some s → s.deleted = false :=
  fun id _ hg => let ⟨s, hs, e⟩ := sp.stored hg; by rw [e]; exact h id s hs

end AddSpec

end Robust.Irc
