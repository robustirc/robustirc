import Robust.Irc.Proofs.RcptMem
/-!
C12, part 2b: KICK, PART, INVITE, KNOCK — who receives what, and what the command does to the membership
relation `Lists` (the "reference model": the stored session `id` lists channel `lc`).
-/
namespace Robust.Irc
open Robust AMap

/-! ### the common end of KICK, PART, SVSPART and the KICK and PART of a services link: announce, then leave -/

/-- `c'` arises from `c` by announcing `msg` to the members `rc` of the channel `ch` stored under `lc` and to the
further recipients `ex` (the services links, or nobody), after which the member `lcn` — the session `tid` —
leaves the channel -/
structure LeaveRun (c : Ctx) (lc lcn : String) (tid : Id) (ch : Channel) (rc ex : List Nat) (msg : IrcMsg)
    (c' : Ctx) : Prop where
  chan : AMap.get c.st.channels lc = some ch
  onChan : AMap.contains ch.nicks lcn = true
  indexed : AMap.get c.st.nicks lcn = some tid
  rcpt : rcChannel c.st ch = .ok rc
  leave : leaveChannel (emit c msg (rc ++ ex)) lc lcn tid = .ok c'

namespace LeaveRun
variable {c c' : Ctx} {lc lcn : String} {tid : Id} {ch : Channel} {rc ex : List Nat} {msg : IrcMsg}

theorem spec (h : LeaveRun c lc lcn tid ch rc ex msg c') (hi : Inv c.st) :
    LeaveSpec (emit c msg (rc ++ ex)) c' lc lcn tid :=
  leaveChannel_spec (c := emit _ _ _) hi.toWInv h.indexed h.leave

theorem out (h : LeaveRun c lc lcn tid ch rc ex msg c') (hi : Inv c.st) (hn : NI c.st) {P : Out → Prop}
    (hP : ∀ o, o.data = msg.render → RcptIs o (Lists c.st lc) ex → P o) : NewOut P c c' :=
  ((NewOut.refl _ c).emit fun _ _ => hP _ rfl (rcChannel_lists hi hn h.chan h.rcpt).rcptIs).frame
    (h.spec hi).frame

theorem lists (h : LeaveRun c lc lcn tid ch rc ex msg c') (hi : Inv c.st) : Leaves c.st c'.st tid lc := (h.spec hi).lists

theorem member (h : LeaveRun c lc lcn tid ch rc ex msg c') (hi : Inv c.st) : Lists c.st lc tid :=
  ((hi.toWInv.memberKey_iff h.chan).1 ⟨_, AMap.contains_iff_mem_keys.1 h.onChan, h.indexed⟩).lists

end LeaveRun

inductive KickLine (st : St) (sid : Id) (s : Session) (m : IrcMsg) (o : Out) : Prop
  /-- numeric reply (403, 442, 482, 441): to the sender only -/
  | reply (h : ToOnly sid o)
  /-- the KICK, under the sender's prefix: to exactly the sessions listing the channel (the kicked one
  included) and the services links; the sender is a channel operator of that channel and the target is on it -/
  | relay (chn target : String) (ch : Channel) (mem : Member) (tid : Id)
      (hp0 : m.params[0]? = some chn) (hp1 : m.params[1]? = some target)
      (hc : AMap.get st.channels (chanToLower chn) = some ch)
      (hop : AMap.get ch.nicks (nickToLower s.nick) = some mem) (hchanop : mem.chanop = true)
      (ht : AMap.get st.nicks (nickToLower target) = some tid) (hton : Lists st (chanToLower chn) tid)
      (hd : o.data = (IrcMsg.mk (some s.ircPrefix) "KICK" [chn, target, m.trailing]).render)
      (hr : RcptIs o (Lists st (chanToLower chn)) st.serverSessions)

/-- **KICK**: the lines, and the membership afterwards (nothing changes, or exactly the target leaves exactly that
channel) -/
theorem cmdKick_step {c : Ctx} {sid : Id} {m : IrcMsg} (hi : Inv c.st) (hn : NI c.st) :
    (cmdKick c sid m).Sat fun c' => ∃ s, AMap.get c.st.sessions sid = some s ∧
      NewOut (KickLine c.st sid s m) c c' ∧
      (SameLists c.st c'.st ∨
        ∃ chn target tid, m.params[0]? = some chn ∧ m.params[1]? = some target ∧
          AMap.get c.st.nicks (nickToLower target) = some tid ∧ Leaves c.st c'.st tid (chanToLower chn)) := by
  unfold cmdKick
  refine .andThen (getS_sat c sid) fun s hs => .andThen (param_sat m 0) fun chn hp0 =>
    .andThen (param_sat m 1) fun target hp1 => ?_
  refine Res.Sat.mono ?_ fun _ h => ⟨s, hs, h⟩
  have reply : ∀ msg, NewOut (KickLine c.st sid s m) c (sendUser c sid msg) :=
    fun _ => (NewOut.refl _ c).sendUser fun _ _ => .reply rfl
  dsimp only
  cases hch : getChan c (chanToLower chn) with
  | none => exact .pure ⟨reply _, Or.inl (.refl _)⟩
  | some ch =>
    dsimp only
    cases hperms : AMap.get ch.nicks (nickToLower s.nick) with
    | none => exact .pure ⟨reply _, Or.inl (.refl _)⟩
    | some perms =>
      refine .ite (fun _ => .pure ⟨reply _, Or.inl (.refl _)⟩) fun hop =>
        .ite (fun _ => .pure ⟨reply _, Or.inl (.refl _)⟩) fun hon => ?_
      cases hidx : AMap.get c.st.nicks (nickToLower target) with
      | none => exact .panic _
      | some tid =>
        refine .bind fun rc hrc c' hl => ?_
        have h : LeaveRun c (chanToLower chn) (nickToLower target) tid ch rc c.st.serverSessions
            ⟨some s.ircPrefix, "KICK", [chn, target, m.trailing]⟩ c' :=
          ⟨hch, by simpa using hon, hidx, hrc, hl⟩
        exact ⟨h.out hi hn fun _ hd hr =>
            .relay chn target ch perms tid hp0 hp1 hch hperms (by simpa using hop) hidx (h.member hi) hd hr,
          Or.inr ⟨chn, target, tid, hp0, hp1, hidx, h.lists hi⟩⟩

theorem cmdKick_out {c c' : Ctx} {sid : Id} {m : IrcMsg} {s : Session} (hi : Inv c.st) (hn : NI c.st)
    (hs : AMap.get c.st.sessions sid = some s) (hr : cmdKick c sid m = .ok c') :
    NewOut (KickLine c.st sid s m) c c' := by
  obtain ⟨s', hs', h, _⟩ := (cmdKick_step hi hn).apply hr
  rw [hs] at hs'
  cases hs'
  exact h

/-- the lines `partOne` / `cmdPart` can produce; `chans` = the channel names given -/
inductive PartLine (st : St) (sid : Id) (s : Session) (chans : List String) (o : Out) : Prop
  /-- numeric reply (403, 442): to the sender only -/
  | reply (h : ToOnly sid o)
  /-- the PART, under the sender's prefix: to exactly the sessions listing the channel (the leaving one
  included) and the services links -/
  | relay (chn : String) (hmem : chn ∈ chans) (hon : Lists st (chanToLower chn) sid)
      (hd : o.data = (IrcMsg.mk (some s.ircPrefix) "PART" [chn]).render)
      (hr : RcptIs o (Lists st (chanToLower chn)) st.serverSessions)

/-- a session that sits (under its lower-cased nick) in the member map of a stored channel has a nickname,
hence is indexed under it -/
theorem memberKey_indexed {st : St} (hi : Inv st) (hn : NI st) {sid : Id} {s : Session} {lc : String} {ch : Channel}
    (hs : AMap.get st.sessions sid = some s) (hch : AMap.get st.channels lc = some ch)
    (hcont : AMap.contains ch.nicks (nickToLower s.nick) = true) :
    AMap.get st.nicks (nickToLower s.nick) = some sid := by
  have hnick : s.nick ≠ "" := by
    intro he
    obtain ⟨id, _, h1, _, _⟩ := (hi.chans lc ch hch).2.2 _ (AMap.contains_iff_mem_keys.1 hcont)
    rw [he, nickToLower_empty, hn.idx] at h1
    cases h1
  exact hi.owns sid s hs (hi.noDeleted sid s hs) hnick

theorem PartLine.mono {st : St} {sid : Id} {s : Session} {l l' : List String} {o : Out}
    (h : PartLine st sid s l o) (hl : ∀ x ∈ l, x ∈ l') : PartLine st sid s l' o := by
  cases h with
  | reply h => exact .reply h
  | relay chn hmem hon hd hr => exact .relay chn (hl _ hmem) hon hd hr

theorem partOne_step {c c' : Ctx} {sid : Id} {chn : String} {s : Session} (hi : Inv c.st) (hn : NI c.st)
    (hs : AMap.get c.st.sessions sid = some s) (hr : partOne c sid chn = .ok c') :
    NewOut (PartLine c.st sid s [chn]) c c' ∧
    (SameLists c.st c'.st ∨ Leaves c.st c'.st sid (chanToLower chn)) ∧
    c'.st.serverSessions = c.st.serverSessions ∧
    ∃ s', AMap.get c'.st.sessions sid = some s' ∧ s'.ircPrefix = s.ircPrefix ∧ s'.loggedIn = s.loggedIn := by
  revert c' hr
  show (partOne c sid chn).Sat _
  have reply : ∀ msg, NewOut (PartLine c.st sid s [chn]) c (sendUser c sid msg) :=
    fun _ => (NewOut.refl _ c).sendUser fun _ _ => .reply rfl
  unfold partOne
  refine .bindEq (getS_of_get hs) ?_
  dsimp only
  cases hch : getChan c (chanToLower chn) with
  | none => exact .pure ⟨reply _, Or.inl (.refl _), rfl, s, hs, rfl, rfl⟩
  | some ch =>
    refine .ite (fun _ => .pure ⟨reply _, Or.inl (.refl _), rfl, s, hs, rfl, rfl⟩) fun hcont =>
      .bind fun rc hrc c' hr => ?_
    have hcont' : AMap.contains ch.nicks (nickToLower s.nick) = true := by simpa using hcont
    have h : LeaveRun c (chanToLower chn) (nickToLower s.nick) sid ch rc c.st.serverSessions
        ⟨some s.ircPrefix, "PART", [chn]⟩ c' :=
      ⟨hch, hcont', memberKey_indexed hi hn hs hch hcont', hrc, hr⟩
    obtain ⟨inv, hself⟩ := (h.spec hi).self s hs
    exact ⟨h.out hi hn fun _ hd hr => .relay chn (List.mem_singleton.2 rfl) (h.member hi) hd hr,
      Or.inr (h.lists hi), (h.spec hi).frame.serverSessions, _, hself, rfl, rfl⟩

theorem partOne_out {c c' : Ctx} {sid : Id} {chn : String} {s : Session} (hi : Inv c.st) (hn : NI c.st)
    (hs : AMap.get c.st.sessions sid = some s) (hr : partOne c sid chn = .ok c') :
    NewOut (PartLine c.st sid s [chn]) c c' := (partOne_step hi hn hs hr).1

/-- the whole command (several channels): recipients relative to the state in which the command starts.  Along
the loop the other sessions keep their memberships (`Drift`), the sender's only shrink, and it keeps its prefix. -/
theorem cmdPart_out {c c' : Ctx} {sid : Id} {m : IrcMsg} {s : Session} {p0 : String} (hp : Pre c sid) (hn : NI c.st)
    (hs : AMap.get c.st.sessions sid = some s) (hl : s.loggedIn = true) (hp0 : m.params[0]? = some p0)
    (hr : cmdPart c sid m = .ok c') :
    NewOut (PartLine c.st sid s (splitChar p0 ',')) c c' := by
  refine Res.Sat.apply ?_ hr
  unfold cmdPart
  rw [param_of_some hp0]
  refine (Res.Sat.foldlM (I := fun ci => Pre ci sid ∧ NI ci.st ∧
      (∃ si, AMap.get ci.st.sessions sid = some si ∧ si.loggedIn = true ∧ si.ircPrefix = s.ircPrefix) ∧
      Drift (· = sid) c.st ci.st ∧ (∀ lc id, Lists ci.st lc id → Lists c.st lc id) ∧
      NewOut (PartLine c.st sid s (splitChar p0 ',')) c ci) _
    ⟨hp, hn, ⟨s, hs, hl, rfl⟩, .refl _ _, fun _ _ h => h, .refl _ _⟩
    fun ci chn hmem ⟨hpi, hni, ⟨si, hsi, hli, hpfx⟩, d, hsub, ho⟩ c1 h1 => ?_).mono fun _ h => h.2.2.2.2.2
  have hm1 := ((partOne_wp (G := False) (.refl hpi) ⟨si, hsi, hli⟩).sat c1 h1).1
  obtain ⟨ho1, hlists, hsvc1, s1, hs1, hpfx1, hl1⟩ := partOne_step hpi.inv hni hsi h1
  refine ⟨hm1.pre, hm1.ni hni, ⟨s1, hs1, hl1.trans hli, hpfx1.trans hpfx⟩,
    hlists.elim (d.same hsvc1) fun h => d.step hsvc1 rfl h.onlyAt,
    fun lc id hh => hsub lc id (hlists.elim (fun h => h.lists.1 hh) fun h => h.sub hh),
    ho.trans (ho1.mono fun o hline => ?_)⟩
  cases hline with
  | reply h => exact .reply h
  | relay chn' hmem' hon hd hrc =>
    obtain rfl : chn' = chn := List.mem_singleton.1 hmem'
    exact .relay chn' hmem (hsub _ _ hon) (by rw [hd, hpfx])
      (d.svc ▸ d.rebase_listing (fun _ h => h) hon (hsub _ _ hon) hrc)

inductive InviteLine (st : St) (sid : Id) (s : Session) (m : IrcMsg) (o : Out) : Prop
  /-- numeric reply (442, 401, 443, 482, 341, 301): to the sender only -/
  | reply (h : ToOnly sid o)
  /-- the INVITE, under the sender's prefix: to the invited session and the services links only; the sender is
  on the channel -/
  | invite (nickname chn : String) (tid : Id) (t : Session) (ch : Channel)
      (hp0 : m.params[0]? = some nickname) (hp1 : m.params[1]? = some chn)
      (hc : AMap.get st.channels (chanToLower chn) = some ch)
      (hon : AMap.contains ch.nicks (nickToLower s.nick) = true)
      (hi : AMap.get st.nicks (nickToLower nickname) = some tid) (ht : AMap.get st.sessions tid = some t)
      (hd : o.data = (IrcMsg.mk (some s.ircPrefix) "INVITE" [t.nick, ch.name]).render)
      (hr : RcptIs o (fun id => id = tid) st.serverSessions)
  /-- the server NOTICE "… invited … into the channel": to exactly the sessions listing the channel -/
  | notice (chn : String) (ch : Channel) (hp1 : m.params[1]? = some chn)
      (hc : AMap.get st.channels (chanToLower chn) = some ch)
      (hon : AMap.contains ch.nicks (nickToLower s.nick) = true)
      (hr : RcptIs o (Lists st (chanToLower chn)) [])

/-- recording an invitation (`invitedTo`) adds no line and leaves what the recipient sets depend on as it was: the
services links, the channel lists, and the members a channel of the old state has in the new one -/
theorem inviteMark {c c1 : Ctx} {tid : Id} {lc : String} (hi : Inv c.st) (hn : NI c.st)
    (h1 : modS c tid (fun t => { t with invitedTo := setInsert t.invitedTo lc }) = .ok c1) :
    c1.out = c.out ∧ c1.st.serverSessions = c.st.serverSessions ∧ SameLists c.st c1.st ∧
    ∀ {lc' : String} {ch : Channel} {rc : List Nat}, AMap.get c.st.channels lc' = some ch →
      rcChannel c1.st ch = .ok rc → IdsOf rc (Lists c.st lc') := by
  have hw := hi.toWInvCore
  have hI := (Inert.refl hw).modS hw h1 (fun _ => ⟨rfl, rfl, rfl, rfl⟩) (fun _ => ⟨rfl, rfl⟩)
  have hsl : SameLists c.st c1.st := by
    refine SameLists.modS ?_ ?_ h1
    · exact fun t0 ht0 => (hi.sessId tid t0 ht0).1
    · exact fun _ => rfl
  obtain ⟨t, _, rfl⟩ := modS_eq_ok.1 h1
  exact ⟨rfl, rfl, hsl, fun hch hrc => rcChannel_lists_sim hi hn hrc hI.sim hch hch⟩

theorem cmdInvite_out {c c' : Ctx} {sid : Id} {m : IrcMsg} {s : Session} (hi : Inv c.st) (hn : NI c.st)
    (hs : AMap.get c.st.sessions sid = some s) (hr : cmdInvite c sid m = .ok c') :
    NewOut (InviteLine c.st sid s m) c c' ∧ SameLists c.st c'.st := by
  revert c' hr
  show (cmdInvite c sid m).Sat _
  have reply : ∀ msg, NewOut (InviteLine c.st sid s m) c (sendUser c sid msg) ∧ SameLists c.st (sendUser c sid msg).st :=
    fun _ => ⟨(NewOut.refl _ c).sendUser fun _ _ => .reply rfl, .refl _⟩
  unfold cmdInvite
  refine .bindEq (getS_of_get hs) (.andThen (param_sat m 0) fun nickname hp0 =>
    .andThen (param_sat m 1) fun chn hp1 => ?_)
  dsimp only
  cases hch : getChan c (chanToLower chn) with
  | none => exact .pure (reply _)
  | some ch =>
    dsimp only
    cases hmem : AMap.get ch.nicks (nickToLower s.nick) with
    | none => exact .pure (reply _)
    | some mem =>
      have hon : AMap.contains ch.nicks (nickToLower s.nick) = true := AMap.contains_iff_get.2 ⟨mem, hmem⟩
      dsimp only
      cases hidx : AMap.get c.st.nicks (nickToLower nickname) with
      | none => exact .pure (reply _)
      | some tid =>
        refine .andThen (getS_sat c tid) fun t ht => .ite (fun _ => .pure (reply _)) fun _ =>
          .ite (fun _ => .pure (reply _)) fun _ => .bind fun c1 h1 => .bind fun rc hrc => ?_
        obtain ⟨ho1, hsvc, hsl, hrcl⟩ := inviteMark hi hn h1
        have hmain : NewOut (InviteLine c.st sid s m) c
            (emit (emit (sendUser c1 sid (srv c1 "341" [s.nick, t.nick, ch.name]))
              ⟨some s.ircPrefix, "INVITE", [t.nick, ch.name]⟩ (rcUser tid ++ c1.st.serverSessions))
              (srv c1 "NOTICE" [ch.name, s.nick ++ " invited " ++ nickname ++ " into the channel."]) rc) := by
          refine (((NewOut.of_out ho1).sendUser fun _ _ => .reply rfl).emit fun _ _ => ?_).emit fun _ _ => ?_
          · refine .invite nickname chn tid t ch hp0 hp1 hch hon hidx ht rfl ?_
            rw [hsvc]
            exact (IdsOf.user _).rcptIs
          · exact .notice chn ch hp1 hch hon (hrcl hch hrc).rcptIs_nil
        exact .ite (fun _ => .pure ⟨hmain.sendUser fun _ _ => .reply rfl, hsl⟩) fun _ => .pure ⟨hmain, hsl⟩

inductive KnockLine (st : St) (sid : Id) (m : IrcMsg) (o : Out) : Prop
  | reply (h : ToOnly sid o)
  /-- the server NOTICE "[Knock] by …" : to exactly the sessions listing the (invite-only) channel -/
  | notice (chn : String) (ch : Channel) (hp : m.params[0]? = some chn)
      (hc : AMap.get st.channels (chanToLower chn) = some ch) (hinv : ch.modes.contains 'i' = true)
      (hr : RcptIs o (Lists st (chanToLower chn)) [])

theorem cmdKnock_out {c c' : Ctx} {sid : Id} {m : IrcMsg} (hi : Inv c.st) (hn : NI c.st)
    (hr : cmdKnock c sid m = .ok c') : c'.st = c.st ∧ NewOut (KnockLine c.st sid m) c c' := by
  refine ⟨(cmdKnock_wp.emits hr).st, Res.Sat.apply ?_ hr⟩
  have reply : ∀ {a : Ctx} (msg : IrcMsg), NewOut (KnockLine c.st sid m) c a →
      NewOut (KnockLine c.st sid m) c (sendUser a sid msg) := fun _ h => h.sendUser fun _ _ => .reply rfl
  unfold cmdKnock
  refine .bind fun s _ => .andThen (param_sat m 0) fun chn hp => ?_
  cases hch : getChan c (chanToLower chn) with
  | none => exact .pure (reply _ (.refl _ c))
  | some ch =>
    refine .ite (fun _ => .pure (reply _ (.refl _ c))) fun hinv => .bind fun rc hrc => .pure (reply _ ?_)
    exact (NewOut.refl _ c).emit fun _ _ =>
      .notice chn ch hp hch (by simpa using hinv) (rcChannel_lists hi hn hch hrc).rcptIs_nil

end Robust.Irc
