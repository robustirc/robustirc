import Robust.Irc.Proofs.Along
/-!
The side conditions of one entry (`EntryOk`, `Conforming`) as Booleans, so that the hypotheses of the entry- and
history-level theorems can be discharged on concrete states and histories by evaluation.
-/
namespace Robust.Irc
open Robust AMap

def entryOkB (st : St) (e : Entry) : Bool :=
  (!(e.type == 1 || e.type == 2) || e.session.reply == 0) &&
  (!(e.type == 0) || st.sessions.all fun p => p.1.id != e.id)

/-- sufficient for `Conforming`: the entry is not a client line, or its session is not a services link -/
def conformingB (st : St) (e : Entry) : Bool :=
  !(e.type == 2) || (match AMap.get st.sessions e.session with
    | some s => !s.server
    | none => true)

theorem entryOk_of_B {st : St} {e : Entry} (h : entryOkB st e = true) : EntryOk st e := by
  unfold entryOkB at h
  simp only [Bool.and_eq_true, Bool.or_eq_true, Bool.not_eq_true', beq_iff_eq, List.all_eq_true, bne_iff_ne,
    ne_eq, Bool.or_eq_false_iff, beq_eq_false_iff_ne] at h
  refine ⟨fun ht => ?_, fun ht id s hg => ?_⟩
  · rcases h.1 with ⟨h1, h2⟩ | h1
    · rcases ht with ht | ht
      · exact absurd ht h1
      · exact absurd ht h2
    · exact h1
  · rcases h.2 with h1 | h1
    · exact absurd ht h1
    · exact h1 (id, s) (AMap.mem_of_get hg)

theorem conforming_of_B {st : St} {e : Entry} (h : conformingB st e = true) : Conforming st e := by
  unfold conformingB at h
  intro ht s m hs hsv _
  simp only [ht, beq_self_eq_true, Bool.not_true, Bool.false_or, hs, Bool.not_eq_true'] at h
  rw [h] at hsv
  cases hsv

theorem wf_of_check {b : St → List Entry → Bool}
    (hb : ∀ {st e es}, b st (e :: es) = true →
      (EntryOk st e ∧ Conforming st e) ∧ ∀ st' out, applyEntry st e = .ok (st', out) → b st' es = true)
    {st : St} {es : List Entry} (h : b st es = true) : WfHistory st es :=
  wfHistory_iff.2 (along_of_check hb h)

end Robust.Irc
