import Robust.Irc.Proofs.FlagOriginBase
import Robust.Irc.Proofs.Along
import Robust.Irc.Proofs.StableEntry
/-!
The flag-origin relation `Flg` (`FlagOriginBase.lean`) through the command table, one committed entry and histories:

* `handler_flg`: every handler of `handlerByName` (`handler_stable`, `StableTable.lean`; PASS apart, `cmdPass_flg`)
  keeps `Flg O S`, where the permission `O sid` is needed only under `OperVia` and `S sid` only under
  `ServerVia`;
* the call of the handler that a command selects (`call_flg`) and `processMessage` (`processMessage_flg`), with the origin
  phrased on the *line* (`operByOper`, `operByLogin`, `serverBySERVER`);
* one committed entry, per entry type: `applyEntry_flags`;
* histories (`run_oper_origin`, `run_server_origin`): a session that is an IRC operator (a services link) after a
  history was one before it under the same id, or the history contains a client line of that session with one of
  the origins, evaluated on the state (stored session, configuration) reached just before that line.  Only
  `SessWf st` (sessions stored under their own id, no duplicate keys; `GInv.sessWf`) is needed of the start
  state, and nothing of the entries.
-/
namespace Robust.Irc
open Robust AMap

theorem Flg.special {O S : Id → Prop} {st0 : St} {fname : String} {c : Ctx} {sid : Id} {m : IrcMsg}
    (hp : fname ≠ "cmdPass") (h : Flg O S st0 c.st) (hO : OperVia fname c.st sid m → O sid)
    (hS : ServerVia fname c.st sid → S sid) : Special (Flg O S st0) fname c sid m where
  gline _ := fun _ h => h.congr rfl rfl rfl
  chanAny _ := Flg.chanAny O S st0
  join _ := Flg.newChan O S st0
  nick _ _ c0 _ :=
    (Flg.stable O S st0).nickUpd (Flg.chanAny O S st0) (Flg.upd sid fun _ => ⟨rfl, rfl, rfl⟩) (Flg.upd sid fun _ => ⟨rfl, rfl, rfl⟩) c0
  svsnick _ tid _ :=
    (Flg.stable O S st0).nickUpd (Flg.chanAny O S st0) (Flg.upd tid fun _ => ⟨rfl, rfl, rfl⟩) (Flg.upd tid fun _ => ⟨rfl, rfl, rfl⟩) c
  login e := Flg.operAtLogin fun s hs hli hc => hO (Or.inr ⟨s, hs, hli, Or.inl ⟨e, hc⟩⟩)
  oper e hc := Flg.upd_oper (hO (Or.inl ⟨e, hc⟩))
  pass e := absurd e hp
  user _ _ _ := Flg.upd sid fun _ => ⟨rfl, rfl, rfl⟩
  server e s p0 hs hc := Flg.upd_server (hS ⟨s, hs, e, hc⟩) p0
  serverNick _ := fun _ _ hcs hm => Flg.serverNick h hcs hm fun _ => ⟨rfl, rfl, rfl⟩

/-- PASS stores the string whose `oper=` part `maybeLogin` reads: the session is stored under its own id,
so it is the new string that counts -/
theorem cmdPass_flg {O S : Id → Prop} {st0 : St} {c : Ctx} {sid : Id} {m : IrcMsg} (h : Flg O S st0 c.st)
    (hO : ∀ s, AMap.get c.st.sessions sid = some s → s.loggedIn = false →
      loginOperCreds c.st.config (passAfter m s.pass) = true → O sid) :
    (cmdPass c sid m).Sat fun c' => Flg O S st0 c'.st := by
  unfold cmdPass
  refine .bind fun c1 h1 => maybeLogin_stable (Flg.stable O S st0) (Flg.operAtLogin ?_)
    ((Flg.stable O S st0).of_modS h h1 fun _ => rfl)
  obtain ⟨t, ht, _⟩ := modS_eq_ok.1 h1
  intro s hs hli hc
  rw [modS_get_self ht (h.wf.ids sid t ht) h1] at hs; cases hs
  rw [(modS_frame h1).2.1] at hc
  exact hO t ht hli hc

theorem handler_flg {fname : String} {h : Handler} (hh : handlerByName fname = some h)
    {O S : Id → Prop} {st0 : St} {c c' : Ctx} {sid : Id} {m : IrcMsg} (hf : Flg O S st0 c.st)
    (hO : OperVia fname c.st sid m → O sid) (hS : ServerVia fname c.st sid → S sid)
    (hr : h c sid m = .ok c') : Flg O S st0 c'.st := by
  by_cases hp : fname = "cmdPass"
  · subst hp
    cases (Option.some.inj hh : cmdPass = h)
    exact (cmdPass_flg hf fun s hs hli hc => hO (Or.inr ⟨s, hs, hli, Or.inr ⟨rfl, hc⟩⟩)).apply hr
  · exact (handler_stable (Flg.stable O S st0) hh (Flg.special hp hf hO hS) hf).apply hr

/-- `OPER <name> <password>` typed by a registered client session, the pair being listed in `cfg` -/
def operByOper (cfg : Config) (s : Session) (m : IrcMsg) : Bool :=
  !s.server && s.loggedIn && toUpper m.command == "OPER" && operCreds cfg m

/-- the line that completes the registration of a client session (`NICK`, `USER` or `PASS`; `maybeLogin`
then runs an automatic `OPER`) whose PASS string — the stored one, or for `PASS` the one this line
stores — has an `oper=<name> <password>` part with a pair listed in `cfg` -/
def operByLogin (cfg : Config) (s : Session) (m : IrcMsg) : Bool :=
  !s.server && !s.loggedIn &&
    (((toUpper m.command == "NICK" || toUpper m.command == "USER") && loginOperCreds cfg s.pass) ||
     (toUpper m.command == "PASS" && loginOperCreds cfg (passAfter m s.pass)))

/-- `SERVER …` typed by a client session whose stored PASS string is `services=<password>` for a
services password configured in `cfg` -/
def serverBySERVER (cfg : Config) (s : Session) (m : IrcMsg) : Bool :=
  !s.server && toUpper m.command == "SERVER" && servicesAuth cfg s.pass

/-- the handler that the key selects for `s`, behind the gate, sets a flag only under its condition -/
theorem call_flg {O S : Id → Prop} {c c' : Ctx} {sid : Id} {s : Session} {m : IrcMsg} {fname : String} {mp : Nat}
    {h : Handler} (hw : SessWf c.st) (hs : AMap.get c.st.sessions sid = some s) (hgate : GateOK s (toUpper m.command))
    (hO : operByOper c.st.config s m = true ∨ operByLogin c.st.config s m = true → O sid)
    (hS : serverBySERVER c.st.config s m = true → S sid)
    (hl : lookupCommand ((if s.server then "server_" else "") ++ toUpper m.command) = some (fname, mp))
    (hh : handlerByName fname = some h) (hr : h c s.id m = .ok c') : Flg O S c.st c'.st := by
  rw [hw.ids sid s hs] at hr
  have k := registered_key hl
  refine handler_flg hh (Flg.refl hw) (fun hv => hO ?_) (fun hv => hS ?_) hr
  · rcases hv with ⟨hf, hc⟩ | ⟨s', hs', hli, ⟨hf, hc⟩ | ⟨hf, hc⟩⟩
    · obtain ⟨hsv, hk⟩ := client_key (by decide) (k.oper hf)
      refine Or.inl ?_
      unfold operByOper
      rw [hsv, hgate.loggedIn hsv (by rw [hk]; decide), hk, hc]; rfl
    · cases hs.symm.trans hs'
      refine Or.inr ?_
      unfold operByLogin
      rcases hf with hf | hf
      · obtain ⟨hsv, hk⟩ := client_key (by decide) (k.nick hf)
        rw [hsv, hli, hk, hc]; rfl
      · obtain ⟨hsv, hk⟩ := client_key (by decide) (k.user hf).1
        rw [hsv, hli, hk, hc]; rfl
    · cases hs.symm.trans hs'
      refine Or.inr ?_
      unfold operByLogin
      obtain ⟨hsv, hk⟩ := client_key (by decide) (k.pass hf)
      rw [hsv, hli, hk, hc]; rfl
  · obtain ⟨s', hs', hf, hc⟩ := hv
    cases hs.symm.trans hs'
    obtain ⟨hsv, hk⟩ := client_key (by decide) (k.server hf).1
    unfold serverBySERVER
    rw [hsv, hk, hc]; rfl

/-- `ProcessMessage`: the acting session may gain the operator flag only under `operByOper` /
`operByLogin`, the `server` flag only under `serverBySERVER` (session and configuration as stored
when `ProcessMessage` starts); no other session gains a flag -/
theorem processMessage_flg {O S : Id → Prop} {c : Ctx} {e : Entry} {im : Option IrcMsg} (hw : SessWf c.st)
    (hO : ∀ m s, im = some m → AMap.get c.st.sessions e.session = some s →
      operByOper c.st.config s m = true ∨ operByLogin c.st.config s m = true → O e.session)
    (hS : ∀ m s, im = some m → AMap.get c.st.sessions e.session = some s →
      serverBySERVER c.st.config s m = true → S e.session) :
    (processMessage c e im).Sat fun c' => Flg O S c.st c'.st := by
  refine fun c' hr => processMessage_keeps (.stable (Flg.stable O S c.st)) (Flg.refl hw) (fun _ _ => .of_not id)
    (fun _ f => f) (fun him k f1 => ?_) hr
  obtain ⟨a, rfl, _, _, hcfg⟩ := k.actor_eq (hw.ids _ _ k.stored)
  refine f1.trans (call_flg f1.wf k.actor k.gate (fun hv => ?_) (fun hv => ?_) k.row k.handler k.ret)
  · rw [hcfg] at hv
    exact hO _ _ him k.stored hv
  · rw [hcfg] at hv
    exact hS _ _ him k.stored hv

/-- the origin of an operator flag through the entry `e` applied to `st` -/
def OperEntry (st : St) (e : Entry) (sid : Id) : Prop :=
  e.type = 2 ∧ e.session = sid ∧ ∃ s m, AMap.get st.sessions sid = some s ∧ parseMessage e.data = some m ∧
    (operByOper st.config s m = true ∨ operByLogin st.config s m = true)

/-- the origin of a `server` flag through the entry `e` applied to `st` -/
def ServerEntry (st : St) (e : Entry) (sid : Id) : Prop :=
  e.type = 2 ∧ e.session = sid ∧ ∃ s m, AMap.get st.sessions sid = some s ∧ parseMessage e.data = some m ∧
    serverBySERVER st.config s m = true

/-- the session part of `Flg`, between the states before and after an entry (a Config entry
replaces the credential lists, so the configuration part of `Flg` is not kept by entries) -/
structure FlagStep (st st' : St) (e : Entry) : Prop where
  wf : SessWf st'
  oper : ∀ id s', AMap.get st'.sessions id = some s' → s'.operator = true →
    (∃ s, AMap.get st.sessions id = some s ∧ s.operator = true) ∨ OperEntry st e id
  server : ∀ id s', AMap.get st'.sessions id = some s' → s'.server = true →
    (∃ s, AMap.get st.sessions id = some s ∧ s.server = true) ∨ ServerEntry st e id

theorem FlagStep.of_back {st st' : St} {e : Entry} (hw : SessWf st')
    (back : ∀ id s', AMap.get st'.sessions id = some s' →
      ∃ s, AMap.get st.sessions id = some s ∧ s'.operator = s.operator ∧ s'.server = s.server) : FlagStep st st' e :=
  ⟨hw, fun id s' hg ho => let ⟨s, hs, e1, _⟩ := back id s' hg; Or.inl ⟨s, hs, e1 ▸ ho⟩,
    fun id s' hg ho => let ⟨s, hs, _, e1⟩ := back id s' hg; Or.inl ⟨s, hs, e1 ▸ ho⟩⟩

theorem FlagStep.of_flg {st st' : St} {e : Entry} (f : Flg (OperEntry st e) (ServerEntry st e) st st') :
    FlagStep st st' e :=
  ⟨f.wf, f.oper, f.server⟩

theorem FlagStep.finish {st st1 st2 : St} {e : Entry} (x : Id)
    (back : ∀ id s1, AMap.get st1.sessions id = some s1 →
      ∃ s, AMap.get st.sessions id = some s ∧ s1.operator = s.operator ∧ s1.server = s.server)
    (f : Flg (OperEntry st e) (ServerEntry st e) st1 st2) :
    FlagStep st (maybeDeleteSession { st2 with lastProcessed := x } e.session) e := by
  refine ⟨f.wf.maybeDeleteSession _ _, fun id s' hg ho => ?_, fun id s' hg ho => ?_⟩
  · refine (f.oper id s' (finish_sub f.wf.nodup hg) ho).imp_left fun ⟨s1, hs1, ho1⟩ => ?_
    obtain ⟨s, hs, e1, _⟩ := back id s1 hs1
    exact ⟨s, hs, e1 ▸ ho1⟩
  · refine (f.server id s' (finish_sub f.wf.nodup hg) ho).imp_left fun ⟨s1, hs1, ho1⟩ => ?_
    obtain ⟨s, hs, _, e1⟩ := back id s1 hs1
    exact ⟨s, hs, e1 ▸ ho1⟩

theorem quit_not_origin {cfg : Config} {s : Session} {m : IrcMsg} (hq : toUpper m.command = "QUIT") :
    operByOper cfg s m = false ∧ operByLogin cfg s m = false ∧ serverBySERVER cfg s m = false := by
  unfold operByOper operByLogin serverBySERVER
  rw [hq]
  have h1 : ("QUIT" == "OPER") = false := by decide
  have h2 : ("QUIT" == "NICK") = false := by decide
  have h3 : ("QUIT" == "USER") = false := by decide
  have h4 : ("QUIT" == "PASS") = false := by decide
  have h5 : ("QUIT" == "SERVER") = false := by decide
  rw [h1, h2, h3, h4, h5]
  simp

/-- one committed entry, whatever its type: a flag set afterwards was set before under the same id,
or the entry is a client line of that session with one of the three origins.  (No hypothesis on the
entry is needed: `EntryOk` is not used.) -/
theorem applyEntry_flags {st st' : St} {e : Entry} {out : List Out} (hw : SessWf st)
    (hr : applyEntry st e = .ok (st', out)) : FlagStep st st' e := by
  have same : FlagStep st st e := .of_back hw fun _ s hs => ⟨s, hs, rfl, rfl⟩
  cases applyEntry_run hr with
  | skip => exact same
  | death _ hu =>
    obtain ⟨_, _, u⟩ := updateLast_run hu
    exact .of_back (hw.updateLast hu) fun id s1 hs1 =>
      let ⟨s, hs, e0⟩ := u.back hs1; ⟨s, hs, e0.operator, e0.server⟩
  | create _ hcs =>
    rw [createSession_eq hcs]
    exact .of_flg (Flg.newSession (k := ⟨e.id, 0⟩)
      (v := { id := ⟨e.id, 0⟩, auth := e.data, created := e.timestamp, lastActivity := e.timestamp,
              lastNonPing := e.timestamp, svid := "0" }) (Flg.refl hw) rfl rfl rfl rfl rfl rfl)
  | delete _ _ hpm =>
    refine .finish _ (fun _ s hs => ⟨s, hs, rfl, rfl⟩) ((processMessage_flg hw ?_ ?_).apply hpm)
    · intro m s1 hm _ hv
      obtain ⟨q1, q2, _⟩ := quit_not_origin (cfg := st.config) (s := s1) (parseMessage_quit _ hm).2
      rw [q1, q2] at hv
      exact absurd hv (by decide)
    · intro m s1 hm _ hv
      rw [(quit_not_origin (cfg := st.config) (s := s1) (parseMessage_quit _ hm).2).2.2] at hv
      cases hv
  | @client st1 _ h2 hu hpm =>
    obtain ⟨_, _, u⟩ := updateLast_run hu
    refine .finish _ (fun id s1 hs1 =>
        let ⟨s, hs, e0⟩ := u.back hs1; ⟨s, hs, e0.operator, e0.server⟩)
      ((processMessage_flg (hw.updateLast hu) ?_ ?_).apply hpm)
    · intro m s1 hm hs1 hv
      obtain ⟨s, hs, e0⟩ := u.back hs1
      refine ⟨h2, rfl, s, m, hs, hm, ?_⟩
      have hv' : operByOper st1.config s1 m = true ∨ operByLogin st1.config s1 m = true := hv
      unfold operByOper operByLogin at hv' ⊢
      rw [u.config, e0.server, e0.loggedIn, e0.pass] at hv'
      exact hv'
    · intro m s1 hm hs1 hv
      obtain ⟨s, hs, e0⟩ := u.back hs1
      refine ⟨h2, rfl, s, m, hs, hm, ?_⟩
      have hv' : serverBySERVER st1.config s1 m = true := hv
      unfold serverBySERVER at hv' ⊢
      rw [u.config, e0.server, e0.pass] at hv'
      exact hv'
  | config => exact .of_back (hw.congr rfl) fun _ s hs => ⟨s, hs, rfl, rfl⟩

theorem operCreds_iff {cfg : Config} {m : IrcMsg} :
    operCreds cfg m = true ↔
      ∃ name password, m.params[0]? = some name ∧ m.params[1]? = some password ∧ operListed cfg name password = true := by
  unfold operCreds
  constructor
  · intro h
    split at h
    · rename_i name pw h0 h1; exact ⟨name, pw, h0, h1, h⟩
    · cases h
  · rintro ⟨name, pw, h0, h1, h2⟩
    rw [h0, h1]; exact h2

theorem operByOper_iff {cfg : Config} {s : Session} {m : IrcMsg} :
    operByOper cfg s m = true ↔ s.server = false ∧ s.loggedIn = true ∧ toUpper m.command = "OPER" ∧
      ∃ name password, m.params[0]? = some name ∧ m.params[1]? = some password ∧ operListed cfg name password = true := by
  unfold operByOper
  simp only [Bool.and_eq_true, Bool.not_eq_true', beq_iff_eq, operCreds_iff, and_assoc]

theorem loginOperCreds_iff {cfg : Config} {pass : String} :
    loginOperCreds cfg pass = true ↔
      ∃ parsed, parseMessage ("OPER " ++ extractPassword pass "oper") = some parsed ∧ operCreds cfg parsed = true := by
  unfold loginOperCreds
  constructor
  · intro h
    split at h
    · rename_i parsed hp; exact ⟨parsed, hp, h⟩
    · cases h
  · rintro ⟨parsed, hp, h⟩
    rw [hp]; exact h

theorem operByLogin_iff {cfg : Config} {s : Session} {m : IrcMsg} :
    operByLogin cfg s m = true ↔ s.server = false ∧ s.loggedIn = false ∧
      (((toUpper m.command = "NICK" ∨ toUpper m.command = "USER") ∧ loginOperCreds cfg s.pass = true) ∨
       (toUpper m.command = "PASS" ∧ loginOperCreds cfg (passAfter m s.pass) = true)) := by
  unfold operByLogin
  simp only [Bool.and_eq_true, Bool.or_eq_true, Bool.not_eq_true', beq_iff_eq, and_assoc]

theorem serverBySERVER_iff {cfg : Config} {s : Session} {m : IrcMsg} :
    serverBySERVER cfg s m = true ↔ s.server = false ∧ toUpper m.command = "SERVER" ∧ servicesAuth cfg s.pass = true := by
  unfold serverBySERVER
  simp only [Bool.and_eq_true, Bool.not_eq_true', beq_iff_eq, and_assoc]

/-- the history splits at a client line of `sid` that has an operator origin on the state `mid`
reached before it -/
def OperHist (st : St) (es : List Entry) (sid : Id) : Prop := SplitsAt (OperEntry · · sid) st es

def ServerHist (st : St) (es : List Entry) (sid : Id) : Prop := SplitsAt (ServerEntry · · sid) st es

theorem SessWf.applyEntry {st st' : St} {e : Entry} {out : List Out} (hw : SessWf st)
    (he : (e.type = 1 ∨ e.type = 2) → e.session.reply = 0)
    (hr : applyEntry st e = .ok (st', out)) : SessWf st' :=
  (applyEntry_flags hw hr).wf

theorem run_flag_sessWf {st st' : St} {es : List Entry} (hw : SessWf st)
    (hr : runEntries st es = .ok st') : SessWf st' :=
  run_invariant (I := fun st _ => SessWf st) (fun hw hap => (applyEntry_flags hw hap).wf) hw hr

theorem run_oper_origin {st st' : St} {es : List Entry} (hw : SessWf st) (hr : runEntries st es = .ok st')
    {sid : Id} {s' : Session} (hs' : AMap.get st'.sessions sid = some s') (hop : s'.operator = true) :
    (∃ s, AMap.get st.sessions sid = some s ∧ s.operator = true) ∨ OperHist st es sid :=
  run_origin (F := fun st => ∃ s, AMap.get st.sessions sid = some s ∧ s.operator = true)
    (fun hw hap => (applyEntry_flags hw hap).wf)
    (fun hw hap ⟨s1, hs1, ho1⟩ => (applyEntry_flags hw hap).oper sid s1 hs1 ho1) hw hr ⟨s', hs', hop⟩

theorem run_server_origin {st st' : St} {es : List Entry} (hw : SessWf st) (hr : runEntries st es = .ok st')
    {sid : Id} {s' : Session} (hs' : AMap.get st'.sessions sid = some s') (hsv : s'.server = true) :
    (∃ s, AMap.get st.sessions sid = some s ∧ s.server = true) ∨ ServerHist st es sid :=
  run_origin (F := fun st => ∃ s, AMap.get st.sessions sid = some s ∧ s.server = true)
    (fun hw hap => (applyEntry_flags hw hap).wf)
    (fun hw hap ⟨s1, hs1, ho1⟩ => (applyEntry_flags hw hap).server sid s1 hs1 ho1) hw hr ⟨s', hs', hsv⟩

end Robust.Irc
