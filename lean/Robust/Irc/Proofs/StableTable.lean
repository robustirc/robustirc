import Robust.Irc.Proofs.KeepsTable
/-!
Every handler of the command table keeps a `Stable` predicate `P` (`Stable.lean`), given that `P` survives the updates
of the handlers made for a field (`Special`, one field per such update; 28 of the 41 rows need nothing beyond
`Stable P`): `handler_stable` is the table `handler_keeps` (`KeepsTable.lean`) at `HLogic.stable hP`, where
`Special.logic` puts the assumptions in the form the walks ask for.

Before it stand the statements for single handlers, with the update in the terms of `Stable.lean` (`Upd`,
`NewChan`, `ChanAny`): MODE, OPER, the login, USER, PASS, JOIN (other modules use these for one handler at a time);
and the services' NICK walked for a predicate of the state that need not be stable
(`cmdServerNick_stable`: the session limit is counted without `SessWf`), which it keeps if the predicate survives
the new session (the pseudo-client) and does not read the index.
-/
namespace Robust.Irc
open Robust AMap

/-- `P` survives the OPER that `maybeLogin` runs for `sid` at `c`, if it runs one that is granted: the
session registers now (it was not logged in) and the `oper=` part of the PASS string stored at that
moment carries a listed pair -/
def OperAtLogin (P : St → Prop) (sid : Id) (c : Ctx) : Prop :=
  ∀ s, AMap.get c.st.sessions sid = some s → s.loggedIn = false →
    loginOperCreds c.st.config s.pass = true → Upd P sid operSession

theorem OperAtLogin.upd {P : St → Prop} {sid : Id} {c : Ctx} (h : OperAtLogin P sid c) :
    OperLogin sid c → Upd P sid operSession := fun ⟨s, hs, hli, hcr⟩ => h s hs hli hcr

variable {P : St → Prop} (hP : Stable P)
include hP

theorem cmdMode_stable (hA : ChanAny P) {c : Ctx} {sid : Id} {m : IrcMsg} (h : P c.st) : (cmdMode c sid m).Sat fun c' => P c'.st :=
  cmdMode_keeps (.stable hP) (fun _ _ => hA.setsMembers) h (.of_not id)

/-! ### login, OPER, USER, PASS

OPER turns on the actor's operator flag; it is reached directly, and from NICK, USER and PASS when they
complete the registration of a session whose PASS string has an `oper=` part.  Closure under that
update (`operSession`) is asked for only where the pair is a listed one. -/

theorem cmdOper_stable {c : Ctx} {sid : Id} {m : IrcMsg}
    (hop : operCreds c.st.config m = true → Upd P sid operSession) (h : P c.st) :
    (cmdOper c sid m).Sat fun c' => P c'.st :=
  cmdOper_keeps (.stable hP) hop h

theorem maybeLogin_stable {c : Ctx} {sid : Id} {m : IrcMsg} (hop : OperAtLogin P sid c) (h : P c.st) :
    (maybeLogin c sid m).Sat fun c' => P c'.st :=
  maybeLogin_keeps (.stable hP) hop.upd h

theorem cmdUser_stable {c : Ctx} {sid : Id} {m : IrcMsg}
    (hu : ∀ u, m.params[0]? = some u →
      Upd P sid fun s => updateIrcPrefix { s with username := truncateUsername u, realname := m.trailing })
    (hop : OperAtLogin P sid c) (h : P c.st) : (cmdUser c sid m).Sat fun c' => P c'.st :=
  cmdUser_keeps (.stable hP) hu hop.upd h

/-- PASS stores the string the automatic OPER will read: what it grants depends on the new string -/
theorem cmdPass_stable {c : Ctx} {sid : Id} {m : IrcMsg} (hop : Upd P sid operSession) (h : P c.st) :
    (cmdPass c sid m).Sat fun c' => P c'.st :=
  cmdPass_keeps (.stable hP) hop h (.of_not id)

theorem cmdJoin_stable {c : Ctx} {sid : Id} {m : IrcMsg} (hA : ChanAny P) (hnew : NewChan P) (h : P c.st) :
    (cmdJoin c sid m).Sat fun c' => P c'.st :=
  cmdJoin_keeps (.stable hP) hA.setsMembers (hnew.addsChan hP) h (.of_not id)

variable {c : Ctx} {sid : Id} {m : IrcMsg}

omit hP

/-- the new session is stored under `⟨link id, fnv64 nick⟩`, which is not a stored id; the link itself
is stored under `sid` with `sid.reply = 0`, so `fnv64 nick ≠ 0`: the new session is not a client's -/
theorem pseudoClient_reply_ne {st : St} {sid : Id} {s : Session} {n : Nat} (h0 : sid.reply = 0)
    (hs : AMap.get st.sessions sid = some s) (hsid : s.id = sid)
    (hnone : AMap.get st.sessions ⟨s.id.id, n⟩ = none) : (⟨s.id.id, n⟩ : Id).reply ≠ 0 := by
  intro hz
  have e : (⟨s.id.id, n⟩ : Id) = sid := by
    rw [hsid]
    cases sid with
    | mk a b =>
      simp only at h0 hz
      rw [hz, h0]
  rw [e, hs] at hnone; cases hnone

/-- for any `P`, stable or not: everything before the new session is stored is output; what storing it does to `P` is
`hnew`'s to say:
the new id `⟨link id, fnv64 nick⟩` is not stored, `createSession` has admitted it (the session limit), the
blank session is filled in at once and indexed under its nick -/
theorem cmdServerNick_stable {c : Ctx} {sid : Id} {m : IrcMsg}
    (hnew : ∀ {s : Session} {p0 p3 : String} {st1 : St} {c2 : Ctx}, AMap.get c.st.sessions sid = some s →
      AMap.get c.st.sessions ⟨s.id.id, fnv64 p0⟩ = none →
      createSession c.st ⟨s.id.id, fnv64 p0⟩ "" s.lastActivity = some st1 →
      modS { c with st := st1 } ⟨s.id.id, fnv64 p0⟩
        (fun ss => updateIrcPrefix { ss with nick := p0, username := truncateUsername p3, realname := m.trailing }) =
          .ok c2 → P c2.st)
    (hn : ∀ {st : St} (n : AMap String Id), P st → P { st with nicks := n }) (h : P c.st) :
    (cmdServerNick c sid m).Sat fun c' => P c'.st := by
  unfold cmdServerNick
  refine .andThen (getS_sat c sid) fun s hs => .ite (fun _ => .pure h) fun _ => .bind fun p0 _ => ?_
  refine .ite (fun _ => .pure h) fun _ => .ite (fun _ => .pure h) fun _ => ?_
  dsimp only
  refine .ite (fun _ => .pure h) fun hcont => ?_
  have hnone : AMap.get c.st.sessions ⟨s.id.id, fnv64 p0⟩ = none :=
    AMap.contains_eq_false_iff.1 (by simpa using hcont)
  cases hcs : createSession c.st ⟨s.id.id, fnv64 p0⟩ "" s.lastActivity with
  | none => exact .pure h
  | some st1 => exact .bind fun p3 _ => .bind fun c2 hm => .pure (hn _ (hnew hs hnone hcs hm))

/-- what the handler registered as `fname`, run for `sid` at `c` with `m`, needs of `P` beyond stability:
closure under the update made for a field (MODE, JOIN and the services' MODE, JOIN and SVSJOIN share `chanAny`, the
three JOINs `join`; NICK and USER share `login`) -/
structure Special (P : St → Prop) (fname : String) (c : Ctx) (sid : Id) (m : IrcMsg) : Prop where
  /-- GLINE adds a ban to the configuration -/
  gline : fname = "cmdGline" → ∀ {st : St} (b : AMap String String), P st →
    P { st with config := { st.config with banned := b } }
  /-- MODE and JOIN (of a client, of the services) can set a chanop flag -/
  chanAny : fname = "cmdMode" ∨ fname = "cmdJoin" ∨ fname = "cmdServerMode" ∨ fname = "cmdServerJoin" ∨
    fname = "cmdServerSvsjoin" → ChanAny P
  /-- JOIN, and the services' JOIN and SVSJOIN, create channels below the limit -/
  join : fname = "cmdJoin" ∨ fname = "cmdServerJoin" ∨ fname = "cmdServerSvsjoin" → NewChan P
  nick : fname = "cmdNick" → ∀ n (c0 : Ctx), c0.st.sessions = c.st.sessions → NickUpd P sid n c0
  svsnick : fname = "cmdServerSvsnick" → ∀ tid n, NickUpd P tid n c
  /-- NICK and USER may complete the registration, which may run OPER -/
  login : fname = "cmdNick" ∨ fname = "cmdUser" → OperAtLogin P sid c
  oper : fname = "cmdOper" → operCreds c.st.config m = true → Upd P sid operSession
  pass : fname = "cmdPass" → Upd P sid operSession
  user : fname = "cmdUser" → ∀ u, m.params[0]? = some u →
    Upd P sid fun s => updateIrcPrefix { s with username := truncateUsername u, realname := m.trailing }
  server : fname = "cmdServer" → ∀ s p0, AMap.get c.st.sessions sid = some s →
    servicesAuth c.st.config s.pass = true → Upd P sid fun s => { s with server := true, ircPrefix := ⟨p0, "", ""⟩ }
  /-- the services' NICK stores a new session -/
  serverNick : fname = "cmdServerNick" → ∀ {s : Session} {p0 p3 : String} {st1 : St} {c2 : Ctx},
    AMap.get c.st.sessions sid = some s → AMap.get c.st.sessions ⟨s.id.id, fnv64 p0⟩ = none →
    createSession c.st ⟨s.id.id, fnv64 p0⟩ "" s.lastActivity = some st1 →
    modS { c with st := st1 } ⟨s.id.id, fnv64 p0⟩
      (fun ss => updateIrcPrefix { ss with nick := p0, username := truncateUsername p3, realname := m.trailing }) =
        .ok c2 → P c2.st

/-- for a `P` that reads of a session at most its id and marker -/
theorem Special.of_keeps {P : St → Prop} (hP : Stable P) (hA : ChanAny P) {fname : String} {c : Ctx} {sid : Id} {m : IrcMsg}
    (hk : ∀ tid {f : Session → Session}, MkKeep f → Upd P tid f)
    (gline : fname = "cmdGline" → ∀ {st : St} (b : AMap String String), P st →
      P { st with config := { st.config with banned := b } })
    (join : fname = "cmdJoin" ∨ fname = "cmdServerJoin" ∨ fname = "cmdServerSvsjoin" → NewChan P)
    (serverNick : fname = "cmdServerNick" → ∀ {s : Session} {p0 p3 : String} {st1 : St} {c2 : Ctx},
      AMap.get c.st.sessions sid = some s → AMap.get c.st.sessions ⟨s.id.id, fnv64 p0⟩ = none →
      createSession c.st ⟨s.id.id, fnv64 p0⟩ "" s.lastActivity = some st1 →
      modS { c with st := st1 } ⟨s.id.id, fnv64 p0⟩
        (fun ss => updateIrcPrefix { ss with nick := p0, username := truncateUsername p3, realname := m.trailing }) =
          .ok c2 → P c2.st) :
    Special P fname c sid m where
  gline := gline
  chanAny _ := hA
  join := join
  nick _ _ c0 _ := hP.nickUpd hA (hk sid fun _ => ⟨rfl, rfl⟩) (hk sid fun _ => ⟨rfl, rfl⟩) c0
  svsnick _ tid _ := hP.nickUpd hA (hk tid fun _ => ⟨rfl, rfl⟩) (hk tid fun _ => ⟨rfl, rfl⟩) c
  login _ _ _ _ _ := hk sid fun _ => ⟨rfl, rfl⟩
  oper _ _ := hk sid fun _ => ⟨rfl, rfl⟩
  pass _ := hk sid fun _ => ⟨rfl, rfl⟩
  user _ _ _ := hk sid fun _ => ⟨rfl, rfl⟩
  server _ _ _ _ _ := hk sid fun _ => ⟨rfl, rfl⟩
  serverNick := serverNick

/-- for a `P` that reads the channels only, and a handler that does not write a member map (MODE, JOIN, NICK and the
services' MODE, JOIN, SVSJOIN, SVSNICK do) -/
theorem Special.of_channels {P : St → Prop} (hc : ∀ {st st' : St}, st'.channels = st.channels → P st → P st')
    {fname : String} {c : Ctx} {sid : Id} {m : IrcMsg}
    (hsafe : fname ≠ "cmdMode" ∧ fname ≠ "cmdJoin" ∧ fname ≠ "cmdNick" ∧ fname ≠ "cmdServerMode" ∧
      fname ≠ "cmdServerJoin" ∧ fname ≠ "cmdServerSvsjoin" ∧ fname ≠ "cmdServerSvsnick") (h : P c.st) :
    Special P fname c sid m := by
  obtain ⟨h1, h2, h3, h4, h5, h6, h7⟩ := hsafe
  have upd : ∀ tid f, Upd P tid f := fun tid f _ h =>
    (modS_sat _ tid f).mono fun _ ⟨_, _, e⟩ => hc (by rw [e]; rfl) h
  exact {
    gline := fun _ {st} _ h => hc (st := st) rfl h
    chanAny := fun e => e.elim (absurd · h1) fun e => e.elim (absurd · h2) fun e => e.elim (absurd · h4) fun e =>
      e.elim (absurd · h5) (absurd · h6)
    join := fun e => e.elim (absurd · h2) fun e => e.elim (absurd · h5) (absurd · h6)
    nick := fun e => absurd e h3
    svsnick := fun e => absurd e h7
    login := fun _ _ _ _ _ => upd _ _
    oper := fun _ _ => upd _ _
    pass := fun _ => upd _ _
    user := fun _ _ _ => upd _ _
    server := fun _ _ _ _ _ => upd _ _
    -- the new session is stored by `createSession` and filled in by `modS`: the channels stay
    serverNick := fun _ _ _ _ _ _ _ _ hcs hm => hc (by
      rw [(modS_frame hm).1]
      show _ = c.st.channels
      rw [createSession_eq hcs]) h }

theorem Special.logic {P : St → Prop} (hP : Stable P) {fname : String} {c : Ctx} {sid : Id} {m : IrcMsg}
    (hs : Special P fname c sid m) (hp : P c.st) : (HLogic.stable hP).Special fname c sid m where
  «alias» _ := nofun
  privmsg _ := nofun
  pfx _ := nofun
  svcCmd _ := nofun
  gline e := fun h _ => hs.gline e _ h
  members e := (hs.chanAny e).setsMembers
  addsChan e := NewChan.addsChan hP (hs.join e)
  nick e n c0 e0 := (hs.nick e n c0 e0).logic hP
  svsnick e tid n := (hs.svsnick e tid n).logic hP
  login e := (hs.login e).upd
  oper := hs.oper
  pass := hs.pass
  user := hs.user
  server e := fun h1 hyes _ _ => hs.server e _ _ h1 hyes hp
  serverNick e := fun h1 _ _ _ hn hcs hm => hs.serverNick e h1 hn hcs hm

theorem handler_stable {P : St → Prop} (hP : Stable P) {fname : String} {h : Handler}
    (hh : handlerByName fname = some h) {c : Ctx} {sid : Id} {m : IrcMsg} (hs : Special P fname c sid m)
    (hp : P c.st) : (h c sid m).Sat fun c' => P c'.st :=
  handler_keeps (.stable hP) hh (hs.logic hP hp) hp (.of_not id)

end Robust.Irc
