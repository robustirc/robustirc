import Robust.Irc.Proofs.PermBase
/-!
Order-independence, part 2: association lists and the list primitives.

`MEq R m m'` is the working relation: both maps have duplicate-free keys and `get` agrees up
to `R`.  `MEq.toPermR` / `MEq.ofPermR` relate it to "a permutation of the entries up to `R`".
-/

namespace Robust.Irc
open Robust

def EntryRel {κ ν : Type} (R : ν → ν → Prop) (e e' : κ × ν) : Prop := e.1 = e'.1 ∧ R e.2 e'.2

structure MEq {κ ν : Type} [DecidableEq κ] (R : ν → ν → Prop) (m m' : AMap κ ν) : Prop where
  nd : (AMap.keys m).Nodup
  nd' : (AMap.keys m').Nodup
  rel : ∀ k, ORel R (AMap.get m k) (AMap.get m' k)

namespace MEq
variable {κ ν μ : Type} [DecidableEq κ] {R : ν → ν → Prop} {m m' m'' : AMap κ ν}

theorem refl (hR : ∀ a, R a a) (hn : (AMap.keys m).Nodup) : MEq R m m := ⟨hn, hn, fun _ => ORel.refl hR _⟩

theorem symm (hR : ∀ a b, R a b → R b a) (h : MEq R m m') : MEq R m' m :=
  ⟨h.nd', h.nd, fun k => (h.rel k).symm hR⟩

theorem trans (hR : ∀ a b c, R a b → R b c → R a c) (h : MEq R m m') (h' : MEq R m' m'') : MEq R m m'' :=
  ⟨h.nd, h'.nd', fun k => (h.rel k).trans hR (h'.rel k)⟩

theorem mono {S : ν → ν → Prop} (h : MEq R m m') (hRS : ∀ a b, R a b → S a b) : MEq S m m' :=
  ⟨h.nd, h.nd', fun k => (h.rel k).mono hRS⟩

theorem get_eq (h : MEq (fun a b => a = b) m m') (k : κ) : AMap.get m' k = AMap.get m k := (h.rel k).eq.symm

theorem contains_eq (h : MEq R m m') (k : κ) : AMap.contains m' k = AMap.contains m k := by
  unfold AMap.contains
  exact (h.rel k).isSome_eq.symm

theorem mem_keys_iff (h : MEq R m m') (k : κ) : k ∈ AMap.keys m ↔ k ∈ AMap.keys m' := by
  rw [← AMap.contains_iff_mem_keys, ← AMap.contains_iff_mem_keys, h.contains_eq]

theorem keys_perm (h : MEq R m m') : (AMap.keys m).Perm (AMap.keys m') :=
  (List.perm_ext_iff_of_nodup h.nd h.nd').2 h.mem_keys_iff

theorem length_eq (h : MEq R m m') : m'.length = m.length := by
  rw [← AMap.length_keys, ← AMap.length_keys m, h.keys_perm.length_eq]

theorem eq_nil_iff (h : MEq R m m') : m = [] ↔ m' = [] := by
  have := h.length_eq
  constructor
  · rintro rfl; simpa using this
  · rintro rfl; simpa using this.symm

theorem set (h : MEq R m m') (k : κ) {v v' : ν} (hv : R v v') : MEq R (AMap.set m k v) (AMap.set m' k v') := by
  refine ⟨AMap.nodup_keys_set k v h.nd, AMap.nodup_keys_set k v' h.nd', fun k' => ?_⟩
  rw [AMap.get_set, AMap.get_set]
  split
  · exact .ss hv
  · exact h.rel k'

theorem erase (h : MEq R m m') (k : κ) : MEq R (AMap.erase m k) (AMap.erase m' k) := by
  refine ⟨AMap.nodup_keys_erase k h.nd, AMap.nodup_keys_erase k h.nd', fun k' => ?_⟩
  rw [AMap.get_erase, AMap.get_erase]
  split
  · exact .nn
  · exact h.rel k'

theorem mapVal {S : μ → μ → Prop} (h : MEq R m m') {f f' : κ × ν → μ}
    (hf : ∀ k v v', R v v' → S (f (k, v)) (f' (k, v'))) :
    MEq S (m.map fun e => (e.1, f e)) (m'.map fun e => (e.1, f' e)) := by
  refine ⟨by rw [AMap.keys_map_val]; exact h.nd, by rw [AMap.keys_map_val]; exact h.nd', fun k => ?_⟩
  rw [AMap.get_map_val', AMap.get_map_val']
  exact (h.rel k).map (hf k)

theorem filter (h : MEq R m m') {p p' : κ × ν → Bool}
    (hp : ∀ k v v', AMap.get m k = some v → AMap.get m' k = some v' → R v v' → p (k, v) = p' (k, v')) :
    MEq R (m.filter p) (m'.filter p') := by
  refine ⟨AMap.nodup_keys_filter p h.nd, AMap.nodup_keys_filter p' h.nd', fun k => ?_⟩
  rw [AMap.get_filter' p h.nd, AMap.get_filter' p' h.nd']
  have hk := h.rel k
  generalize hg : AMap.get m k = o at hk
  generalize hg' : AMap.get m' k = o' at hk
  cases hk with
  | nn => exact .nn
  | ss hr =>
    simp only [Option.bind_some, hp k _ _ hg hg' hr]
    split
    · exact .ss hr
    · exact .nn

theorem perm_cons_erase {m : AMap κ ν} {k : κ} {v : ν} (hn : (AMap.keys m).Nodup) (h : (k, v) ∈ m) :
    m.Perm ((k, v) :: AMap.erase m k) := by
  induction m with
  | nil => cases h
  | cons e t ih =>
    simp only [AMap.keys_cons, List.nodup_cons] at hn
    rcases List.mem_cons.1 h with h1 | h1
    · subst h1
      rw [AMap.erase_cons, if_pos rfl, AMap.erase_eq_self hn.1]
    · have hne : e.1 ≠ k := by
        intro he
        exact hn.1 (he ▸ AMap.mem_keys_of_mem h1)
      rw [AMap.erase_cons, if_neg hne]
      exact ((ih hn.2 h1).cons e).trans (List.Perm.swap _ _ _)

theorem toPermR (h : MEq R m m') : PermR (EntryRel R) m m' := by
  induction m generalizing m' with
  | nil =>
    have : m' = [] := (h.eq_nil_iff).1 rfl
    subst this
    exact ⟨[], List.Perm.refl _, .nil⟩
  | cons e t ih =>
    obtain ⟨k, v⟩ := e
    have hn := h.nd
    simp only [AMap.keys_cons, List.nodup_cons] at hn
    have hk := h.rel k
    rw [AMap.get_cons_same] at hk
    obtain ⟨v', hg', hr⟩ := hk.of_some
    have hmem := AMap.mem_of_get hg'
    have hp := perm_cons_erase h.nd' hmem
    have ht : MEq R t (AMap.erase m' k) := by
      refine ⟨hn.2, AMap.nodup_keys_erase k h.nd', fun k' => ?_⟩
      rw [AMap.get_erase]
      split
      · rename_i hkk; subst hkk
        rw [AMap.get_eq_none_iff.2 hn.1]; exact .nn
      · rename_i hkk
        have := h.rel k'
        rw [AMap.get_cons_ne (fun e => hkk e.symm)] at this
        exact this
    obtain ⟨mid, hpm, ham⟩ := ih ht
    have h1 : All2 (EntryRel R) ((k, v) :: mid) ((k, v') :: AMap.erase m' k) := .cons ⟨rfl, hr⟩ ham
    obtain ⟨l', hp', ha'⟩ := h1.perm_right hp.symm
    exact ⟨l', (hpm.cons _).trans hp', ha'⟩

theorem ofPermR (h : PermR (EntryRel R) m m') (hn : (AMap.keys m).Nodup) : MEq R m m' := by
  have hkp : (AMap.keys m).Perm (AMap.keys m') :=
    (h.map (S := fun a b => a = b) (f := Prod.fst) (g := Prod.fst) fun a b hab => hab.1).perm
  have hn' : (AMap.keys m').Nodup := hkp.nodup_iff.1 hn
  refine ⟨hn, hn', fun k => ?_⟩
  cases hg : AMap.get m k with
  | none =>
    have : k ∉ AMap.keys m' := fun hk => AMap.get_eq_none_iff.1 hg (hkp.mem_iff.2 hk)
    rw [AMap.get_eq_none_iff.2 this]; exact .nn
  | some v =>
    obtain ⟨e', he', hk, hr⟩ := h.mem_left (AMap.mem_of_get hg)
    obtain ⟨k', v'⟩ := e'
    simp only at hk hr
    subst hk
    rw [AMap.get_of_mem_nodup hn' he']
    exact .ss hr

theorem perm (h : MEq (fun a b => a = b) m m') : m.Perm m' := by
  have := h.toPermR.mono (S := fun a b => a = b) (fun a b hab => Prod.ext hab.1 hab.2)
  exact this.perm

theorem ofPerm (h : m.Perm m') (hn : (AMap.keys m).Nodup) : MEq (fun a b => a = b) m m' :=
  ofPermR (PermR.of_perm (fun _ => ⟨rfl, rfl⟩) h) hn

end MEq

section lists
variable {α α' β β' γ γ' : Type}

theorem mapRes_nil (f : α → Res β) : mapRes f [] = .ok [] := rfl

theorem mapRes_cons (f : α → Res β) (a : α) (l : List α) :
    mapRes f (a :: l) = (f a >>= fun b => mapRes f l >>= fun bs => Pure.pure (b :: bs)) := rfl

theorem mapRes_all2 {Q : α → α' → Prop} {R : β → β' → Prop} {f : α → Res β} {f' : α' → Res β'}
    {l : List α} {l' : List α'} (hl : All2 Q l l') (hf : ∀ a a', Q a a' → RRel R (f a) (f' a')) :
    RRel (All2 R) (mapRes f l) (mapRes f' l') := by
  induction hl with
  | nil => exact .ok .nil
  | cons h _ ih =>
    rw [mapRes_cons, mapRes_cons]
    refine RRel.bind (hf _ _ h) (fun b b' hb => RRel.bind ih (fun bs bs' hbs => .ok (.cons hb hbs)))

/-- `hnd`: if one element panics and another declines, the first failure, which is the result, is the one in
one order and the other in the other order, and `RRel` tells a panic from a decline.  The lookups that are mapped
in this development panic or return; their callers discharge `hnd` by going through the cases of `f`. -/
theorem mapRes_perm {f : α → Res β} {l l' : List α} (hl : l.Perm l')
    (hnd : ∀ a ∈ l, ∀ w, f a ≠ .declined w) : RRel List.Perm (mapRes f l) (mapRes f l') := by
  induction hl with
  | nil => exact .ok (List.Perm.refl _)
  | cons x _ ih =>
    rw [mapRes_cons, mapRes_cons]
    refine RRel.bind_same (fun b => RRel.bind (ih fun a ha => hnd a (List.mem_cons_of_mem _ ha))
      (fun bs bs' hbs => .ok (hbs.cons b)))
  | swap x y t =>
    have hx := hnd x (List.mem_cons_of_mem _ (List.mem_cons_self ..))
    have hy := hnd y (List.mem_cons_self ..)
    simp only [mapRes_cons]
    cases hfx : f x with
    | declined w => exact absurd hfx (hx w)
    | panic s =>
      cases hfy : f y with
      | declined w => exact absurd hfy (hy w)
      | panic s' => exact .panic
      | ok b => exact .panic
    | ok a =>
      cases hfy : f y with
      | declined w => exact absurd hfy (hy w)
      | panic s' => exact .panic
      | ok b =>
        simp only [Res.ok_bind]
        cases mapRes f t with
        | ok bs => exact .ok (List.Perm.swap _ _ _)
        | panic s => exact .panic
        | declined s => exact .declined
  | trans h1 _ ih1 ih2 =>
    exact RRel.trans (R := List.Perm) (fun _ _ _ p q => p.trans q) (ih1 hnd)
      (ih2 fun a ha => hnd a (h1.mem_iff.2 ha))

theorem mapRes_permR {Q : α → α → Prop} {R : β → β → Prop} {f f' : α → Res β} {l l' : List α}
    (hl : PermR Q l l') (hf : ∀ a a', Q a a' → RRel R (f a) (f' a'))
    (hnd : ∀ a ∈ l, ∀ w, f a ≠ .declined w) : RRel (PermR R) (mapRes f l) (mapRes f' l') := by
  obtain ⟨mid, hp, ha⟩ := hl
  have h1 := mapRes_perm hp hnd
  have h2 := mapRes_all2 ha hf
  exact (h1.comp h2).mono (fun a c h => by obtain ⟨b, hb1, hb2⟩ := h; exact ⟨b, hb1, hb2⟩)

theorem mapRes_perm_rel {R : β → β → Prop} {f f' : α → Res β} {l l' : List α}
    (hl : l.Perm l') (hf : ∀ a, a ∈ l → RRel R (f a) (f' a))
    (hnd : ∀ a ∈ l, ∀ w, f a ≠ .declined w) : RRel (PermR R) (mapRes f l) (mapRes f' l') :=
  mapRes_permR (Q := fun a b => a = b ∧ a ∈ l) ⟨l', hl, All2.refl_on fun a ha => ⟨rfl, hl.mem_iff.2 ha⟩⟩
    (fun a a' h => by obtain ⟨rfl, hm⟩ := h; exact hf a hm) hnd

theorem mapRes_eq_same {f f' : α → Res β} (l : List α)
    (hf : ∀ a, a ∈ l → RRel (fun x y => x = y) (f a) (f' a)) :
    RRel (fun x y => x = y) (mapRes f l) (mapRes f' l) :=
  (mapRes_all2 (R := fun x y => x = y) (Q := fun a b => a = b ∧ a ∈ l) (All2.refl_on fun a ha => ⟨rfl, ha⟩)
    fun a a' h => by obtain ⟨rfl, hm⟩ := h; exact hf a hm).mono fun _ _ h => h.eq

theorem foldlM_nil' (f : γ → α → Res γ) (c : γ) : List.foldlM f c [] = .ok c := rfl

theorem foldlM_rrel {Q : α → α' → Prop} {E : γ → γ' → Prop} {f : γ → α → Res γ} {f' : γ' → α' → Res γ'}
    {l : List α} {l' : List α'} (hl : All2 Q l l')
    (hf : ∀ c c' a a', E c c' → Q a a' → RRel E (f c a) (f' c' a')) {c : γ} {c' : γ'} (hc : E c c') :
    RRel E (l.foldlM f c) (l'.foldlM f' c') := by
  induction hl generalizing c c' with
  | nil => exact .ok hc
  | cons h _ ih =>
    rw [List.foldlM_cons, List.foldlM_cons]
    exact RRel.bind (hf _ _ _ _ hc h) (fun c1 c1' h1 => ih h1)

theorem foldlM_rrel_same {E : γ → γ' → Prop} {f : γ → α → Res γ} {f' : γ' → α → Res γ'} (l : List α)
    (hf : ∀ c c' a, a ∈ l → E c c' → RRel E (f c a) (f' c' a)) {c : γ} {c' : γ'} (hc : E c c') :
    RRel E (l.foldlM f c) (l.foldlM f' c') :=
  foldlM_rrel (Q := fun a b => a = b ∧ a ∈ l) (All2.refl_on fun a ha => ⟨rfl, ha⟩)
    (fun c c' a a' h1 h2 => by obtain ⟨rfl, hm⟩ := h2; exact hf c c' a hm h1) hc

theorem foldl_rel_same {E : γ → γ' → Prop} {f : γ → α → γ} {f' : γ' → α → γ'} (l : List α)
    (hf : ∀ c c' a, a ∈ l → E c c' → E (f c a) (f' c' a)) {c : γ} {c' : γ'} (hc : E c c') :
    E (l.foldl f c) (l.foldl f' c') := by
  induction l generalizing c c' with
  | nil => exact hc
  | cons a t ih =>
    simp only [List.foldl_cons]
    exact ih (fun c c' a ha => hf c c' a (List.mem_cons_of_mem _ ha)) (hf _ _ _ (List.mem_cons_self ..) hc)

/-- a fold whose steps respect `E` and commute up to `E` gives `E`-related results on permuted lists
(`E` a partial equivalence relation) -/
theorem foldl_perm_comm {E : γ → γ → Prop} {f : γ → α → γ} {l l' : List α} (hl : l.Perm l')
    (hsymm : ∀ x y, E x y → E y x) (htrans : ∀ x y z, E x y → E y z → E x z)
    (hcongr : ∀ x y a, E x y → E (f x a) (f y a))
    (hcomm : ∀ x a b, E x x → E (f (f x a) b) (f (f x b) a)) {x y : γ} (hxy : E x y) :
    E (l.foldl f x) (l'.foldl f y) := by
  induction hl generalizing x y with
  | nil => exact hxy
  | cons a _ ih => exact ih (hcongr _ _ a hxy)
  | swap a b t =>
    simp only [List.foldl_cons]
    have hxx : E x x := htrans _ _ _ hxy (hsymm _ _ hxy)
    have h1 : E (f (f x b) a) (f (f y a) b) :=
      htrans _ _ _ (hcomm x b a hxx) (hcongr _ _ b (hcongr _ _ a hxy))
    exact foldl_rel_same t (fun c c' a _ h => hcongr c c' a h) h1
  | trans _ _ ih1 ih2 =>
    have hyy : E y y := htrans _ _ _ (hsymm _ _ hxy) hxy
    exact htrans _ _ _ (ih1 hxy) (ih2 hyy)

theorem mergeSort_eq_of_perm {le : α → α → Bool} {l l' : List α}
    (htrans : ∀ a b c, le a b = true → le b c = true → le a c = true)
    (htotal : ∀ a b, (le a b || le b a) = true)
    (hanti : ∀ a ∈ l, ∀ b ∈ l, le a b = true → le b a = true → a = b) (h : l.Perm l') :
    l.mergeSort le = l'.mergeSort le := by
  apply List.Perm.eq_of_pairwise (le := fun a b => le a b = true)
  · intro a b ha hb hab hba
    exact hanti a ((List.mergeSort_perm l le).mem_iff.1 ha) b
      (h.mem_iff.2 ((List.mergeSort_perm l' le).mem_iff.1 hb)) hab hba
  · exact List.pairwise_mergeSort htrans htotal l
  · exact List.pairwise_mergeSort htrans htotal l'
  · exact ((List.mergeSort_perm l le).trans h).trans (List.mergeSort_perm l' le).symm

/-- sorting strings: permutations give the same list (`C01_sort_perm`) -/
theorem sortStr_eq_of_perm {l l' : List String} (h : l.Perm l') :
    l.mergeSort (fun a b => a ≤ b) = l'.mergeSort (fun a b => a ≤ b) :=
  mergeSort_eq_of_perm
    (fun a b c h1 h2 => by simp only [decide_eq_true_eq] at *; exact String.le_trans h1 h2)
    (fun a b => by simp only [Bool.or_eq_true, decide_eq_true_eq]; exact String.le_total a b)
    (fun a _ b _ h1 h2 => by simp only [decide_eq_true_eq] at *; exact String.le_antisymm h1 h2) h

theorem isEmpty_eq_of_length {l : List α} {l' : List α'} (h : l.length = l'.length) : l'.isEmpty = l.isEmpty := by
  rw [Bool.eq_iff_iff, List.isEmpty_iff_length_eq_zero, List.isEmpty_iff_length_eq_zero, h]

theorem all_eq_of_perm {p : α → Bool} {l l' : List α} (h : l.Perm l') : l'.all p = l.all p := h.all_eq.symm

theorem any_eq_of_permR {Q : α → α → Prop} {p p' : α → Bool} {l l' : List α} (h : PermR Q l l')
    (hp : ∀ a a', Q a a' → p a = p' a') : l'.any p' = l.any p := by
  obtain ⟨mid, hm, ha⟩ := h
  rw [hm.any_eq]
  clear hm
  induction ha with
  | nil => rfl
  | cons h _ ih => simp only [List.any_cons, ih, hp _ _ h]

/-- an early-exit search with at most one match finds related elements on related lists -/
theorem find?_permR {Q : α → α → Prop} {p p' : α → Bool} {l l' : List α} (h : PermR Q l l')
    (hp : ∀ a a', Q a a' → p a = p' a')
    (huniq : ∀ a ∈ l, ∀ b ∈ l, p a = true → p b = true → a = b) : ORel Q (l.find? p) (l'.find? p') := by
  cases h1 : l.find? p with
  | none =>
    rw [List.find?_eq_none] at h1
    have : l'.find? p' = none := by
      rw [List.find?_eq_none]
      intro x hx
      obtain ⟨a, ha, hq⟩ := h.mem_right hx
      rw [← hp a x hq]; exact h1 a ha
    rw [this]; exact .nn
  | some a =>
    have hpa := List.find?_some h1
    have ham := List.mem_of_find?_eq_some h1
    cases h2 : l'.find? p' with
    | none =>
      rw [List.find?_eq_none] at h2
      obtain ⟨b, hb, hq⟩ := h.mem_left ham
      have := h2 b hb
      rw [← hp a b hq, hpa] at this
      exact absurd rfl this
    | some b =>
      have hpb := List.find?_some h2
      have hbm := List.mem_of_find?_eq_some h2
      obtain ⟨a2, ha2, hq⟩ := h.mem_right hbm
      have : a2 = a := huniq a2 ha2 a ham (by rw [hp a2 b hq]; exact hpb) hpa
      subst this
      exact .ss hq

end lists

end Robust.Irc
