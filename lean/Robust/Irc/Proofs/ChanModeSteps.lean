import Robust.Irc.Proofs.WpCore
/-!
The results of `applyChanMode`, `cmdTopic` and `cmdMode`, each listed once: one constructor per path through
the body, with the resulting context written out as a chain of `sendUser` / `putChan` / `emit` on the starting
context.  A property of what these handlers return is then proved by looking at the leaves
(`obtain ⟨ch, hch, h⟩ := applyChanMode_result hr; cases h`), without going through their case analysis again.  Also
here: the rule of the MODE loop (`applyChanModes_rule`) and that the three do not panic where their look-ups succeed.

Names: `f_run` concludes the relation `…Run` (here of the value `f …`, `.declined` included; in `EntrySteps.lean` of a
normal result given by an equation); `f_result` says what the normal results of `f` are (`TopicResult`, `ModeResult`;
for `applyChanMode` the normal cases of `ChanModeRun`); `f_result_wp` is that with a gate under which `f` does not
panic.
-/
namespace Robust.Irc
open Robust AMap

theorem resolveSessionToRemoteAddr_ne_panic (st : St) (pattern site : String) :
    resolveSessionToRemoteAddr st pattern ≠ .panic site := by
  unfold resolveSessionToRemoteAddr
  refine Ne.symm ?_
  cases indexOf pattern.toList "robust/0x".toList with
  | none => exact nofun
  | some idx =>
    dsimp only
    refine ite_ind (fun _ => nofun) fun _ => ?_
    cases parseHex (dropChars (dropChars pattern (idx + 7)) 2) with
    | none => exact nofun
    | some id =>
      dsimp only
      refine ite_ind (fun _ => nofun) fun _ => ?_
      cases AMap.get st.sessions ⟨id, 0⟩ with
      | none => exact nofun
      | some s => exact ite_ind (fun _ => nofun) fun _ => nofun

theorem banOne_ne_panic (ch : Channel) (add : Bool) (banmask pattern site : String) :
    banOne ch add banmask pattern ≠ .panic site := by
  unfold banOne
  refine Ne.symm ?_
  cases parseRe pattern.toList with
  | none => exact nofun
  | some _ => exact ite_ind (fun _ => nofun) fun _ => nofun

theorem banBoth_ne_panic (ch : Channel) (add : Bool) (banmask pattern patternAddr site : String) :
    banBoth ch add banmask pattern patternAddr ≠ .panic site := by
  unfold banBoth
  refine Ne.symm ?_
  cases h : banOne ch add banmask pattern with
  | panic s => exact absurd h (banOne_ne_panic _ _ _ _ _)
  | declined w => exact nofun
  | ok ch1 => exact ite_ind (fun _ => (banOne_ne_panic _ _ _ _ _).symm) fun _ => nofun

/-- The results of `applyChanMode c sid s lc chn op mc q` when `lc` is stored as `ch` (without a stored channel
the call panics): the resulting context, the new `queryOnly` flag and the early-return flag.  The `Bool` index
is `op`; `modeByteChar mc` is the mode letter and `hasPrefix mc.mode "+"` the value it is set to.  The ban paths
fail only by declining (a mask outside the modelled patterns). -/
inductive ChanModeRun (c : Ctx) (sid : Id) (s : Session) (lc chn : String) (mc : ModeCmd) (ch : Channel)
    (q : Bool) : Bool → Res (Ctx × Bool × Bool) → Prop
  /-- `+b` without a mask lists the bans; everybody may do that -/
  | banList {op : Bool} {c1 : Ctx} (hm : mc.mode = "+b") (hp : mc.param = "")
      (h1 : c1 = (dedupSorted (ch.bans.map (·.mask))).foldl
        (fun c p => sendUser c sid (srv c "367" [s.nick, chn, p])) c) :
      ChanModeRun c sid s lc chn mc ch q op
        (.ok (sendUser c1 sid (srv c1 "368" [s.nick, chn, "End of Channel Ban List"]), q, false))
  /-- anything else by somebody who is not a channel operator: 482, and the command ends -/
  | notOp :
      ChanModeRun c sid s lc chn mc ch q false
        (.ok (sendUser c sid (srv c "482" [s.nick, chn, "You're not channel operator"]), false, true))
  | flag (hb : (modeByteChar mc == 't' || modeByteChar mc == 's' || modeByteChar mc == 'i' ||
        modeByteChar mc == 'n') = true) :
      ChanModeRun c sid s lc chn mc ch q true
        (.ok (putChan c lc { ch with modes := modeSet ch.modes (modeByteChar mc) (hasPrefix mc.mode "+") },
          false, false))
  | keyEmpty (hb : (modeByteChar mc == 'k') = true) (hp : (mc.param == "") = true) :
      ChanModeRun c sid s lc chn mc ch q true (.ok (c, false, false))
  | keySet (hb : (modeByteChar mc == 'k') = true) (hv : hasPrefix mc.mode "+" = true)
      (hp : ¬(mc.param == "") = true) :
      ChanModeRun c sid s lc chn mc ch q true
        (.ok (putChan (sendUser (putChan c lc { ch with key := mc.param }) sid (srv c "MODE" [chn, "+k", mc.param]))
          lc { ch with key := mc.param, modes := modeSet ch.modes 'k' true }, false, false))
  | keyClear (hb : (modeByteChar mc == 'k') = true) (hv : ¬hasPrefix mc.mode "+" = true) :
      ChanModeRun c sid s lc chn mc ch q true
        (.ok (putChan (sendUser c sid (srv c "MODE" [chn, "-k", ch.key])) lc
          { ch with key := "", modes := modeSet ch.modes 'k' false }, false, false))
  | captcha (hb : (modeByteChar mc == 'x') = true)
      (hcfg : (c.st.config.captchaURL != "" && c.st.config.captchaSecret != "") = true) :
      ChanModeRun c sid s lc chn mc ch q true
        (.ok (putChan c lc { ch with modes := modeSet ch.modes 'x' (hasPrefix mc.mode "+") }, false, false))
  | noCaptcha (hb : (modeByteChar mc == 'x') = true)
      (hcfg : ¬(c.st.config.captchaURL != "" && c.st.config.captchaSecret != "") = true) :
      ChanModeRun c sid s lc chn mc ch q true
        (.ok (sendUser c sid
          (srv c "NOTICE" [s.nick, "Cannot set mode +x, no CaptchaURL/CaptchaHMACSecret configured"]), false, false))
  | opAbsent (hb : (modeByteChar mc == 'o') = true) (hm : AMap.get ch.nicks (nickToLower mc.param) = none) :
      ChanModeRun c sid s lc chn mc ch q true
        (.ok (sendUser c sid (srv c "441" [s.nick, mc.param, chn, "They aren't on that channel"]), false, false))
  | opSet (hb : (modeByteChar mc == 'o') = true) {perms : Member}
      (hm : AMap.get ch.nicks (nickToLower mc.param) = some perms)
      (hne : (perms.chanop != hasPrefix mc.mode "+") = true) :
      ChanModeRun c sid s lc chn mc ch q true
        (.ok (putChan c lc { ch with
          nicks := AMap.set ch.nicks (nickToLower mc.param) { perms with chanop := hasPrefix mc.mode "+" } },
          false, false))
  | opSame (hb : (modeByteChar mc == 'o') = true) :
      ChanModeRun c sid s lc chn mc ch q true (.ok (c, false, false))
  /-- `b mask`: only the ban list changes -/
  | ban (hb : (modeByteChar mc == 'b') = true) {pa : String} {ch' : Channel}
      (hpa : resolveSessionToRemoteAddr c.st (replaceAll (quoteMeta mc.param) "\\*" ".*") = .ok pa)
      (hch : banBoth ch (hasPrefix mc.mode "+") mc.param (replaceAll (quoteMeta mc.param) "\\*" ".*") pa = .ok ch') :
      ChanModeRun c sid s lc chn mc ch q true (.ok (putChan c lc ch', false, false))
  | banDeclined (hb : (modeByteChar mc == 'b') = true) (why : String) :
      ChanModeRun c sid s lc chn mc ch q true (.declined why)
  | unknown :
      ChanModeRun c sid s lc chn mc ch q true
        (.ok (sendUser c sid (srv c "472" [s.nick, String.singleton (modeByteChar mc), "is unknown mode char to me"]),
          false, false))

theorem applyChanMode_run {c : Ctx} {sid : Id} {s : Session} {lc chn : String} {op q : Bool} {mc : ModeCmd}
    {ch : Channel} (hch : AMap.get c.st.channels lc = some ch) :
    ChanModeRun c sid s lc chn mc ch q op (applyChanMode c sid s lc chn op mc q) := by
  unfold applyChanMode
  rw [getChan_eq, hch]
  dsimp only
  refine ite_ind (fun _ => ?_) fun hq => ?_
  · cases op with
    | false => exact .notOp
    | true =>
      refine ite_ind (fun h => absurd h Bool.false_ne_true) fun _ => ?_
      refine ite_ind (fun hb => .flag hb) fun _ => ?_
      refine ite_ind (fun hb => ?_) fun _ => ?_
      · refine ite_ind (fun hv => ?_) fun hv => .keyClear hb hv
        refine ite_ind (fun hp => .keyEmpty hb hp) fun hp => ?_
        rw [getChan_eq, sendUser_st, putChan_channels, AMap.get_set_same]
        exact .keySet hb hv hp
      refine ite_ind (fun hb => ite_ind (fun hcfg => .captcha hb hcfg) fun hcfg => .noCaptcha hb hcfg) fun _ => ?_
      refine ite_ind (fun hb => ?_) fun _ => ?_
      · cases hm : AMap.get ch.nicks (nickToLower mc.param) with
        | none => exact .opAbsent hb hm
        | some perms => exact ite_ind (fun hne => .opSet hb hm hne) fun _ => .opSame hb
      refine ite_ind (fun hb => ?_) fun _ => .unknown
      cases hpa : resolveSessionToRemoteAddr c.st (replaceAll (quoteMeta mc.param) "\\*" ".*") with
      | panic site => exact absurd hpa (resolveSessionToRemoteAddr_ne_panic _ _ _)
      | declined why => exact .banDeclined hb why
      | ok pa =>
        rw [Res.ok_bind]
        cases hb' : banBoth ch (hasPrefix mc.mode "+") mc.param (replaceAll (quoteMeta mc.param) "\\*" ".*") pa with
        | panic site => exact absurd hb' (banBoth_ne_panic _ _ _ _ _ _)
        | declined why => exact .banDeclined hb why
        | ok ch' => exact .ban hb hpa hb'
  · have hq : mc.mode = "+b" ∧ mc.param = "" := by simpa using hq
    exact .banList hq.1 hq.2 rfl

theorem applyChanMode_result {c c' : Ctx} {sid : Id} {s : Session} {lc chn : String} {op q q' ret : Bool}
    {mc : ModeCmd} (hr : applyChanMode c sid s lc chn op mc q = .ok (c', q', ret)) :
    ∃ ch, AMap.get c.st.channels lc = some ch ∧ ChanModeRun c sid s lc chn mc ch q op (.ok (c', q', ret)) := by
  cases hch : AMap.get c.st.channels lc with
  | none =>
    unfold applyChanMode at hr
    rw [getChan_eq, hch] at hr
    cases hr
  | some ch => exact ⟨ch, rfl, hr ▸ applyChanMode_run hch⟩

/-- the loop of MODE: what every step keeps, the loop keeps.  With `G := False` and each step made by
`.of_sat h nofun`, its `.sat` is the rule for `Res.Sat`. -/
theorem applyChanModes_rule {G : Prop} {I : Ctx → Prop} {sid : Id} {s : Session} {lc chn : String} {op : Bool} :
    ∀ (l : List ModeCmd) {c : Ctx} {q : Bool}, I c →
      (∀ c mc q, mc ∈ l → I c → (applyChanMode c sid s lc chn op mc q).Wp G fun r => I r.1) →
      (applyChanModes c sid s lc chn op l q).Wp G fun r => I r.1
  | [], _, _, h, _ => .ok h
  | mc :: l, c, q, h, step => by
    unfold applyChanModes
    refine .bind (step c mc q List.mem_cons_self h) fun r _ h1 => ?_
    obtain ⟨c1, q1, r1⟩ := r
    exact .ite (fun _ => .pure h1) fun _ =>
      applyChanModes_rule l h1 fun c x q hx => step c x q (List.mem_cons_of_mem _ hx)

/-- The successful results of `cmdTopic c sid m` when `s` is stored under `sid` and `chn` is the first
parameter. -/
inductive TopicResult (c : Ctx) (sid : Id) (m : IrcMsg) (s : Session) (chn : String) : Ctx → Prop
  | noChannel (hc : AMap.get c.st.channels (chanToLower chn) = none) :
      TopicResult c sid m s chn (sendUser c sid (srv c "403" [s.nick, chn, "No such channel"]))
  | notOn (hon : (!s.channels.contains (chanToLower chn)) = true) :
      TopicResult c sid m s chn (sendUser c sid (srv c "442" [s.nick, chn, "You're not on that channel"]))
  | notOp {ch : Channel} {mem : Member} (hc : AMap.get c.st.channels (chanToLower chn) = some ch)
      (ht : ch.modes.contains 't' = true) (hm : AMap.get ch.nicks (nickToLower s.nick) = some mem)
      (hop : (!mem.chanop) = true) :
      TopicResult c sid m s chn (sendUser c sid (srv c "482" [s.nick, chn, "You're not channel operator"]))
  | unset {ch : Channel} (hc : AMap.get c.st.channels (chanToLower chn) = some ch)
      (h1 : (m.params.length == 1) = true) (h0 : (ch.topicTime == zeroTime) = true) :
      TopicResult c sid m s chn (sendUser c sid (srv c "331" [s.nick, chn, "No topic is set"]))
  | shown {ch : Channel} (hc : AMap.get c.st.channels (chanToLower chn) = some ch)
      (h1 : (m.params.length == 1) = true) (h0 : ¬(ch.topicTime == zeroTime) = true) :
      TopicResult c sid m s chn
        (sendUser (sendUser c sid (srv c "332" [s.nick, chn, ch.topic])) sid
          (srv c "333" [s.nick, chn, ch.topicNick, toString (unixSeconds ch.topicTime)]))
  /-- `TOPIC #chan :` clears the topic; by a member, who is a channel operator if the channel is `+t`.  Relayed to
  the channel, then to the services links. -/
  | cleared {ch ch' : Channel} {rc : List Nat} (hc : AMap.get c.st.channels (chanToLower chn) = some ch)
      (hon : ¬(!s.channels.contains (chanToLower chn)) = true)
      (hclr : (m.trailing == "" && m.params.length == 2) = true)
      (hmay : ch.modes.contains 't' = true →
        ∃ mem, AMap.get ch.nicks (nickToLower s.nick) = some mem ∧ ¬(!mem.chanop) = true)
      (hch : ch' = { ch with topicNick := "", topicTime := zeroTime, topic := "" })
      (hrc : rcChannel (putChan c (chanToLower chn) ch').st ch' = .ok rc) :
      TopicResult c sid m s chn
        (emit (emit (putChan c (chanToLower chn) ch') ⟨some s.ircPrefix, "TOPIC", [chn, m.trailing]⟩ rc)
          ⟨some ⟨s.nick, "", ""⟩, "TOPIC", [chn, s.nick, "0", m.trailing]⟩ c.st.serverSessions)
  | set {ch ch' : Channel} {rc : List Nat} (hc : AMap.get c.st.channels (chanToLower chn) = some ch)
      (hon : ¬(!s.channels.contains (chanToLower chn)) = true)
      (hclr : ¬(m.trailing == "" && m.params.length == 2) = true) (h1 : ¬(m.params.length == 1) = true)
      (hmay : ch.modes.contains 't' = true →
        ∃ mem, AMap.get ch.nicks (nickToLower s.nick) = some mem ∧ ¬(!mem.chanop) = true)
      (hch : ch' = { ch with topicNick := s.nick, topicTime := s.lastActivity, topic := m.trailing })
      (hrc : rcChannel (putChan c (chanToLower chn) ch').st ch' = .ok rc) :
      TopicResult c sid m s chn
        (emit (emit (putChan c (chanToLower chn) ch') ⟨some s.ircPrefix, "TOPIC", [chn, m.trailing]⟩ rc)
          ⟨some ⟨s.nick, "", ""⟩, "TOPIC", [chn, s.nick, toString (unixSeconds s.lastActivity), m.trailing]⟩
          c.st.serverSessions)

/-- TOPIC walked once: its results, and that it does not panic for a stored sender and one parameter at least if,
where it goes beyond a query (more than one parameter), a sender that lists the channel is a member of it and the
members are indexed -/
theorem cmdTopic_result_wp {G : Prop} (c : Ctx) (sid : Id) (m : IrcMsg)
    (hst : G → ∃ s, AMap.get c.st.sessions sid = some s) (hlen : G → 1 ≤ m.params.length)
    (hmem : G → m.params.length ≠ 1 → ∀ s chn ch, AMap.get c.st.sessions sid = some s →
      AMap.get c.st.channels (chanToLower chn) = some ch → chanToLower chn ∈ s.channels →
      MembersIndexed c.st ch ∧ ∃ mem, AMap.get ch.nicks (nickToLower s.nick) = some mem) :
    (cmdTopic c sid m).Wp G fun c' => ∃ s chn, AMap.get c.st.sessions sid = some s ∧ m.params[0]? = some chn ∧
      TopicResult c sid m s chn c' := by
  unfold cmdTopic
  refine .bind (getS_wp hst) fun s _ hs => .bind (param_wp hlen) fun chn _ hp => ?_
  refine Res.Wp.mono (P := TopicResult c sid m s chn) ?_ fun _ h => ⟨s, chn, hs, hp, h⟩
  dsimp only
  cases hc : getChan c (chanToLower chn) with
  | none => exact .pure (.noChannel hc)
  | some ch =>
    refine .ite (fun hon => .pure (.notOn hon)) fun hon => ?_
    have key := fun g hne => hmem g hne s chn ch hs hc (mem_of_not_not_contains hon)
    -- the `+t` guard in front of both changes
    have guard : ∀ {k : Res Ctx}, m.params.length ≠ 1 →
        ((ch.modes.contains 't' = true →
          ∃ mem, AMap.get ch.nicks (nickToLower s.nick) = some mem ∧ ¬(!mem.chanop) = true) →
          k.Wp G (TopicResult c sid m s chn)) →
        (if ch.modes.contains 't' = true then do
            let op ← (match AMap.get ch.nicks (nickToLower s.nick) with
              | some mem => Res.ok mem.chanop
              | none => Res.panic "c.nicks[nick] is nil (cmdTopic)")
            if (!op) = true then
              pure (sendUser c sid (srv c "482" [s.nick, chn, "You're not channel operator"]))
            else k
          else k).Wp G (TopicResult c sid m s chn) := by
      intro k hne hk
      refine .ite (fun ht => ?_) fun ht => hk fun h => absurd h ht
      cases hm : AMap.get ch.nicks (nickToLower s.nick) with
      | none =>
        refine .bind (R := fun _ => False) (.panic _ fun g => ?_) fun _ _ h => h.elim
        obtain ⟨_, mem, h⟩ := key g hne
        rw [hm] at h; cases h
      | some mem =>
        refine .bindEq rfl (.ite (fun hop => .pure (.notOp hc ht hm hop)) fun hop => hk fun _ => ⟨mem, hm, hop⟩)
    refine .ite (fun hclr => ?_) fun hclr => .ite (fun h1 => ?_) fun h1 => ?_
    · have hne : m.params.length ≠ 1 := fun e => by simp [e] at hclr
      exact guard hne fun hmay => .bind (rcChannel_indexed_wp fun g => (key g hne).1) fun rc hrc _ =>
        .pure (.cleared hc hon hclr hmay rfl hrc)
    · exact .ite (fun h0 => .pure (.unset hc h1 h0)) fun h0 => .pure (.shown hc h1 h0)
    · have hne : m.params.length ≠ 1 := fun e => h1 (by rw [e]; rfl)
      exact guard hne fun hmay => .bind (rcChannel_indexed_wp fun g => (key g hne).1) fun rc hrc _ =>
        .pure (.set hc hon hclr h1 hmay rfl hrc)

theorem cmdTopic_result (c : Ctx) (sid : Id) (m : IrcMsg) :
    (cmdTopic c sid m).Sat fun c' => ∃ s chn, AMap.get c.st.sessions sid = some s ∧ m.params[0]? = some chn ∧
      TopicResult c sid m s chn c' :=
  (cmdTopic_result_wp (G := False) c sid m nofun nofun nofun).sat

/-- The successful results of `cmdMode c sid m` when `s` is stored under `sid` and `chn` is the first parameter:
channel modes if the sender lists `chn`, user modes otherwise. -/
inductive ModeResult (c : Ctx) (sid : Id) (m : IrcMsg) (s : Session) (chn : String) : Ctx → Prop
  | chanQuery {ch : Channel} (hon : s.channels.contains (chanToLower chn) = true)
      (hc : AMap.get c.st.channels (chanToLower chn) = some ch) (h0 : ((normalizeModes m).length == 0) = true) :
      ModeResult c sid m s chn (sendUser c sid (srv c "324" [s.nick, chn, modeStr ch.modes]))
  /-- the mode loop ended early (482), only listed the bans, or answered the sender: nothing is relayed -/
  | chanQuiet {ch : Channel} {mem : Member} {c1 : Ctx} {q1 r1 : Bool}
      (hon : s.channels.contains (chanToLower chn) = true)
      (hc : AMap.get c.st.channels (chanToLower chn) = some ch)
      (h0 : ¬((normalizeModes m).length == 0) = true)
      (hm : AMap.get ch.nicks (nickToLower s.nick) = some mem)
      (h1 : applyChanModes c sid s (chanToLower chn) chn (mem.chanop || s.operator) (normalizeModes m) true
        = .ok (c1, q1, r1))
      (hq : r1 = true ∨ q1 = true ∨ c1.replyid > 0) :
      ModeResult c sid m s chn c1
  | chanRelay {ch ch1 : Channel} {mem : Member} {c1 : Ctx} {q1 r1 : Bool} {rc : List Nat}
      (hon : s.channels.contains (chanToLower chn) = true)
      (hc : AMap.get c.st.channels (chanToLower chn) = some ch)
      (h0 : ¬((normalizeModes m).length == 0) = true)
      (hm : AMap.get ch.nicks (nickToLower s.nick) = some mem)
      (h1 : applyChanModes c sid s (chanToLower chn) chn (mem.chanop || s.operator) (normalizeModes m) true
        = .ok (c1, q1, r1))
      (hq : ¬r1 = true ∧ ¬q1 = true ∧ ¬c1.replyid > 0)
      (hc1 : AMap.get c1.st.channels (chanToLower chn) = some ch1) (hrc : rcChannel c1.st ch1 = .ok rc) :
      ModeResult c sid m s chn
        (emit c1 ⟨some s.ircPrefix, "MODE", chn :: ircParams (normalizeModes m)⟩ (rc ++ c1.st.serverSessions))
  | noNick (hon : ¬s.channels.contains (chanToLower chn) = true)
      (hi : AMap.get c.st.nicks (nickToLower chn) = none) :
      ModeResult c sid m s chn (sendUser c sid (srv c "442" [s.nick, chn, "You're not on that channel"]))
  | otherUser {tid : Id} {t : Session} (hon : ¬s.channels.contains (chanToLower chn) = true)
      (hi : AMap.get c.st.nicks (nickToLower chn) = some tid) (ht : AMap.get c.st.sessions tid = some t)
      (hx : (nickToLower chn != nickToLower s.nick && !s.operator) = true) :
      ModeResult c sid m s chn (sendUser c sid (srv c "502" [s.nick, "Can't change mode for other users"]))
  | userQuery {tid : Id} {t : Session} (hon : ¬s.channels.contains (chanToLower chn) = true)
      (hi : AMap.get c.st.nicks (nickToLower chn) = some tid) (ht : AMap.get c.st.sessions tid = some t)
      (hx : ¬(nickToLower chn != nickToLower s.nick && !s.operator) = true)
      (h0 : ((normalizeModes m).length == 0) = true) :
      ModeResult c sid m s chn
        (emit c ⟨some s.ircPrefix, "MODE", [t.nick, modeStr t.modes]⟩ (rcUser sid ++ c.st.serverSessions))
  | userSet {tid : Id} {t : Session} {c1 : Ctx} (hon : ¬s.channels.contains (chanToLower chn) = true)
      (hi : AMap.get c.st.nicks (nickToLower chn) = some tid) (ht : AMap.get c.st.sessions tid = some t)
      (hx : ¬(nickToLower chn != nickToLower s.nick && !s.operator) = true)
      (h1 : modS c tid (fun t => { t with modes := (normalizeModes m).foldl (fun ms mc =>
          if (modeByteChar mc == 'i' || modeByteChar mc == 'G') = true
          then modeSet ms (modeByteChar mc) (hasPrefix mc.mode "+") else ms) t.modes }) = .ok c1)
      (h0 : ¬((normalizeModes m).length == 0) = true) :
      ModeResult c sid m s chn
        (emit c1 ⟨some s.ircPrefix, "MODE", [t.nick, (ircParams (normalizeModes m)).head?.getD ""]⟩
          (rcUser tid ++ c1.st.serverSessions))

theorem cmdMode_result (c : Ctx) (sid : Id) (m : IrcMsg) :
    (cmdMode c sid m).Sat fun c' => ∃ s chn, AMap.get c.st.sessions sid = some s ∧ m.params[0]? = some chn ∧
      ModeResult c sid m s chn c' := by
  unfold cmdMode
  refine .andThen (getS_sat c sid) fun s hs => .andThen (param_sat m 0) fun chn hp => ?_
  refine Res.Sat.mono (P := ModeResult c sid m s chn) ?_ fun _ h => ⟨s, chn, hs, hp, h⟩
  dsimp only
  refine .ite (fun hon => ?_) fun hon => ?_
  · cases hc : getChan c (chanToLower chn) with
    -- a `let some x := … | .panic` in the middle of a block is `panic … >>= rest`: `.bind` with no normal result
    | none => exact .bind nofun
    | some ch =>
      refine .ite (fun h0 => .pure (.chanQuery hon hc h0)) fun h0 => ?_
      cases hm : AMap.get ch.nicks (nickToLower s.nick) with
      | none => exact .bind nofun
      | some mem =>
        refine .bind fun r h1 => ?_
        obtain ⟨c1, q1, r1⟩ := r
        refine .ite (fun hr => .pure (.chanQuiet hon hc h0 hm h1 (.inl hr))) fun hr => ?_
        refine .ite (fun hq => .pure (.chanQuiet hon hc h0 hm h1 (.inr (.inl hq)))) fun hq => ?_
        refine .ite (fun hk => .pure (.chanQuiet hon hc h0 hm h1 (.inr (.inr hk)))) fun hk => ?_
        cases hc1 : getChan c1 (chanToLower chn) with
        | none => exact .bind nofun
        | some ch1 => exact .bind fun rc hrc => .pure (.chanRelay hon hc h0 hm h1 ⟨hr, hq, hk⟩ hc1 hrc)
  · cases hi : AMap.get c.st.nicks (nickToLower chn) with
    | none => exact .pure (.noNick hon hi)
    | some tid =>
      refine .andThen (getS_sat c tid) fun t ht => ?_
      refine .ite (fun hx => .pure (.otherUser hon hi ht hx)) fun hx => ?_
      refine .ite (fun h0 => .pure (.userQuery hon hi ht hx h0)) fun h0 => ?_
      exact .bind fun c1 h1 => .pure (.userSet hon hi ht hx h1 h0)

end Robust.Irc
