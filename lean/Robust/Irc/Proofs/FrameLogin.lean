import Robust.Irc.Proofs.FrameDelete
import Robust.Irc.Proofs.FrameEntry
import Robust.Irc.Proofs.FrameNick
/-!
A conjunct of the global invariant kept beside `Inv` (`GInv.linv`, `Pre.linv`): a logged-in session has a nickname.

`processMessage` lets a session that is neither a server link nor logged in run only
NICK/USER/PASS/QUIT/SERVER; so the handlers that add members on behalf of the *actor*
(`cmdJoin`) always run for a session with `nick ≠ ""`, which `WInv.owns` then shows indexed.
`LInv` looks at `loggedIn` and `nick` of the stored sessions only.
-/
namespace Robust.Irc
open Robust AMap

def LInv (st : St) : Prop :=
  ∀ id s, AMap.get st.sessions id = some s → s.loggedIn = true → s.nick ≠ ""

theorem LInv_init : LInv ({} : St) := by intro id s h; simp at h

theorem LInv.of_sessions {st st' : St} (h : LInv st)
    (hsub : ∀ id s', AMap.get st'.sessions id = some s' →
      ∃ s, AMap.get st.sessions id = some s ∧ s'.loggedIn = s.loggedIn ∧ s'.nick = s.nick) : LInv st' := by
  intro id s' hg hl
  obtain ⟨s, hs, e1, e2⟩ := hsub id s' hg
  rw [e2]; exact h id s hs (by rw [← e1]; exact hl)

theorem LInv.congr {st st' : St} (h : LInv st) (hs : st'.sessions = st.sessions) : LInv st' := by
  unfold LInv at *; rw [hs]; exact h

theorem LInv.putS {c : Ctx} (h : LInv c.st) {s' : Session} (hs' : s'.loggedIn = true → s'.nick ≠ "") :
    LInv (putS c s').st := by
  intro id s hg hl
  rcases AMap.get_of_get_set (m := c.st.sessions) hg with ⟨_, rfl⟩ | ⟨_, hg⟩
  · exact hs' hl
  · exact h id s hg hl

theorem LInv.modS {c c' : Ctx} {sid : Id} {f : Session → Session} (h : LInv c.st)
    (hr : modS c sid f = Res.ok c')
    (hf : ∀ s, AMap.get c.st.sessions sid = some s → (f s).loggedIn = true → (f s).nick ≠ "") : LInv c'.st := by
  obtain ⟨s, hs, rfl⟩ := modS_eq_ok.1 hr
  exact h.putS (hf s hs)

theorem LInv.putChan {c : Ctx} (h : LInv c.st) (lc : String) (ch : Channel) : LInv (putChan c lc ch).st :=
  h.congr rfl

theorem LInv.sessUpTo {st st' : St} (h : LInv st) (hs : SessUpTo st.sessions st'.sessions) : LInv st' := by
  refine h.of_sessions fun id s' hg => ?_
  obtain ⟨s, hs0, e⟩ := hs.bwd hg
  exact ⟨s, hs0, by rw [e], by rw [e]⟩

theorem LInv.maybeDeleteChannel {c : Ctx} (lc : String) (h : LInv c.st) (hw : WInvCore c.st) :
    LInv (maybeDeleteChannel c lc).st :=
  h.sessUpTo (maybeDeleteChannel_spec (c := c) (lc := lc) (fun ch hg => (hw.chans lc ch hg).1)).2.1

theorem LInv.leaveChannel {c c' : Ctx} {lc lcn : String} {tid : Id} (h : LInv c.st) (hw : WInv c.st)
    (hidx : AMap.get c.st.nicks lcn = some tid) (hr : leaveChannel c lc lcn tid = Res.ok c') : LInv c'.st := by
  refine h.of_sessions fun id s' hg => ?_
  obtain ⟨s, hs, e⟩ := (leaveChannel_spec hw hidx hr).stored hg
  exact ⟨s, hs, by rw [e], by rw [e]⟩

theorem LInv.deleteSession {c c' : Ctx} {sid : Id} {s : Session} (h : LInv c.st) (hw : WInv c.st)
    (hs : AMap.get c.st.sessions sid = some s) (hpre : DelPre c.st s)
    (hr : deleteSession c sid = Res.ok c') : LInv c'.st := by
  refine h.of_sessions fun id t' hg => ?_
  obtain ⟨t, ht, e, _⟩ := (deleteSession_spec hw hs hpre hr).stored hs hg
  exact ⟨t, ht, by rw [e], by rw [e]⟩

theorem LInv.createSession {st st' : St} {id : Id} {auth : String} {ts : Int} (h : LInv st)
    (hr : createSession st id auth ts = some st') : LInv st' := by
  rw [createSession_eq hr]
  intro id' s hg hl
  rcases AMap.get_of_get_set (m := st.sessions) hg with ⟨_, rfl⟩ | ⟨_, hg⟩
  · cases hl
  · exact h id' s hg hl

theorem LInv.updateLastClientMessageID {st st' : St} {e : Entry} (h : LInv st)
    (hr : updateLastClientMessageID st e = some st') : LInv st' := by
  obtain ⟨s, a, c, hg, rfl⟩ := updateLastClientMessageID_eq hr
  intro id s' hg' hl
  rcases AMap.get_of_get_set hg' with ⟨_, rfl⟩ | ⟨_, hg'⟩
  · exact h _ s hg hl
  · exact h id s' hg' hl

theorem LInv.maybeDeleteSession {st : St} (sid : Id) (h : LInv st) (hnd : (AMap.keys st.sessions).Nodup) :
    LInv (maybeDeleteSession st sid) :=
  h.of_sessions fun _ s' hg => ⟨s', ((get_maybeDeleteSession hnd).1 hg).1, rfl, rfl⟩

end Robust.Irc
