import Robust.Irc.Proofs.ChanLimitSess
import Robust.Irc.Proofs.ChanLimitEntry
/-!
The session limit (`ChanLimitSess.lean`) through `processMessage`, one committed entry and histories
(`run_sessions_within_limit`).

The number of stored sessions grows only through a CreateSession entry (type 0) or a type-2 entry whose
line is the services `NICK` sent by a services link; both go through `createSession`, so with a limit
the number stays at most `max (old number) maxSessions`.
-/
namespace Robust.Irc
open Robust AMap

/-- what a run may do to the sessions: nothing that adds one; or the services `NICK`, within the limit -/
def SessOutcome (st st' : St) (server : Bool) (command : String) : Prop :=
  SessLe st st' ∨ (server = true ∧ command = "NICK" ∧ SessLim st st')

theorem SessOutcome.after {a b c : St} {sv : Bool} {cmd : String} (h1 : SessLe a b) (h2 : SessOutcome b c sv cmd) :
    SessOutcome a c sv cmd := by
  rcases h2 with h2 | ⟨hs, hc, h2⟩
  · exact Or.inl (h1.trans h2)
  · exact Or.inr ⟨hs, hc, h1.then_lim h2⟩

theorem SessOutcome.wf {a b : St} {sv : Bool} {cmd : String} (h : SessOutcome a b sv cmd) : SessWf b := by
  rcases h with h | ⟨_, _, h⟩
  · exact h.wf
  · exact h.wf

/-- what the handler that the key `toUpper x` selects for `s` may do to the sessions -/
theorem call_sess {c c' : Ctx} {s : Session} {m : IrcMsg} {x fname : String} {mp : Nat} {h : Handler} (hw : SessWf c.st)
    (hl : lookupCommand ((if s.server then "server_" else "") ++ toUpper x) = some (fname, mp))
    (hh : handlerByName fname = some h) (hr : h c s.id m = .ok c') :
    SessOutcome c.st c'.st s.server (toUpper x) := by
  by_cases h1 : fname = "cmdServerNick"
  · subst h1
    cases (show some cmdServerNick = some h from hh)
    obtain ⟨hsv, hcmd⟩ := server_key (startsLowerS_toUpper x) ((registered_key hl).serverNick rfl)
    exact Or.inr ⟨hsv, hcmd, cmdServerNick_slim (SessLe.refl hw) hr⟩
  · exact Or.inl (handler_sessLe hh h1 (SessLe.refl hw) hr)

theorem processMessage_sess {c : Ctx} {e : Entry} {im : Option IrcMsg} {s : Session}
    (hw : SessWf c.st) (hs : AMap.get c.st.sessions e.session = some s) :
    (processMessage c e im).Sat fun c' =>
      SessLe c.st c'.st ∨ ∃ m, im = some m ∧ SessOutcome c.st c'.st s.server (toUpper m.command) := by
  refine fun c' hr => processMessage_keeps (.stable (SessLe.stable c.st)) (SessLe.refl hw) (fun _ _ => .of_not id)
    (fun _ f => Or.inl f) (fun him k f1 => ?_) hr
  cases hs.symm.trans k.stored
  obtain ⟨a, rfl, _⟩ := k.actor_eq (hw.ids _ s hs)
  exact Or.inr ⟨_, him, SessOutcome.after f1 (call_sess f1.wf k.row k.handler k.ret)⟩

theorem maybeDeleteSession_length_le (st : St) (sid : Id) :
    (maybeDeleteSession st sid).sessions.length ≤ st.sessions.length := by
  rw [maybeDeleteSession_sessions]
  exact List.length_filter_le _ _

theorem applyEntry_create_sessions {st st' : St} {e : Entry} {out : List Out} (ht : e.type = 0)
    (hr : applyEntry st e = .ok (st', out)) :
    st'.config = st.config ∧
    (0 < st.config.maxSessions → st'.sessions.length ≤ max st.sessions.length st.config.maxSessions) ∧
    (st.config.maxSessions ≤ st.sessions.length → 0 < st.config.maxSessions → st' = st) := by
  obtain ⟨rfl, _⟩ := applyEntry_create ht hr
  cases hcs : createSession st ⟨e.id, 0⟩ e.data e.timestamp with
  | none => exact ⟨rfl, fun _ => Nat.le_max_left _ _, fun _ _ => rfl⟩
  | some st1 =>
    simp only [Option.getD_some]
    obtain ⟨hcfg, _, hlen, hlim, _⟩ := createSession_limit hcs
    refine ⟨hcfg, fun hpos => ?_, fun hge hpos => ?_⟩
    · have := hlim hpos
      omega
    · have := hlim hpos
      omega

structure EntrySess (st st' : St) (e : Entry) : Prop where
  maxSessions : e.type ≠ 6 → st'.config.maxSessions = st.config.maxSessions
  config : e.type = 6 → st'.sessions = st.sessions
  sess : st'.sessions.length ≤ st.sessions.length ∨
    ((e.type = 0 ∨ (e.type = 2 ∧ ∃ s m, AMap.get st.sessions e.session = some s ∧ parseMessage e.data = some m ∧
        s.server = true ∧ toUpper m.command = "NICK")) ∧
      (0 < st.config.maxSessions → st'.sessions.length ≤ max st.sessions.length st.config.maxSessions))

theorem applyEntry_sess {st st' : St} {e : Entry} {out : List Out} (hw : SessWf st)
    (hr : applyEntry st e = .ok (st', out)) : EntrySess st st' e := by
  have same : EntrySess st st e := ⟨fun _ => rfl, fun _ => rfl, Or.inl (Nat.le_refl _)⟩
  have length_eq : ∀ {st1 : St} {s s1 : Session}, LastUpdate st e st1 s s1 → st1.sessions.length = st.sessions.length :=
    fun u => by rw [← length_keys, u.keys, length_keys]
  cases applyEntry_run hr with
  | skip => exact same
  | death h5 hu =>
    obtain ⟨_, _, u⟩ := updateLast_run hu
    exact ⟨fun _ => by rw [u.config], fun h => absurd h (by rw [h5]; decide), Or.inl (Nat.le_of_eq (length_eq u))⟩
  | create h0 hcs =>
    obtain ⟨hcfg, _, hlen, hlim, _⟩ := createSession_limit hcs
    exact ⟨fun _ => by rw [hcfg], fun h => absurd h (by rw [h0]; decide),
      Or.inr ⟨Or.inl h0, fun hpos => by have := hlim hpos; omega⟩⟩
  | @delete s c h1 hs hpm =>
    have h6 : e.type ≠ 6 := by rw [h1]; decide
    obtain ⟨hcfg, _⟩ := maybeDeleteSession_other { c.st with lastProcessed := ⟨e.id, 0⟩ } e.session
    have hle : SessLe st c.st := by
      rcases (processMessage_sess hw hs).apply hpm with hle | ⟨m, hm, hle | ⟨_, hj, _⟩⟩
      · exact hle
      · exact hle
      · rw [(parseMessage_quit _ hm).2] at hj; exact absurd hj (by decide)
    exact ⟨fun _ => by rw [hcfg]; exact hle.maxSessions, fun h => absurd h h6,
      Or.inl (Nat.le_trans (maybeDeleteSession_length_le _ _) hle.le)⟩
  | @client st1 c h2 hu hpm =>
    have h6 : e.type ≠ 6 := by rw [h2]; decide
    obtain ⟨hcfg, _⟩ := maybeDeleteSession_other { c.st with lastProcessed := ⟨e.session.id, 0⟩ } e.session
    obtain ⟨s, s1, u⟩ := updateLast_run hu
    have hw1 := hw.updateLast hu
    have ho := (processMessage_sess hw1 u.get1).apply hpm
    refine ⟨fun _ => by rw [hcfg, ← u.config]; exact (ho.elim SessLe.lim fun ⟨_, _, h⟩ => h.elim SessLe.lim (·.2.2)).maxSessions,
      fun h => absurd h h6, ?_⟩
    have hdel : (maybeDeleteSession { c.st with lastProcessed := ⟨e.session.id, 0⟩ } e.session).sessions.length ≤
        c.st.sessions.length := maybeDeleteSession_length_le _ _
    rw [← length_eq u, ← u.config]
    rcases ho with hle | ⟨m, hm, hle | ⟨hsrv, hj, hlim⟩⟩
    · exact Or.inl (Nat.le_trans hdel hle.le)
    · exact Or.inl (Nat.le_trans hdel hle.le)
    · exact Or.inr ⟨Or.inr ⟨h2, s, m, u.get, hm, u.same.server ▸ hsrv, hj⟩, fun hpos => Nat.le_trans hdel (hlim.le hpos)⟩
  | config h6 => exact ⟨fun h => absurd h6 h, fun _ => rfl, Or.inl (Nat.le_refl _)⟩

/-- the configured session limit is respected (`0` = no limit) -/
def SessionsWithinLimit (st : St) : Prop :=
  st.config.maxSessions = 0 ∨ st.sessions.length ≤ st.config.maxSessions

/-- a Config entry does not lower the session limit below the current number of sessions -/
def ConfigKeepsSessionLimit (st : St) (e : Entry) : Prop :=
  e.type = 6 → ∀ cfg, e.cfg = some cfg → cfg.maxSessions = 0 ∨ st.sessions.length ≤ cfg.maxSessions

theorem EntrySess.within {st st' : St} {e : Entry} (h : EntrySess st st' e) (hl : SessionsWithinLimit st)
    (hcfg : ConfigKeepsSessionLimit st e) (hr : ∃ out, applyEntry st e = .ok (st', out)) :
    SessionsWithinLimit st' := by
  by_cases h6 : e.type = 6
  · obtain ⟨out, hr⟩ := hr
    obtain ⟨rfl, _⟩ := applyEntry_config h6 hr
    cases hc : e.cfg with
    | none => exact hl
    | some cfg => exact hcfg h6 cfg hc
  · have hm := h.maxSessions h6
    unfold SessionsWithinLimit
    rw [hm]
    by_cases hz : st.config.maxSessions = 0
    · exact Or.inl hz
    · right
      have hle : st.sessions.length ≤ st.config.maxSessions := hl.resolve_left hz
      rcases h.sess with hle' | ⟨_, hlim⟩
      · exact Nat.le_trans hle' hle
      · have := hlim (Nat.pos_of_ne_zero hz)
        omega

theorem run_sessions_within_limit {st st' : St} {es : List Entry} (hw : SessWf st) (hl : SessionsWithinLimit st)
    (hlh : Along ConfigKeepsSessionLimit st es) (hr : runEntries st es = .ok st') : SessionsWithinLimit st' :=
  (run_along (I := fun st => SessWf st ∧ SessionsWithinLimit st)
    (fun ⟨hw, hl⟩ hcfg hap => ⟨(applyEntry_flags hw hap).wf, (applyEntry_sess hw hap).within hl hcfg ⟨_, hap⟩⟩)
    ⟨hw, hl⟩ hlh hr).2

end Robust.Irc
