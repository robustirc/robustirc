import Robust.Irc.Proofs.HLogic
import Robust.Irc.Proofs.ChanModeSteps
/-!
The client handlers that change the state by ordinary updates keep every predicate that has an `HLogic`
(`HLogic.lean`, where the way a walk reads is explained): AWAY, INVITE, TOPIC, QUIT, PART, KICK, KILL, GLINE (which
also adds a ban: its one special step).
-/
namespace Robust.Irc
open Robust AMap

variable {I : Ctx → Prop} (L : HLogic I) {c : Ctx} {sid : Id} {m : IrcMsg}
include L

theorem cmdAway_keeps (hc : I c) (hm : L.Msg m) : (cmdAway c sid m).Sat I := by
  unfold cmdAway
  have ht := hm.trailing.map clean_trimSpace
  -- the stored text as a variable: `SKeep` is then closed by `rfl` without evaluating it
  generalize trimSpace m.trailing = away at ht
  refine .andThen (L.modS hc (fun _ => rfl) fun x _ hs => { hs with awayMsg := ht x }) fun c1 h1 => ?_
  refine .andThen (L.getS h1) fun s cs => ?_
  exact .ite' (.pure (L.srv "306" h1 ⟨cs.nick, L.lit clean_lit⟩)) (.pure (L.srv "305" h1 ⟨cs.nick, L.lit clean_lit⟩))

theorem cmdInvite_keeps (hc : I c) (hm : L.Msg m) : (cmdInvite c sid m).Sat I := by
  unfold cmdInvite
  refine .andThen (L.getS hc) fun s cs => .andThen hm.param fun nickname hn => .andThen hm.param fun chn hchn => ?_
  extract_lets lc
  have notOn : I (sendUser c sid (srv c "442" [s.nick, chn, "You're not on that channel"])) :=
    L.srv "442" hc ⟨cs.nick, hchn, L.lit clean_lit⟩
  cases hch : getChan c lc with
  | none => exact .pure notOn
  | some ch =>
    have cch := L.chan hc hch
    dsimp -zeta only
    cases AMap.get ch.nicks (nickToLower s.nick) with
    | none => exact .pure notOn
    | some mem =>
      dsimp -zeta only
      cases AMap.get c.st.nicks (nickToLower nickname) with
      | none => exact .pure (L.srv "401" hc ⟨cs.nick, hn, L.lit clean_lit⟩)
      | some tid =>
        refine .andThen (L.getS hc) fun t ct => ?_
        refine .ite' (.pure (L.srv "443" hc ⟨cs.nick, ct.nick, cch.name, L.lit clean_lit⟩)) ?_
        refine .ite' (.pure (L.srv "482" hc ⟨cs.nick, cch.name, L.lit clean_lit⟩)) ?_
        refine .andThen (L.modS hc (fun _ => rfl) fun _ _ hs => { hs with }) fun c1 h1 => ?_
        extract_lets c2 c3
        have h2 : I c2 := L.srv "341" h1 ⟨cs.nick, ct.nick, cch.name⟩
        have h3 : I c3 := L.relay "INVITE" h2 cs ⟨ct.nick, cch.name⟩
        refine .bind fun rc _ => ?_
        extract_lets c4
        have h4 : I c4 := L.srv "NOTICE" h3
          ⟨cch.name, cs.nick.append (L.lit clean_lit) |>.append hn |>.append (L.lit clean_lit)⟩
        exact .ite' (.pure (L.srv "301" h4 ⟨cs.nick, hn, ct.awayMsg⟩)) (.pure h4)

theorem cmdTopic_keeps (hc : I c) (hm : L.Msg m) : (cmdTopic c sid m).Sat I :=
  (cmdTopic_result c sid m).mono fun _ ⟨s, chn, hs, hp, h⟩ => by
    have cs := L.sess hc hs
    have hchn : L.Str chn := hm.params _ (List.mem_of_getElem? hp)
    cases h with
    | noChannel | notOn | notOp | unset => exact L.srv _ hc ⟨cs.nick, hchn, L.lit clean_lit⟩
    | shown hch =>
      have cch := L.chan hc hch
      exact L.srv "333" (L.srv "332" hc ⟨cs.nick, hchn, cch.topic⟩)
        ⟨cs.nick, hchn, cch.topicNick, L.lit (clean_toString_int _)⟩
    | cleared hch _ _ _ e =>
      subst e
      refine L.relayNick "TOPIC" (L.relay "TOPIC" (L.putChan hc hch rfl fun x => ?_) cs ⟨hchn, hm.trailing⟩) cs
        ⟨hchn, cs.nick, L.lit clean_lit, hm.trailing⟩
      exact { (L.chan hc hch).clean x with topicNick := clean_empty, topic := clean_empty }
    | set hch _ _ _ _ e =>
      subst e
      refine L.relayNick "TOPIC" (L.relay "TOPIC" (L.putChan hc hch rfl fun x => ?_) cs ⟨hchn, hm.trailing⟩) cs
        ⟨hchn, cs.nick, L.lit (clean_toString_int _), hm.trailing⟩
      exact { (L.chan hc hch).clean x with topicNick := cs.nick x, topic := hm.trailing x }

theorem cmdQuit_keeps (hc : I c) (hm : L.Msg m) : (cmdQuit c sid m).Sat I := by
  unfold cmdQuit
  refine .andThen (L.deleteSession hc) fun c1 h1 => .andThen (L.getS h1) fun s cs => ?_
  refine .ite' (.bind fun rc _ => ?_) (.pure h1)
  extract_lets c2
  have h2 : I c2 := L.relay "QUIT" h1 cs hm.trailing
  exact .pure (L.plain "ERROR" h2 ((L.lit clean_lit).append cs.nick |>.append (L.lit clean_lit) |>.append cs.phost
    |>.append (L.lit clean_lit) |>.append hm.trailing |>.append (L.lit clean_lit)))

theorem partOne_keeps {chn : String} (hc : I c) (hchn : L.Str chn) : (partOne c sid chn).Sat I := by
  unfold partOne
  refine .andThen (L.getS hc) fun s cs => ?_
  dsimp only
  cases getChan c (chanToLower chn) with
  | none => exact .pure (L.srv "403" hc ⟨cs.nick, hchn, L.lit clean_lit⟩)
  | some ch =>
    refine .ite' (.pure (L.srv "442" hc ⟨cs.nick, hchn, L.lit clean_lit⟩)) (.bind fun rc _ => ?_)
    exact L.leaveChannel (L.relay "PART" hc cs hchn)

theorem cmdPart_keeps (hc : I c) (hm : L.Msg m) : (cmdPart c sid m).Sat I := by
  unfold cmdPart
  exact .andThen hm.param fun p0 hp0 => .foldlM _ hc fun c1 ch hch h1 =>
    partOne_keeps L h1 fun x => splitChar_clean ',' (hp0 x) ch hch

theorem cmdKick_keeps (hc : I c) (hm : L.Msg m) : (cmdKick c sid m).Sat I := by
  unfold cmdKick
  refine .andThen (L.getS hc) fun s cs => .andThen hm.param fun chn hchn => .andThen hm.param fun target ht => ?_
  dsimp only
  cases getChan c (chanToLower chn) with
  | none => exact .pure (L.srv "403" hc ⟨cs.nick, hchn, L.lit clean_lit⟩)
  | some ch =>
    dsimp only
    cases AMap.get ch.nicks (nickToLower s.nick) with
    | none => exact .pure (L.srv "442" hc ⟨cs.nick, hchn, L.lit clean_lit⟩)
    | some perms =>
      refine .ite' (.pure (L.srv "482" hc ⟨cs.nick, hchn, L.lit clean_lit⟩)) ?_
      refine .ite' (.pure (L.srv "441" hc ⟨cs.nick, ht, hchn, L.lit clean_lit⟩)) ?_
      cases AMap.get c.st.nicks (nickToLower target) with
      | none => exact .panic _
      | some tid => exact .bind fun rc _ => L.leaveChannel (L.relay "KICK" hc cs ⟨hchn, ht, hm.trailing⟩)

theorem cmdKill_keeps (hc : I c) (hm : L.Msg m) : (cmdKill c sid m).Sat I := by
  unfold cmdKill
  refine .andThen (L.getS hc) fun s cs => .ite' (.pure (L.srv "481" hc ⟨cs.nick, L.lit clean_lit⟩)) ?_
  refine .andThen hm.param fun p0 hp0 => ?_
  cases AMap.get c.st.nicks (nickToLower p0) with
  | none => exact .pure (L.srv "401" hc ⟨cs.nick, hp0, L.lit clean_lit⟩)
  | some tid =>
    refine .andThen (L.deleteSession hc) fun c1 h1 => .andThen (L.getS h1) fun t ct => .andThen (L.getS h1) fun s1 cs1 => ?_
    refine .bind fun rc _ => ?_
    extract_lets c2 c3
    have h2 : I c2 := L.relay "QUIT" h1 ct
      ((L.lit clean_lit).append cs1.nick |>.append (L.lit clean_lit) |>.append hm.trailing)
    have h3 : I c3 := L.relay "KILL" h2 cs1 ⟨ct.nick, (L.lit clean_lit).append cs1.phost
      |>.append (L.lit clean_lit) |>.append cs1.nick |>.append (L.lit clean_lit) |>.append hm.trailing
      |>.append (L.lit clean_lit)⟩
    exact .pure (L.plain "ERROR" h3 ((L.lit clean_lit).append ct.nick |>.append (L.lit clean_lit) |>.append ct.phost
      |>.append (L.lit clean_lit) |>.append cs1.nick |>.append (L.lit clean_lit) |>.append hm.trailing
      |>.append (L.lit clean_lit)))

/-- GLINE adds a ban to the configuration and runs KILL.  `hban`: `I` survives the new ban. -/
theorem cmdGline_keeps
    (hban : ∀ {c : Ctx} {k r : String}, I c → L.Str r →
      I { c with st := { c.st with config := { c.st.config with banned := AMap.set c.st.config.banned k r } } })
    (hc : I c) (hm : L.Msg m) : (cmdGline c sid m).Sat I := by
  unfold cmdGline
  refine .andThen (L.getS hc) fun s cs => .ite' (.pure (L.srv "481" hc ⟨cs.nick, L.lit clean_lit⟩)) ?_
  refine .andThen hm.param fun p0 hp0 => ?_
  cases AMap.get c.st.nicks (nickToLower p0) with
  | none => exact .pure (L.srv "401" hc ⟨cs.nick, hp0, L.lit clean_lit⟩)
  | some tid =>
    refine .andThen (L.getS hc) fun t ct => .ite' ?_ (cmdKill_keeps L (hban hc hm.trailing) hm)
    exact .pure (L.srv "NOTICE" hc ⟨cs.nick, (L.lit clean_lit).append ct.nick |>.append (L.lit clean_lit)⟩)

end Robust.Irc
