import Robust.Irc.Proofs.ClientMid
import Robust.Irc.Proofs.H2Base
/-!
Handler proofs, group 1 (client handlers that change state) — part a:
`cmdMotd`, `cmdOper`, `maybeLogin`, `cmdUser`, `cmdPass`.  MOTD, OPER and `maybeLogin` are on the registration path,
which NICK enters before it can promise `Pre`: they are walked for an actor that is merely stored (`LStep`,
`ClientMid.lean`), and `ClientWp` follows (`ClientWp.of_lstep`).
-/
namespace Robust.Irc
open AMap

variable {G : Prop}

theorem cmdMotd_lstep {c : Ctx} {sid : Id} {m : IrcMsg} (h : Stored c sid) :
    (cmdMotd c sid m).Wp G fun c' => LStep c c' sid := by
  have h0 := LStep.refl h
  obtain ⟨s, hs, _⟩ := h
  unfold cmdMotd
  exact .bindEq (getS_of_get hs) (.pure (((h0.sendUser _ _).sendUser _ _).sendUser _ _))

theorem cmdMotd_wp : ClientWp cmdMotd 0 := .of_lstep cmdMotd_lstep

theorem cmdMotd_refused (c : Ctx) (sid : Id) (m : IrcMsg) : (cmdMotd c sid m).Sat fun c' => Refused c c' sid := by
  unfold cmdMotd
  exact .bind fun _ _ => .pure (((Refused.reply c sid _).sendUser _).sendUser _)

theorem cmdOper_lstep {c : Ctx} {sid : Id} {m : IrcMsg} (h : Stored c sid) :
    (cmdOper c sid m).Wp (2 ≤ m.params.length) fun c' => LStep c c' sid := by
  have h0 := LStep.refl h
  obtain ⟨s, hs, _⟩ := h
  unfold cmdOper
  refine .bindEq (getS_of_get hs) (.bind (param_wp Nat.lt_of_succ_lt) fun p0 _ _ => .bind (param_wp id) fun p1 _ _ =>
    .ite (fun _ => .pure (h0.sendUser _ _)) fun _ => .bind (modS_wp _ fun _ => ⟨s, hs⟩) fun c1 h1 _ => ?_)
  have l1 := h0.modS h1 (fun _ => ⟨rfl, rfl, rfl, rfl⟩) fun _ => rfl
  exact .bind (getS_wp fun _ => l1.stored.imp fun _ h => h.1) fun s1 _ _ => .pure ((l1.sendUser _ _).emit _ _)

theorem cmdOper_wp : ClientWp cmdOper 2 := .of_lstep cmdOper_lstep

theorem loginBanner_out (c : Ctx) (sid : Id) (s : Session) : OutStep c (loginBanner c sid s) := by
  unfold loginBanner
  extract_lets sn c1 c2 c3 c4 c5 c6 pass
  have h6 : OutStep c c6 :=
    ((((((OutStep.refl c).sendUser _ _).sendUser _ _).sendUser _ _).sendUser _ _).sendUser _ _).emit _ _
  exact ite_ind (P := OutStep c) (fun _ => h6.emit _ _) fun _ => h6

theorem trimRight_cons {p : Char → Bool} {a : Char} (l : List Char) (ha : p a = false) :
    ((a :: l).reverse.dropWhile p).reverse = a :: (l.reverse.dropWhile p).reverse := by
  rw [List.reverse_cons, List.dropWhile_append]
  have h1 : List.dropWhile p [a] = [a] := by simp [List.dropWhile, ha]
  split
  · rename_i h
    rw [List.isEmpty_iff] at h
    rw [h, h1]; rfl
  · simp

/-- the line `maybeLogin` builds for the automatic `OPER` always parses -/
theorem parseMessage_oper (x : String) : ∃ pm, parseMessage ("OPER " ++ x) = some pm :=
  (String.append_assoc (s₁ := "OPER") (s₂ := " ") (s₃ := x)) ▸
    parseMessage_some_of_prefix "OPER" (" " ++ x) 'O' 'P' ['E', 'R'] rfl (by decide) (by decide)

theorem loginOper_lstep {c : Ctx} {sid : Id} {s : Session} (h : Stored c sid) :
    (loginOper c sid s).Wp G fun c' => LStep c c' sid := by
  unfold loginOper
  refine .ite (fun _ => ?_) fun _ => .pure (.refl h)
  obtain ⟨pm, hpm⟩ := parseMessage_oper (extractPassword s.pass "oper")
  rw [hpm]
  exact .ite (fun hn => (cmdOper_lstep h).gate fun _ => hn) fun _ => .pure (.refl h)

theorem maybeLogin_lstep {c : Ctx} {sid : Id} {m : IrcMsg} (h : Stored c sid) :
    (maybeLogin c sid m).Wp G fun c' => LStep c c' sid := by
  have h0 := LStep.refl h
  obtain ⟨s, hs, _⟩ := h
  rw [maybeLogin_eq]
  refine .bindEq (getS_of_get hs) (.ite (fun _ => .pure h0) fun _ => .ite (fun _ => .pure h0) fun hnn =>
    .ite (fun _ => .declined _) fun _ => .bind (modS_wp _ fun _ => ⟨s, hs⟩) fun c1 h1 _ => ?_)
  have hnick : s.nick ≠ "" := fun he => hnn (by simp [he])
  have l1 := (h0.modS' h1 (fun _ => ⟨rfl, rfl, rfl, rfl⟩) fun s' hs' _ => by
    rw [hs] at hs'; cases hs'; exact hnick).of_st (loginBanner_st c1 sid s) (loginBanner_out c1 sid s)
  refine .bind (loginOper_lstep l1.stored) fun c2 _ l2 => ?_
  have l12 := l1.trans l2
  refine .bind (modS_wp _ fun _ => l12.stored.imp fun _ h => h.1) fun c3 h3 _ => ?_
  have l3 := l12.modS h3 (fun _ => ⟨rfl, rfl, rfl, rfl⟩) fun _ => rfl
  exact (cmdMotd_lstep l3.stored).mono fun _ l4 => l3.trans l4

theorem maybeLogin_preserves : Preserves maybeLogin :=
  fun _ _ _ c' hp hr => (((maybeLogin_lstep (G := False) hp.stored).sat c' hr).mid (.refl hp)).cpost.post

theorem updateIrcPrefix_inert : CoreKeep updateIrcPrefix := fun _ => ⟨rfl, rfl, rfl, rfl⟩

theorem updateIrcPrefix_loggedIn (s : Session) : (updateIrcPrefix s).loggedIn = s.loggedIn := rfl

/-- `USER` and `PASS`: an update of fields the invariant does not mention, then `maybeLogin` -/
theorem CMid.modS_maybeLogin {c : Ctx} {sid : Id} (m : IrcMsg) {f : Session → Session} (hp : Pre c sid)
    (hf : CoreKeep f) (hl : ∀ s, (f s).loggedIn = s.loggedIn) :
    (modS c sid f >>= fun c => maybeLogin c sid m).Wp G fun c' => CMid c c' sid :=
  .bind (modS_wp _ fun _ => hp.actor) fun _ h1 _ =>
    have m1 := (CMid.refl hp).modS_inert h1 hf hl
    (maybeLogin_lstep m1.pre.stored).mono fun _ l => l.mid m1

theorem cmdUser_wp : ClientWp cmdUser 3 := fun c sid m hp => by
  unfold cmdUser
  exact .bind (param_wp fun hn => Nat.lt_of_succ_lt (Nat.lt_of_succ_lt hn)) fun u _ _ =>
    CMid.modS_maybeLogin m hp (fun _ => updateIrcPrefix_inert _) fun _ => updateIrcPrefix_loggedIn _

theorem cmdPass_wp : ClientWp cmdPass 0 := fun c sid m hp => by
  unfold cmdPass
  exact CMid.modS_maybeLogin m hp (fun _ => ⟨rfl, rfl, rfl, rfl⟩) fun _ => rfl

end Robust.Irc
