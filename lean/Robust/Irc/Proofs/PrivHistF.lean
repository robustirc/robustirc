import Robust.Irc.Proofs.PrivHistH
import Robust.Irc.Proofs.PrivDispatch
import Robust.Irc.Proofs.CommandTable
import Robust.Irc.Proofs.StableEntry
import Robust.Irc.Proofs.Along
/-!
The frame for chanop flags for every handler that cannot set one (`handler_opsAll`) and for every client
handler of the table (`handler_opsFrame`), through `processMessage`, and for a committed entry
(`applyEntry_opsMono`); `UnprivHistory` is the side
condition of the history theorem in `Props/C13.lean`.
Partial: the flags are tracked by member key (lower-cased nick); entries of services links and
of IRC operators are not covered.
-/
namespace Robust.Irc
open Robust AMap

/-- every handler but those that can set a chanop flag (MODE, JOIN, NICK and their services counterparts) keeps
`OpsLe`, a `Stable` predicate that reads the channels only, whoever runs it -/
theorem handler_opsAll {fname : String} {h : Handler} (hh : handlerByName fname = some h)
    (hsafe : fname ≠ "cmdMode" ∧ fname ≠ "cmdJoin" ∧ fname ≠ "cmdNick" ∧ fname ≠ "cmdServerMode" ∧
      fname ≠ "cmdServerJoin" ∧ fname ≠ "cmdServerSvsjoin" ∧ fname ≠ "cmdServerSvsnick") : OpsAll h :=
  fun c _ _ _ lc hr => (handler_stable (OpsLe.stable lc c) hh
    (.of_channels (fun e h n hn => h n (by rw [← e]; exact hn)) hsafe (OpsLe.refl lc c)) (OpsLe.refl lc c)).apply hr

/-- MODE, JOIN and NICK of a client need these conditions on the sender; every other client handler is `OpsAll` -/
theorem handler_opsFrame {fname : String} {h : Handler} (hh : handlerByName fname = some h)
    (hns : isServicesHandlerName fname = false) {c c' : Ctx} {sid : Id} {m : IrcMsg} {s : Session} {lc : String}
    (hs : AMap.get c.st.sessions sid = some s) (hno : s.operator = false) (hnop : chanOpOf c.st s.nick lc = false)
    (hex : ChanEx lc c) (hr : h c sid m = .ok c') : OpsLe lc c c' := by
  by_cases h1 : fname = "cmdMode"
  · subst h1; cases (Option.some.inj hh : cmdMode = h); exact (cmdMode_opsLe hs hnop hno).apply hr
  by_cases h2 : fname = "cmdJoin"
  · subst h2; cases (Option.some.inj hh : cmdJoin = h); exact (cmdJoin_opsLe (.refl _ _) hex).apply hr
  by_cases h3 : fname = "cmdNick"
  · subst h3; cases (Option.some.inj hh : cmdNick = h); exact (cmdNick_opsLe hs hnop).apply hr
  have ns : ∀ f, isServicesHandlerName f = true → fname ≠ f := fun f hf e => by rw [e, hf] at hns; cases hns
  exact handler_opsAll hh ⟨h1, h2, h3, ns _ (by decide +kernel), ns _ (by decide +kernel), ns _ (by decide +kernel), ns _ (by decide +kernel)⟩
    c sid m c' lc hr

/-- the address stage and the gate perform ordinary updates only (`processMessage_keeps`); the dispatch of a client
line selects a client handler -/
theorem processMessage_ops {c c' : Ctx} {e : Entry} {s : Session} {im : Option IrcMsg} {lc : String}
    (hs : AMap.get c.st.sessions e.session = some s) (hid : s.id = e.session)
    (hsv : s.server = false) (hno : s.operator = false)
    (hnop : chanOpOf c.st s.nick lc = false) (hex : ChanEx lc c)
    (hr : processMessage c e im = .ok c') : OpsLe lc c c' := by
  refine processMessage_keeps (.stable (OpsLe.stable lc c)) (OpsLe.refl lc c) (fun _ _ => .of_not id) (fun _ h => h)
    (fun {m s0 s1 c1 fname mp h} _ k o1 => ?_) hr
  cases hs.symm.trans k.stored
  obtain ⟨a, rfl, _, hch, _⟩ := k.actor_eq hid
  have hl := k.row
  rw [show (if ({ s with remoteAddr := a } : Session).server = true then "server_" else "") = "" from by
    rw [show ({ s with remoteAddr := a } : Session).server = false from hsv]; rfl, String.empty_append] at hl
  refine OpsLe.trans o1 (handler_opsFrame k.handler (lookup_client_not_services hl) (s := { s with remoteAddr := a })
    (hid ▸ k.actor) hno ?_ (hex.of_eq hch) k.ret)
  rw [chanOpOf_eq, hch, ← chanOpOf_eq]
  exact hnop

def OpsMono (st st' : St) (lc : String) : Prop :=
  ∀ n, opFlagC st'.channels lc n = true → opFlagC st.channels lc n = true

/-- the entry `e`, applied to `st`, is not made by a privileged actor with respect to channel `lc`:
its session (if stored) is neither a services link, nor an IRC operator, nor a chanop of `lc`; and
`lc` exists (so that no JOIN creates it) -/
def UnprivEntry (lc : String) (st : St) (e : Entry) : Prop :=
  (e.type = 1 ∨ e.type = 2) → ∀ s, AMap.get st.sessions e.session = some s →
    s.server = false ∧ s.operator = false ∧ chanOpOf st s.nick lc = false ∧ (AMap.get st.channels lc).isSome = true

def UnprivHistory (lc : String) (st : St) : List Entry → Prop
  | [] => True
  | e :: es => UnprivEntry lc st e ∧ ∀ st' out, applyEntry st e = .ok (st', out) → UnprivHistory lc st' es

theorem unprivHistory_iff {lc : String} {st : St} {es : List Entry} :
    UnprivHistory lc st es ↔ Along (UnprivEntry lc) st es :=
  along_iff (fun _ => trivial) Iff.rfl

theorem OpsMono.refl (st : St) (lc : String) : OpsMono st st lc := fun _ h => h
theorem OpsMono.trans {a b c : St} {lc : String} (h1 : OpsMono a b lc) (h2 : OpsMono b c lc) : OpsMono a c lc :=
  fun n h => h1 n (h2 n h)

theorem OpsMono.of_eq {st st' : St} {lc : String} (e : st'.channels = st.channels) : OpsMono st st' lc :=
  fun n hn => by rw [← e]; exact hn

/-- what DeleteSession and IRCFromClient entries do after their bookkeeping: `processMessage` for the
actor `s1`, then the actor's session is dropped if it closed -/
theorem entryTail_opsMono {st1 : St} {e : Entry} {s1 : Session} {im : Option IrcMsg} {c : Ctx} {lp : Id} {lc : String}
    (hpm : processMessage { st := st1, msgid := e.id } e im = .ok c)
    (hs1 : AMap.get st1.sessions e.session = some s1) (hid : s1.id = e.session)
    (hk : s1.server = false ∧ s1.operator = false ∧ chanOpOf st1 s1.nick lc = false ∧
      (AMap.get st1.channels lc).isSome = true) :
    OpsMono st1 (maybeDeleteSession { c.st with lastProcessed := lp } e.session) lc := fun n hn => by
  rw [(maybeDeleteSession_other _ _).2.2.2] at hn
  exact processMessage_ops (c := { st := st1, msgid := e.id }) hs1 hid hk.1 hk.2.1 hk.2.2.1 hk.2.2.2 hpm n hn

/-- **Where chanop flags can come from.**  A committed entry whose actor is not a services link, not
an IRC operator and not a channel operator of the existing channel `lc` sets no chanop flag in `lc`:
every member key of `lc` that carries the flag afterwards carried it before.  (So for a client a flag
can only appear through `MODE +o` by a chanop of `lc` or by an IRC operator, or through the JOIN that
creates `lc`; a NICK change moves the flag along with the nick, which for a non-operator moves
nothing.)  Entries other than DeleteSession and IRCFromClient leave all channels as they are. -/
theorem applyEntry_opsMono {st : St} {e : Entry} {lc : String}
    (hid : ∀ s, AMap.get st.sessions e.session = some s → s.id = e.session) (hu : UnprivEntry lc st e) :
    (applyEntry st e).Sat fun r => OpsMono st r.1 lc := by
  intro ⟨st', out⟩ hr
  cases applyEntry_run hr with
  | skip => exact .refl _ _
  | config => exact .of_eq rfl
  | create _ hcs => rw [createSession_eq hcs]; exact .of_eq rfl
  | death _ hu1 =>
    obtain ⟨_, _, _, _, rfl⟩ := updateLastClientMessageID_eq hu1
    exact .of_eq rfl
  | delete h1 hs hpm => exact entryTail_opsMono hpm hs (hid _ hs) (hu (.inl h1) _ hs)
  | client h2 hu1 hpm =>
    -- `UpdateLastClientMessageID` touches neither the channels nor the actor's nick and flags
    obtain ⟨s, _, _, hs, rfl⟩ := updateLastClientMessageID_eq hu1
    obtain ⟨hsv, hno, hnop, hex⟩ := hu (.inr h2) s hs
    rw [chanOpOf_eq] at hnop
    -- `(… :)`: elaborated without the goal, which would fix `st1 := st` (it speaks of `st`, whose channels are those
    -- of the state `hpm` starts from only by reduction) before `hpm` is looked at
    exact (entryTail_opsMono hpm (AMap.get_set_same _ _ _) (hid s hs) ⟨hsv, hno, (chanOpOf_eq ..).trans hnop, hex⟩ :)

end Robust.Irc
