import Robust.Irc.Proofs.HLogic
import Robust.Irc.Proofs.EntrySteps
/-!
`ProcessMessage` keeps every predicate that has an `HLogic`, given that the handler it calls does: its own lines
(421, 451, 461, the two `ERROR`s) and updates (the remote address, a closed session) are ordinary ones.
-/
namespace Robust.Irc
open Robust AMap

variable {I : Ctx → Prop} (L : HLogic I) {c : Ctx} {e : Entry}
include L

theorem AddrRun.keeps {s : Session} {c1 : Ctx} {b : Bool} (h : AddrRun c e s c1 b) (hc : I c) : I c1 := by
  have store {c0 : Ctx} (hm : modS c s.id (withAddr e.remoteAddr) = .ok c0) : I c0 :=
    (L.modS (f := withAddr e.remoteAddr) hc (fun _ => rfl) fun _ _ hs => { hs with }).apply hm
  cases h with
  | same => exact hc
  | stored _ hm => exact store hm
  | banned _ hm hb _ hd =>
    have h0 := store hm
    refine Res.Sat.apply (P := I) ?_ hd
    exact L.deleteSession (L.plain "ERROR" h0 ((L.lit clean_lit).append (L.banned h0 hb) |>.append (L.lit clean_lit)))

/-- **`ProcessMessage`**: what is left to show is the call of the handler (`Called`), from a context that satisfies `I` -/
theorem processMessage_keeps {Q : Ctx → Prop} {im : Option IrcMsg} {c' : Ctx} (hc : I c)
    (hm : ∀ m, im = some m → L.Msg m) (hQ : ∀ c', I c' → Q c')
    (hcall : ∀ {m : IrcMsg} {s s1 : Session} {c1 : Ctx} {fname : String} {mp : Nat} {h : Handler}, im = some m →
      Called c e m s c1 s1 fname mp h c' → I c1 → Q c')
    (hr : processMessage c e im = .ok c') : Q c' := by
  cases processMessage_run hr with
  | unparsed hs => exact hQ _ (L.srv "421" hc ⟨(L.sess hc hs).nick, L.lit clean_lit⟩)
  | banned _ ha => exact hQ _ (ha.keeps L hc)
  | gate hs ha hg =>
    have h1 := ha.keeps L hc
    have hm := hm _ rfl
    cases hg with
    | refused => exact hQ _ (L.srv "451" h1 ⟨hm.upperCommand, L.lit clean_lit⟩)
    | expired _ _ hd =>
      refine hQ _ (Res.Sat.apply (P := I) ?_ hd)
      exact L.deleteSession (L.plain "ERROR" (L.srv "451" h1 ⟨hm.upperCommand, L.lit clean_lit⟩) (L.lit clean_lit))
    | unknown hs1 => exact hQ _ (L.srv "421" h1 ⟨(L.sess h1 hs1).nick, hm.upperCommand, L.lit clean_lit⟩)
    | fewParams hs1 => exact hQ _ (L.srv "461" h1 ⟨(L.sess h1 hs1).nick, hm.upperCommand, L.lit clean_lit⟩)
    | call hs1 hg hl hlen hh hr => exact hcall rfl ⟨hs, ha, hs1, hg, hl, hlen, hh, hr⟩ h1

end Robust.Irc
