import Robust.Irc.Proofs.KeepsClientA
import Robust.Irc.Proofs.KeepsClientB
import Robust.Irc.Proofs.KeepsSrv
import Robust.Irc.Proofs.HandlerTable
/-!
Every handler of the command table keeps every predicate that has an `HLogic`: the one table over `handlerByName`
(`handler_keeps`), read by `CCtx`, `KStep` and every `Stable` predicate.  What a family adds is a value of
`L.Special`: one field per step that a walk `cmdX_keeps` takes as a hypothesis, asked for only of the handler that
makes it.
-/
namespace Robust.Irc
open Robust AMap

/-- handlers that build a line under a prefix taken from the message (`servicesPrefix m`, `m.pfx`) -/
def usesMsgPfx (fname : String) : Bool :=
  ["cmdServerInvite", "cmdServerJoin", "cmdServerKick", "cmdServerKill", "cmdServerMode", "cmdServerPrivmsg",
    "cmdServerPart", "cmdServerTopic"].contains fname

variable {I : Ctx → Prop}

/-- what the handler registered as `fname`, run for `sid` at `c` with `m`, needs of `I` beyond `L` (MODE, JOIN and
the services' MODE, JOIN and SVSJOIN share `members`, the three JOINs `addsChan`; NICK and USER share `login`) -/
structure HLogic.Special (L : HLogic I) (fname : String) (c : Ctx) (sid : Id) (m : IrcMsg) : Prop where
  «alias» : fname = "cmdServiceAlias" → L.cmds → ∀ a ∈ serviceAliases, ∀ pm,
    parseMessage (a.2 ++ joinStr " " m.params) = some pm → ∀ s, AMap.get c.st.sessions sid = some s → ∀ ps,
      HasCommand (IrcMsg.mk (some s.ircPrefix) pm.command ps).render
  privmsg : fname = "cmdPrivmsg" → L.cmds → ∀ s, AMap.get c.st.sessions sid = some s → ∀ ps,
    HasCommand (IrcMsg.mk (some s.ircPrefix) m.command ps).render
  pfx : usesMsgPfx fname = true → L.cmds → PfxArgOK m
  svcCmd : fname = "cmdServerPrivmsg" → L.cmds → GoodCmd m.command
  gline : fname = "cmdGline" → ∀ {c : Ctx} {k r : String}, I c → L.Str r →
    I { c with st := { c.st with config := { c.st.config with banned := AMap.set c.st.config.banned k r } } }
  members : fname = "cmdMode" ∨ fname = "cmdJoin" ∨ fname = "cmdServerMode" ∨ fname = "cmdServerJoin" ∨
    fname = "cmdServerSvsjoin" → HLogic.SetsMembers I
  addsChan : fname = "cmdJoin" ∨ fname = "cmdServerJoin" ∨ fname = "cmdServerSvsjoin" → L.AddsChan
  nick : fname = "cmdNick" → ∀ n (c0 : Ctx), c0.st.sessions = c.st.sessions → L.NickUpd sid n c0
  svsnick : fname = "cmdServerSvsnick" → ∀ tid n, L.NickUpd tid n c
  login : fname = "cmdNick" ∨ fname = "cmdUser" → OperLogin sid c →
    ∀ ⦃c1 : Ctx⦄, I c1 → (Robust.Irc.modS c1 sid operSession).Sat I
  oper : fname = "cmdOper" → operCreds c.st.config m = true →
    ∀ ⦃c1 : Ctx⦄, I c1 → (Robust.Irc.modS c1 sid operSession).Sat I
  pass : fname = "cmdPass" → ∀ ⦃c1 : Ctx⦄, I c1 → (Robust.Irc.modS c1 sid operSession).Sat I
  user : fname = "cmdUser" → ∀ u, m.params[0]? = some u → ∀ ⦃c1 : Ctx⦄, I c1 →
    (Robust.Irc.modS c1 sid fun s =>
      updateIrcPrefix { s with username := truncateUsername u, realname := m.trailing }).Sat I
  server : fname = "cmdServer" → ∀ {s : Session} {p0 : String}, AMap.get c.st.sessions sid = some s →
    servicesAuth c.st.config s.pass = true → m.params[0]? = some p0 → L.Str p0 →
    (Robust.Irc.modS c sid fun s => { s with server := true, ircPrefix := ⟨p0, "", ""⟩ }).Sat I
  /-- the services' NICK stores a new session -/
  serverNick : fname = "cmdServerNick" → ∀ {s : Session} {p0 p3 : String} {st1 : St} {c2 : Ctx},
    AMap.get c.st.sessions sid = some s → isValidNickname p0 = true → L.Str p0 → L.Str p3 →
    AMap.get c.st.sessions ⟨s.id.id, fnv64 p0⟩ = none →
    createSession c.st ⟨s.id.id, fnv64 p0⟩ "" s.lastActivity = some st1 →
    Robust.Irc.modS { c with st := st1 } ⟨s.id.id, fnv64 p0⟩
      (fun ss => updateIrcPrefix { ss with nick := p0, username := truncateUsername p3, realname := m.trailing }) =
        .ok c2 → I c2

theorem handler_keeps (L : HLogic I) {fname : String} {h : Handler} (hh : handlerByName fname = some h) {c : Ctx}
    {sid : Id} {m : IrcMsg} (S : L.Special fname c sid m) (hc : I c) (hm : L.Msg m) : (h c sid m).Sat I := by
  revert S
  exact handlerByName_cases (P := fun fname h => L.Special fname c sid m → (h c sid m).Sat I)
    (fun _ => cmdAway_keeps L hc hm)
    (fun S => cmdServiceAlias_keeps L hc hm (S.alias rfl))
    (fun S => cmdGline_keeps L (S.gline rfl) hc hm)
    (fun _ => cmdInvite_keeps L hc hm)
    (fun _ => cmdIson_keeps L hc)
    (fun S => cmdJoin_keeps L (S.members (.inr (.inl rfl))) (S.addsChan (.inl rfl)) hc hm)
    (fun _ => cmdKick_keeps L hc hm)
    (fun _ => cmdKill_keeps L hc hm)
    (fun _ => cmdKnock_keeps L hc hm)
    (fun _ => cmdList_keeps L hc)
    (fun S => cmdMode_keeps L (fun _ _ => S.members (.inl rfl)) hc hm)
    (fun _ => cmdMotd_keeps L hc)
    (fun _ => cmdNames_keeps L hc hm)
    (fun S => cmdNick_keeps L (S.nick rfl) (S.login (.inl rfl)) hc hm)
    (fun S => cmdOper_keeps L (S.oper rfl) hc)
    (fun _ => cmdPart_keeps L hc hm)
    (fun S => cmdPass_keeps L (S.pass rfl) hc hm)
    (fun _ => cmdPing_keeps L hc hm)
    (fun S => cmdPrivmsg_keeps L hc hm (S.privmsg rfl))
    (fun _ => cmdQuit_keeps L hc hm)
    (fun S => cmdServer_keeps L (S.server rfl) hc hm)
    (fun _ => cmdTopic_keeps L hc hm)
    (fun S => cmdUser_keeps L (S.user rfl) (S.login (.inr rfl)) hc)
    (fun _ => cmdUserhost_keeps L hc)
    (fun _ => cmdWho_keeps L hc hm)
    (fun _ => cmdWhois_keeps L hc hm)
    (fun S => cmdServerInvite_keeps L hc hm (S.pfx rfl))
    (fun S => cmdServerJoin_keeps L (S.members (.inr (.inr (.inr (.inl rfl))))) (S.addsChan (.inr (.inl rfl))) hc hm
      (S.pfx rfl))
    (fun S => cmdServerKick_keeps L hc hm (S.pfx rfl))
    (fun S => cmdServerKill_keeps L hc hm (S.pfx rfl))
    (fun S => cmdServerMode_keeps L (S.members (.inr (.inr (.inl rfl)))) hc hm (S.pfx rfl))
    (fun S => cmdServerNick_keeps L (S.serverNick rfl) hc hm)
    (fun S => cmdServerPrivmsg_keeps L hc hm (S.pfx rfl) (S.svcCmd rfl))
    (fun S => cmdServerPart_keeps L hc hm (S.pfx rfl))
    (fun _ => cmdServerQuit_keeps L hc hm)
    (fun _ => cmdServerSvshold_keeps L hc hm)
    (fun S => cmdServerSvsjoin_keeps L (S.members (.inr (.inr (.inr (.inr rfl))))) (S.addsChan (.inr (.inr rfl))) hc hm)
    (fun _ => cmdServerSvsmode_keeps L hc hm)
    (fun S => cmdServerSvsnick_keeps L (S.svsnick rfl) hc hm)
    (fun _ => cmdServerSvspart_keeps L hc hm)
    (fun S => cmdServerTopic_keeps L hc hm (S.pfx rfl))
    hh

end Robust.Irc
