import Robust.Irc.Proofs.RcptNick
import Robust.Irc.Proofs.RcptQuit
/-!
C12, part 2e: the remaining client handlers — MOTD and AWAY (every line goes to the caller only; for the read-only
handlers that is `RepliesWp.out`), the login sequence (USER / PASS / OPER / MOTD), the service aliases, GLINE and
SERVER.
-/
namespace Robust.Irc
open Robust AMap

/-- closes goals `NewOut (ToOnly sid) c (sendUser (sendUser (… c …) sid …) sid …)` -/
macro "toonly_tac" : tactic =>
  `(tactic| repeat (first
      | assumption
      | exact NewOut.refl _ _
      | refine NewOut.sendUser ?_ (fun _ _ => rfl)
      | apply NewOut.ite))

/-- brute-force walk through a read-only handler all of whose lines go to the caller -/
macro "toonly_auto" h:ident : tactic =>
  `(tactic| repeat' (first
      | split at $h:ident
      | (obtain ⟨_, _, $h:ident⟩ := Res.bind_eq_ok.1 $h:ident)
      | dsimp only at $h:ident
      | (cases $h:ident; toonly_tac; done)))

theorem cmdAway_out {c c' : Ctx} {sid : Id} {m : IrcMsg} (hr : cmdAway c sid m = .ok c') :
    NewOut (ToOnly sid) c c' := by
  refine Res.Sat.apply ?_ hr
  unfold cmdAway
  refine .bind fun c1 h1 => .bind fun s _ => ?_
  have h0 : NewOut (ToOnly sid) c c1 := (NewOut.refl _ c).frame (.modS h1)
  exact .ite (fun _ => .pure (h0.sendUser fun _ _ => rfl)) fun _ => .pure (h0.sendUser fun _ _ => rfl)

theorem cmdOper_out {c c' : Ctx} {sid : Id} {m : IrcMsg} (hp : Pre c sid) (hr : cmdOper c sid m = .ok c') :
    NewOut (LoginLine c.st sid) c c' :=
  ((cmdOper_loginLines hp.inv.toWInvCore.idOK rfl).apply hr).1

/-- USER and PASS: a field of the session is set (not its id, not its channel list), then the login is tried -/
theorem loginAfter {c c1 c' : Ctx} {sid : Id} {m : IrcMsg} {f : Session → Session} (hp : Pre c sid)
    (h1 : modS c sid f = .ok c1) (hr : maybeLogin c1 sid m = .ok c') (hid : ∀ s, (f s).id = s.id)
    (hch : ∀ s, (f s).channels = s.channels) : NewOut (LoginLine c.st sid) c c' := by
  have k1 : ListsKept c c1 := (ListsKept.refl hp.inv.toWInvCore.idOK).modS h1 hid hch
  exact ((NewOut.refl _ c).frame (.modS h1)).trans ((maybeLogin_loginLines k1.idok k1.svc).apply hr).1

theorem cmdUser_out {c c' : Ctx} {sid : Id} {m : IrcMsg} (hp : Pre c sid) (hr : cmdUser c sid m = .ok c') :
    NewOut (LoginLine c.st sid) c c' := by
  unfold cmdUser at hr
  obtain ⟨u, _, hr⟩ := Res.bind_eq_ok.1 hr
  obtain ⟨c1, h1, hr⟩ := Res.bind_eq_ok.1 hr
  exact loginAfter hp h1 hr (fun _ => (updateIrcPrefix_inert _).1) fun _ => (updateIrcPrefix_inert _).2.2.2

theorem cmdPass_out {c c' : Ctx} {sid : Id} {m : IrcMsg} (hp : Pre c sid) (hr : cmdPass c sid m = .ok c') :
    NewOut (LoginLine c.st sid) c c' := by
  unfold cmdPass at hr
  obtain ⟨c1, h1, hr⟩ := Res.bind_eq_ok.1 hr
  exact loginAfter hp h1 hr (fun _ => rfl) fun _ => rfl

/-! ### service aliases (`NS`, `CS`, … = `PRIVMSG NickServ :…`) -/

theorem cmdServiceAlias_out {c c' : Ctx} {sid : Id} {m : IrcMsg} {s : Session} (hw : WInv c.st)
    (hs : AMap.get c.st.sessions sid = some s) (hr : cmdServiceAlias c sid m = .ok c') :
    NewOut (fun o => ∃ pm, PrivmsgLine c.st sid s pm o) c c' := by
  unfold cmdServiceAlias at hr
  split at hr
  · cases hr; exact NewOut.refl _ _
  · split at hr
    · cases hr
    · rename_i pm _
      exact (cmdPrivmsg_out hw hs hr).2.mono fun _ h => ⟨pm, h⟩

/-! ### GLINE = ban the address, then KILL -/

/-- `KillLine` only reads the session store, the nick index and the services links -/
theorem KillLine.setConfig {st : St} {cfg : Config} {sid : Id} {s : Session} {m : IrcMsg} {o : Out}
    (h : KillLine { st with config := cfg } sid s m o) : KillLine st sid s m o := by
  cases h with
  | reply h => exact .reply h
  | quit p0 tid t hop hp hi ht hd hr => exact .quit p0 tid t hop hp hi ht hd hr
  | victim p0 tid hop hp hi h => exact .victim p0 tid hop hp hi h

theorem cmdKill_out_cfg {c c' : Ctx} {sid : Id} {m : IrcMsg} {s : Session} (cfg : Config) (hp : Pre c sid)
    (hn : NI c.st) (hs : AMap.get c.st.sessions sid = some s)
    (hr : cmdKill { c with st := { c.st with config := cfg } } sid m = .ok c') :
    NewOut (KillLine c.st sid s m) c c' := by
  have h2 := cmdKill_out (s := s) (hp.setConfig cfg) (hn.congr rfl rfl rfl) hs hr
  exact (NewOut.of_out rfl).trans (h2.mono fun _ => KillLine.setConfig)

theorem cmdGline_out {c c' : Ctx} {sid : Id} {m : IrcMsg} {s : Session} (hp : Pre c sid) (hn : NI c.st)
    (hs : AMap.get c.st.sessions sid = some s) (hr : cmdGline c sid m = .ok c') :
    NewOut (KillLine c.st sid s m) c c' := by
  refine Res.Sat.apply ?_ hr
  have reply : ∀ msg, NewOut (KillLine c.st sid s m) c (sendUser c sid msg) :=
    fun _ => (NewOut.refl _ c).sendUser fun _ _ => .reply rfl
  unfold cmdGline
  refine .bindEq (getS_of_get hs) (.ite (fun _ => .pure (reply _)) fun _ => .bind fun p0 _ => ?_)
  cases AMap.get c.st.nicks (nickToLower p0) with
  | none => exact .pure (reply _)
  | some tid => exact .bind fun t _ => .ite (fun _ => .pure (reply _)) fun _ _ hr => cmdKill_out_cfg _ hp hn hs hr

/-! ### SERVER (a client session becomes a services link) -/

inductive ServerLine (st : St) (sid : Id) (o : Out) : Prop
  /-- `ERROR :Invalid password`: to the caller only -/
  | error (h : ToOnly sid o)
  /-- `SERVER …` and the burst (`NICK`, `SJOIN` for every registered client): to the services links, the new
  link included -/
  | burst (h : o.rcpt = st.serverSessions ++ [sid.id])

/-- the invariant of the burst: the services links are the old ones plus the new link, and every line so far is a
`ServerLine` -/
def SrvI (c : Ctx) (sid : Id) (ci : Ctx) : Prop :=
  ci.st.serverSessions = c.st.serverSessions ++ [sid.id] ∧ NewOut (ServerLine c.st sid) c ci

theorem SrvI.sendSvc {c ci : Ctx} {sid : Id} (h : SrvI c sid ci) (m : IrcMsg) : SrvI c sid (sendSvc ci m) :=
  ⟨h.1, h.2.emit fun _ _ => .burst h.1⟩

theorem serverBurstChan_srvI {c ci : Ctx} {sid : Id} {t : Session} {lc : String} (h : SrvI c sid ci) :
    (serverBurstChan t ci lc).Sat (SrvI c sid) := by
  unfold serverBurstChan
  cases getChan ci lc with
  | none => exact .panic _
  | some ch =>
    dsimp only
    cases AMap.get ch.nicks (nickToLower t.nick) with
    | none => exact .panic _
    | some mem => exact .pure (h.sendSvc _)

theorem serverBurstNick_srvI {c ci : Ctx} {sid : Id} {nick : String} (h : SrvI c sid ci) :
    (serverBurstNick ci nick).Sat (SrvI c sid) := by
  unfold serverBurstNick
  cases AMap.get ci.st.nicks nick with
  | none => exact .panic _
  | some tid =>
    refine .bind fun t _ => .ite (fun _ => .pure h) fun _ => ?_
    exact .foldlM _ (h.sendSvc _) fun _ _ _ hi => serverBurstChan_srvI hi

theorem cmdServer_out {c c' : Ctx} {sid : Id} {m : IrcMsg} (hr : cmdServer c sid m = .ok c') :
    NewOut (ServerLine c.st sid) c c' := by
  rw [cmdServer_eq] at hr
  refine Res.Sat.apply ?_ hr
  refine .bind fun s _ => .ite (fun _ => .pure ((NewOut.refl _ c).sendUser fun _ _ => .error rfl)) fun _ =>
    .bind fun p0 _ => .bind fun c1 hm => ?_
  obtain ⟨s1, _, rfl⟩ := modS_eq_ok.1 hm
  refine Res.Sat.mono (P := SrvI c sid) (.foldlM _ ?_ fun _ _ _ hi => serverBurstNick_srvI hi) fun _ h => h.2
  refine SrvI.sendSvc (c := c) (sid := sid) ?_ _
  exact ⟨rfl, NewOut.of_out rfl⟩

end Robust.Irc
