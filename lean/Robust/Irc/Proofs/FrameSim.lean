import Robust.Irc.Proofs.PermBase
/-!
"Inert" updates.  The invariants read a session only through `id`, `deleted`, `nick`,
`channels` (`Session.core`) and a channel only through `name` and the *keys* of `nicks`
(`Channel.core`), and the two lists only as sets.  `StView st st'` says that the lookups of `st'` agree with
those of `st` up to that; the layers of `Inv` transfer along it (`WInvCore.view` … `Inv.view`).  Its instances:
`StSim` (the maps agree up to the projections: an update that is inert), `StEq` (`PermInv`: the maps are
permutations; hence the import of `PermBase`, for `ORel`), and a nick index rebuilt with the same lookups
(`SnapshotLemmas`).  At the end: what `updateLastClientMessageID` does (`LastUpdate`, `Session.Touched`,
`updateLast_run`), which is such an update.
-/
namespace Robust.Irc
open Robust AMap

def Session.core (s : Session) : Id × Bool × String × List String := (s.id, s.deleted, s.nick, s.channels)
def Channel.core (c : Channel) : String × List String := (c.name, AMap.keys c.nicks)

theorem Session.core_eq {s s' : Session} :
    s'.core = s.core ↔ s'.id = s.id ∧ s'.deleted = s.deleted ∧ s'.nick = s.nick ∧ s'.channels = s.channels := by
  simp [Session.core]

theorem Channel.core_eq {c c' : Channel} :
    c'.core = c.core ↔ c'.name = c.name ∧ AMap.keys c'.nicks = AMap.keys c.nicks := by
  simp [Channel.core]

/-- an update of a stored session that the invariant does not see: it keeps `Session.core` (closed by
`fun _ => ⟨rfl, rfl, rfl, rfl⟩`).  Stated by fields and not as `(f s).core = s.core`: `rfl` for that equation makes the
unifier compare `f s` with `s` before it unfolds `core`, which evaluates the values `f` stores. -/
def CoreKeep (f : Session → Session) : Prop :=
  ∀ s, (f s).id = s.id ∧ (f s).deleted = s.deleted ∧ (f s).nick = s.nick ∧ (f s).channels = s.channels

structure MapSim {κ ν γ : Type} [DecidableEq κ] (core : ν → γ) (m m' : AMap κ ν) : Prop where
  nodup : (AMap.keys m').Nodup
  eq : ∀ k, (AMap.get m' k).map core = (AMap.get m k).map core

namespace MapSim
variable {κ ν γ : Type} [DecidableEq κ] {core : ν → γ} {m m' m'' : AMap κ ν}

theorem fwd (h : MapSim core m m') {k : κ} {v : ν} (hg : AMap.get m k = some v) :
    ∃ v', AMap.get m' k = some v' ∧ core v' = core v := by
  have := h.eq k
  rw [hg] at this
  exact Option.map_eq_some_iff.1 this

theorem bwd (h : MapSim core m m') {k : κ} {v' : ν} (hg : AMap.get m' k = some v') :
    ∃ v, AMap.get m k = some v ∧ core v' = core v := by
  have := (h.eq k).symm
  rw [hg] at this
  obtain ⟨v, h1, h2⟩ := Option.map_eq_some_iff.1 this
  exact ⟨v, h1, h2.symm⟩

theorem none_iff (h : MapSim core m m') {k : κ} : AMap.get m' k = none ↔ AMap.get m k = none := by
  have := h.eq k
  cases h1 : AMap.get m' k <;> cases h2 : AMap.get m k <;> simp [h1, h2] at this ⊢

theorem refl (hn : (AMap.keys m).Nodup) : MapSim core m m := ⟨hn, fun _ => rfl⟩

theorem trans (h1 : MapSim core m m') (h2 : MapSim core m' m'') : MapSim core m m'' :=
  ⟨h2.nodup, fun k => (h2.eq k).trans (h1.eq k)⟩

theorem set (hn : (AMap.keys m).Nodup) {k : κ} {v v' : ν} (hg : AMap.get m k = some v) (hc : core v' = core v) :
    MapSim core m (AMap.set m k v') := by
  refine ⟨AMap.nodup_keys_set k v' hn, fun k' => ?_⟩
  rw [AMap.get_set]
  split
  · rename_i hk; subst hk; simp [hg, hc]
  · rfl

theorem map (hn : (AMap.keys m).Nodup) (f : ν → ν) (hf : ∀ v, core (f v) = core v) :
    MapSim core m (m.map fun e => (e.1, f e.2)) := by
  refine ⟨by rw [AMap.keys_map_val m (fun e => f e.2)]; exact hn, fun k => ?_⟩
  rw [AMap.get_map_val]
  cases AMap.get m k <;> simp [hf]

end MapSim

abbrev SessSim (m m' : AMap Id Session) : Prop := MapSim Session.core m m'
abbrev ChanSim (m m' : AMap String Channel) : Prop := MapSim Channel.core m m'

structure StSim (st st' : St) : Prop where
  sess : SessSim st.sessions st'.sessions
  nicks : st'.nicks = st.nicks
  chans : ChanSim st.channels st'.channels

theorem StSim.trans {a b c : St} (h1 : StSim a b) (h2 : StSim b c) : StSim a c :=
  ⟨h1.sess.trans h2.sess, h2.nicks.trans h1.nicks, h1.chans.trans h2.chans⟩

theorem StSim.refl {st : St} (h : WInvCore st) : StSim st st :=
  ⟨MapSim.refl h.sessNodup, rfl, MapSim.refl h.chanNodup⟩

/-- what the invariants read of a session (its channels as a set) -/
structure SessView (s s' : Session) : Prop where
  id : s'.id = s.id
  deleted : s'.deleted = s.deleted
  nick : s'.nick = s.nick
  channels : s.channels.Perm s'.channels

/-- what the invariants read of a channel (its members as a set) -/
structure ChanView (c c' : Channel) : Prop where
  name : c'.name = c.name
  keys : (AMap.keys c.nicks).Perm (AMap.keys c'.nicks)

/-- `st'` looks to `Inv` like `st`: the three maps agree as functions, up to `SessView` / `ChanView` -/
structure StView (st st' : St) : Prop where
  sessNodup : (AMap.keys st'.sessions).Nodup
  nickNodup : (AMap.keys st'.nicks).Nodup
  chanNodup : (AMap.keys st'.channels).Nodup
  sess : ∀ id, ORel SessView (AMap.get st.sessions id) (AMap.get st'.sessions id)
  nicks : ∀ lc, AMap.get st'.nicks lc = AMap.get st.nicks lc
  chans : ∀ lc, ORel ChanView (AMap.get st.channels lc) (AMap.get st'.channels lc)

theorem WInvCore.view {st st' : St} (h : WInvCore st) (hv : StView st st') : WInvCore st' := by
  refine ⟨hv.sessNodup, hv.nickNodup, hv.chanNodup, ?_, ?_, ?_, ?_⟩
  · intro id s' hg
    obtain ⟨s, hg0, v⟩ := (hg ▸ hv.sess id).of_some'
    rw [v.id, ← v.channels.nodup_iff]; exact h.sessId id s hg0
  · intro id s' hg hl hnn
    obtain ⟨s, hg0, v⟩ := (hg ▸ hv.sess id).of_some'
    rw [hv.nicks, v.nick]; exact h.owns id s hg0 (v.deleted ▸ hl) (v.nick ▸ hnn)
  · intro lc id hi
    rw [hv.nicks] at hi
    obtain ⟨s, hg0, hl, hlow⟩ := h.index lc id hi
    obtain ⟨s', hg', v⟩ := (hg0 ▸ hv.sess id).of_some
    exact ⟨s', hg', v.deleted.trans hl, by rw [v.nick]; exact hlow⟩
  · intro lc c' hg
    obtain ⟨c, hg0, v⟩ := (hg ▸ hv.chans lc).of_some'
    obtain ⟨a, b, d⟩ := h.chans lc c hg0
    refine ⟨by rw [v.name]; exact a, v.keys.nodup_iff.1 b, fun n hn' => ?_⟩
    obtain ⟨id, s, h1, h2, h3⟩ := d n (v.keys.mem_iff.2 hn')
    obtain ⟨s', hg', v'⟩ := (h2 ▸ hv.sess id).of_some
    exact ⟨id, s', by rw [hv.nicks]; exact h1, hg', v'.channels.mem_iff.1 h3⟩

theorem MemberOK.view {st st' : St} {lc : String} (h : MemberOK st lc) (hv : StView st st') : MemberOK st' lc := by
  intro id s' hi hg ch hch
  rw [hv.nicks] at hi
  obtain ⟨s, hg0, v⟩ := (hg ▸ hv.sess id).of_some'
  obtain ⟨c, hc0, hcont⟩ := h id s hi hg0 ch (v.channels.mem_iff.2 hch)
  obtain ⟨c', hc', v'⟩ := (hc0 ▸ hv.chans _).of_some
  exact ⟨c', hc', AMap.contains_iff_mem_keys.2 (v'.keys.mem_iff.1 (AMap.contains_iff_mem_keys.1 hcont))⟩

theorem WInv.view {st st' : St} (h : WInv st) (hv : StView st st') : WInv st' :=
  ⟨h.toWInvCore.view hv, fun lc => (h.member lc).view hv⟩

theorem ChansNonempty.view {st st' : St} (h : ChansNonempty st) (hv : StView st st') : ChansNonempty st' := by
  intro lc c' hg hnil
  obtain ⟨c, hg0, v⟩ := (hg ▸ hv.chans lc).of_some'
  have := v.keys
  rw [hnil] at this
  exact h lc c hg0 (AMap.keys_eq_nil.1 (List.perm_nil.1 this))

theorem HInv.view {st st' : St} (h : HInv st) (hv : StView st st') : HInv st' :=
  ⟨h.toWInv.view hv, h.nonempty.view hv⟩

theorem Inv.view {st st' : St} (h : Inv st) (hv : StView st st') : Inv st' := by
  refine ⟨h.toHInv.view hv, fun id s' hg => ?_⟩
  obtain ⟨s, hg0, v⟩ := (hg ▸ hv.sess id).of_some'
  rw [v.deleted]; exact h.noDeleted id s hg0

theorem MapSim.orel {κ ν γ : Type} [DecidableEq κ] {core : ν → γ} {m m' : AMap κ ν} (h : MapSim core m m') (k : κ) :
    ORel (fun v v' => core v' = core v) (AMap.get m k) (AMap.get m' k) := by
  have := h.eq k
  cases h1 : AMap.get m k <;> cases h2 : AMap.get m' k <;> simp only [h1, h2, Option.map] at this
  · exact .nn
  · cases this
  · cases this
  · exact .ss (Option.some.inj this)

theorem StSim.view {st st' : St} (hs : StSim st st') (hn : (AMap.keys st.nicks).Nodup) : StView st st' :=
  ⟨hs.sess.nodup, hs.nicks ▸ hn, hs.chans.nodup,
   fun id => (hs.sess.orel id).mono fun s s' e => by
     obtain ⟨e1, e2, e3, e4⟩ := Session.core_eq.1 e; exact ⟨e1, e2, e3, e4 ▸ .refl _⟩,
   fun _ => by rw [hs.nicks],
   fun lc => (hs.chans.orel lc).mono fun c c' e => by
     obtain ⟨e1, e2⟩ := Channel.core_eq.1 e; exact ⟨e1, e2 ▸ .refl _⟩⟩

theorem WInvCore.sim {st st' : St} (h : WInvCore st) (hs : StSim st st') : WInvCore st' := h.view (hs.view h.nickNodup)

theorem WInv.sim {st st' : St} (h : WInv st) (hs : StSim st st') : WInv st' := h.view (hs.view h.nickNodup)

theorem HInv.sim {st st' : St} (h : HInv st) (hs : StSim st st') : HInv st' := h.view (hs.view h.nickNodup)

theorem Inv.sim {st st' : St} (h : Inv st) (hs : StSim st st') : Inv st' := h.view (hs.view h.nickNodup)

theorem StSim.setSession {st st' : St} (h : WInvCore st) {sid : Id} {s s' : Session}
    (hg : AMap.get st.sessions sid = some s) (hcore : s'.core = s.core)
    (hs : st'.sessions = AMap.set st.sessions sid s') (hn : st'.nicks = st.nicks) (hc : st'.channels = st.channels) :
    StSim st st' :=
  ⟨by rw [hs]; exact MapSim.set h.sessNodup hg hcore, hn, by rw [hc]; exact MapSim.refl h.chanNodup⟩

theorem StSim.mapSessions {st st' : St} (h : WInvCore st) (f : Session → Session) (hf : ∀ s, (f s).core = s.core)
    (hs : st'.sessions = st.sessions.map fun e => (e.1, f e.2)) (hn : st'.nicks = st.nicks)
    (hc : st'.channels = st.channels) : StSim st st' :=
  ⟨by rw [hs]; exact MapSim.map h.sessNodup f hf, hn, by rw [hc]; exact MapSim.refl h.chanNodup⟩

theorem StSim.setChan {st st' : St} (h : WInvCore st) {lc : String} {ch ch' : Channel}
    (hg : AMap.get st.channels lc = some ch) (hcore : ch'.core = ch.core)
    (hs : st'.sessions = st.sessions) (hn : st'.nicks = st.nicks) (hc : st'.channels = AMap.set st.channels lc ch') :
    StSim st st' :=
  ⟨by rw [hs]; exact MapSim.refl h.sessNodup, hn, by rw [hc]; exact MapSim.set h.chanNodup hg hcore⟩

theorem StSim.putS {c : Ctx} (h : WInvCore c.st) {s s' : Session}
    (hg : AMap.get c.st.sessions s'.id = some s) (hcore : s'.core = s.core) : StSim c.st (putS c s').st :=
  StSim.setSession h hg hcore rfl rfl rfl

theorem StSim.modS {c c' : Ctx} (h : WInvCore c.st) {sid : Id} {f : Session → Session}
    (hf : CoreKeep f) (hr : modS c sid f = Res.ok c') : StSim c.st c'.st := by
  obtain ⟨s, hg, rfl⟩ := modS_eq_ok.1 hr
  have hid : (f s).id = sid := by rw [(hf s).1]; exact (h.sessId sid s hg).1
  exact StSim.putS h (by rw [hid]; exact hg) (Session.core_eq.2 (hf s))

theorem StSim.putChan {c : Ctx} (h : WInvCore c.st) {lc : String} {ch ch' : Channel}
    (hg : AMap.get c.st.channels lc = some ch) (hname : ch'.name = ch.name)
    (hkeys : AMap.keys ch'.nicks = AMap.keys ch.nicks) : StSim c.st (putChan c lc ch').st :=
  StSim.setChan h hg (Channel.core_eq.2 ⟨hname, hkeys⟩) rfl rfl rfl

theorem WInv_modS_inert {c c' : Ctx} {sid : Id} (f : Session → Session)
    (hf : CoreKeep f) (h : WInv c.st) (hr : modS c sid f = Res.ok c') : WInv c'.st :=
  h.sim (StSim.modS h.toWInvCore hf hr)

theorem HInv_modS_inert {c c' : Ctx} {sid : Id} (f : Session → Session)
    (hf : CoreKeep f) (h : HInv c.st) (hr : modS c sid f = Res.ok c') : HInv c'.st :=
  h.sim (StSim.modS h.toWInvCore hf hr)

theorem HInv_putS_inert {c : Ctx} {s s' : Session} (h : HInv c.st)
    (hg : AMap.get c.st.sessions s'.id = some s)
    (hf : s'.id = s.id ∧ s'.deleted = s.deleted ∧ s'.nick = s.nick ∧ s'.channels = s.channels) :
    HInv (putS c s').st :=
  h.sim (StSim.putS h.toWInvCore hg (Session.core_eq.2 hf))

/-- channel updates that keep `name` and the member set (topic, modes, key, bans, and
MODE `+o`, `-o` on an existing member via `AMap.keys_set_of_mem`) -/
theorem HInv_putChan_inert {c : Ctx} {lc : String} {ch ch' : Channel} (h : HInv c.st)
    (hg : AMap.get c.st.channels lc = some ch) (hname : ch'.name = ch.name)
    (hkeys : AMap.keys ch'.nicks = AMap.keys ch.nicks) : HInv (putChan c lc ch').st :=
  h.sim (StSim.putChan h.toWInvCore hg hname hkeys)

theorem StSim.getS {st st' : St} (hs : StSim st st') {sid : Id} {s : Session}
    (hg : AMap.get st.sessions sid = some s) :
    ∃ s', AMap.get st'.sessions sid = some s' ∧ s'.id = s.id ∧ s'.deleted = s.deleted ∧ s'.nick = s.nick ∧
      s'.channels = s.channels := by
  obtain ⟨s', h1, h2⟩ := hs.sess.fwd hg
  exact ⟨s', h1, Session.core_eq.1 h2⟩

theorem updateLastClientMessageID_eq {st st' : St} {e : Entry} (hr : updateLastClientMessageID st e = some st') :
    ∃ s a c, AMap.get st.sessions e.session = some s ∧ st' = { st with
      sessions := AMap.set st.sessions e.session
        { s with lastActivity := a, lastClientMessageId := e.cmid, lastNonPing := c } } := by
  unfold updateLastClientMessageID at hr
  cases hg : AMap.get st.sessions e.session with
  | none => rw [hg] at hr; cases hr
  | some s =>
    rw [hg] at hr
    exact ⟨s, _, _, rfl, (Option.some.inj hr).symm⟩

/-- `s1` is `s` up to the duplicate-detection marker and the two activity stamps -/
def Session.Touched (s s1 : Session) : Prop :=
  { s1 with lastActivity := s.lastActivity, lastClientMessageId := s.lastClientMessageId,
            lastNonPing := s.lastNonPing } = s

namespace Session.Touched
variable {s s1 : Session} (h : s.Touched s1)
include h
theorem id : s1.id = s.id := congrArg (·.id) h
theorem nick : s1.nick = s.nick := congrArg (·.nick) h
theorem server : s1.server = s.server := congrArg (·.server) h
theorem operator : s1.operator = s.operator := congrArg (·.operator) h
theorem loggedIn : s1.loggedIn = s.loggedIn := congrArg (·.loggedIn) h
theorem pass : s1.pass = s.pass := congrArg (·.pass) h
theorem remoteAddr : s1.remoteAddr = s.remoteAddr := congrArg (·.remoteAddr) h
end Session.Touched

/-- what `UpdateLastClientMessageID` does when it succeeds (`st1`): the entry's session is stored (`s`) and is
overwritten by a value `s1` that carries the entry's client message id as marker and is `s` otherwise, the two
activity stamps apart -/
structure LastUpdate (st : St) (e : Entry) (st1 : St) (s s1 : Session) : Prop where
  get : AMap.get st.sessions e.session = some s
  get1 : AMap.get st1.sessions e.session = some s1
  marker : s1.lastClientMessageId = e.cmid
  same : s.Touched s1
  other : ∀ id, id ≠ e.session → AMap.get st1.sessions id = AMap.get st.sessions id
  keys : AMap.keys st1.sessions = AMap.keys st.sessions
  config : st1.config = st.config
  lastProcessed : st1.lastProcessed = st.lastProcessed
  nicks : st1.nicks = st.nicks
  channels : st1.channels = st.channels

theorem updateLast_run {st st1 : St} {e : Entry} (hu : updateLastClientMessageID st e = some st1) :
    ∃ s s1, LastUpdate st e st1 s s1 := by
  obtain ⟨s, a, c, hg, rfl⟩ := updateLastClientMessageID_eq hu
  exact ⟨s, _, hg, AMap.get_set_same _ _ _, rfl, rfl, fun _ hne => AMap.get_set_other _ hne,
    AMap.keys_set_of_mem _ (AMap.mem_keys_of_get hg), rfl, rfl, rfl, rfl⟩

/-- every session stored afterwards was stored before -/
theorem LastUpdate.back {st st1 : St} {e : Entry} {s s1 : Session} (u : LastUpdate st e st1 s s1) {id : Id}
    {t1 : Session} (h1 : AMap.get st1.sessions id = some t1) :
    ∃ t, AMap.get st.sessions id = some t ∧ t.Touched t1 := by
  by_cases hid : id = e.session
  · subst hid
    cases u.get1.symm.trans h1
    exact ⟨s, u.get, u.same⟩
  · exact ⟨t1, (u.other id hid).symm.trans h1, rfl⟩

theorem StSim.updateLastClientMessageID {st st' : St} {e : Entry} (h : WInvCore st)
    (hr : updateLastClientMessageID st e = some st') : StSim st st' := by
  obtain ⟨s, a, c, hg, rfl⟩ := updateLastClientMessageID_eq hr
  refine StSim.setSession h hg ?_ rfl rfl rfl
  rfl

theorem Inv_updateLastClientMessageID {st st' : St} {e : Entry} (h : Inv st)
    (hr : updateLastClientMessageID st e = some st') : Inv st' :=
  h.sim (StSim.updateLastClientMessageID h.toWInvCore hr)

theorem HInv_updateLastClientMessageID {st st' : St} {e : Entry} (h : HInv st)
    (hr : updateLastClientMessageID st e = some st') : HInv st' :=
  h.sim (StSim.updateLastClientMessageID h.toWInvCore hr)

theorem WInv_updateLastClientMessageID {st st' : St} {e : Entry} (h : WInv st)
    (hr : updateLastClientMessageID st e = some st') : WInv st' :=
  h.sim (StSim.updateLastClientMessageID h.toWInvCore hr)

end Robust.Irc
