import Robust.Irc.Proofs.RcptSvcBase
import Robust.Irc.Proofs.H3
/-!
C12 for the services handlers, part C: SVSNICK, KILL, QUIT — the notifications that go to the sessions sharing a
channel with the subject.

* `cmdServerSvsnick`: the NICK line (old prefix of the renamed session) goes to exactly the renamed session, the
  sessions sharing a channel with it, and the services links;
* `cmdServerKill`: the KILL line to the victim only; the victim's QUIT to exactly the sessions sharing a channel
  with the victim (the recipients are computed *before* the victim is removed, so the victim is among them when it
  is on a channel) and the services links;
* `cmdServerQuit` with a prefix (one pseudo-client of the link quits): its QUIT to exactly the sessions sharing a
  channel with it; without prefix (the link itself goes away): the link is deleted, then its pseudo-clients in the
  order of their `reply` numbers, each announced to exactly the sessions that *still* share a channel with it —
  i.e. the former co-members minus the link and minus the pseudo-clients with a smaller `reply` number.
-/
namespace Robust.Irc
open Robust AMap

inductive SrvSvsnickLine (st : St) (m : IrcMsg) (o : Out) : Prop
  /-- numeric reply (432, 401, 433): to the services links only -/
  | reply (h : o.rcpt = st.serverSessions)
  /-- the nick change, under the *old* prefix of the renamed session `tid`: to exactly that session, the sessions
  sharing a channel with it, and the services links -/
  | nick (p0 p1 : String) (tid : Id) (t : Session) (hp0 : m.params[0]? = some p0) (hp1 : m.params[1]? = some p1)
      (hv : isValidNickname p1 = true)
      (hi : AMap.get st.nicks (nickToLower p0) = some tid) (ht : AMap.get st.sessions tid = some t)
      (hd : o.data = (IrcMsg.mk (some t.ircPrefix) "NICK" [p1]).render)
      (hr : RcptIs o (fun id => id = tid ∨ ∃ lc ∈ t.channels, Lists st lc id) st.serverSessions)

theorem svsnickTail_out {c : Ctx} {tid : Id} {p0 p1 : String} (hi : Inv c.st) (hn : NI c.st)
    (hvalid : isValidNickname p1 = true)
    (hidx : AMap.get c.st.nicks (nickToLower p0) = some tid)
    (hnew : AMap.get c.st.nicks (nickToLower p1) = none ∨ AMap.get c.st.nicks (nickToLower p1) = some tid) :
    (svsnickTail c p0 p1 tid).Sat fun c' => ∃ t, AMap.get c.st.sessions tid = some t ∧ SameLists c.st c'.st ∧
      NewOut (fun o => o.data = (IrcMsg.mk (some t.ircPrefix) "NICK" [p1]).render ∧
        RcptIs o (fun id => id = tid ∨ ∃ lc ∈ t.channels, Lists c.st lc id) c.st.serverSessions) c c' := by
  unfold svsnickTail
  refine .andThen (getS_sat c tid) fun t ht => ?_
  dsimp only
  refine .bind fun c1 hm1 => .bind fun c2 hm2 => ?_
  obtain ⟨hi2, hn2, k2, ho2, t2, hg2, hch, hnk⟩ :=
    renameSteps_listsKept hi hn (.refl hi.toWInvCore.idOK) ht hvalid
      (svsnick_renameCase hi.toWInvCore t hidx hnew) hm1 hm2
  refine .bindEq (getS_of_get hg2) (.bind fun rc hrc => .pure ⟨t, ht, k2.lists, ?_⟩)
  exact (NewOut.of_out ho2).emit fun i k => ⟨by rw [hnk], k2.nickRcpt hi2 hn2 hch hrc i k _⟩

/-- **SVSNICK**: numeric replies to the services links; the NICK line (old prefix, new nickname) to exactly the renamed
session, the sessions sharing a channel with it and the services links; no channel list changes -/
theorem cmdServerSvsnick_out {c c' : Ctx} {sid : Id} {m : IrcMsg} (hi : Inv c.st) (hn : NI c.st)
    (hr : cmdServerSvsnick c sid m = .ok c') :
    NewOut (SrvSvsnickLine c.st m) c c' ∧ SameLists c.st c'.st := by
  revert c' hr
  show (cmdServerSvsnick c sid m).Sat _
  rw [cmdServerSvsnick_eq]
  refine .andThen (param_sat m 0) fun p0 hpp0 => .andThen (param_sat m 1) fun p1 hpp1 => ?_
  have reply : ∀ msg, NewOut (SrvSvsnickLine c.st m) c (sendSvc c msg) ∧ SameLists c.st (sendSvc c msg).st :=
    fun _ => ⟨(NewOut.refl _ c).sendSvc fun _ _ => .reply rfl, .refl _⟩
  refine .ite (fun _ => .pure (reply _)) fun hv => ?_
  have hvalid : isValidNickname p1 = true := by simpa using hv
  cases hidx : AMap.get c.st.nicks (nickToLower p0) with
  | none => exact .pure (reply _)
  | some tid =>
    have tail : (AMap.get c.st.nicks (nickToLower p1) = none ∨ AMap.get c.st.nicks (nickToLower p1) = some tid) →
        (svsnickTail c p0 p1 tid).Sat fun c' => NewOut (SrvSvsnickLine c.st m) c c' ∧ SameLists c.st c'.st := by
      intro hnew
      exact (svsnickTail_out hi hn hvalid hidx hnew).mono fun c' ⟨t, ht, hsl, ho⟩ =>
        ⟨ho.mono fun o ⟨hd, hrc⟩ => .nick p0 p1 tid t hpp0 hpp1 hvalid hidx ht hd hrc, hsl⟩
    dsimp only
    cases hother : AMap.get c.st.nicks (nickToLower p1) with
    | none => exact tail (Or.inl hother)
    | some other =>
      refine .ite (fun _ => .pure (reply _)) fun hne => ?_
      obtain rfl : other = tid := by simpa using hne
      exact tail (Or.inr hother)

inductive SrvKillLine (st : St) (m : IrcMsg) (o : Out) : Prop
  /-- numeric reply (461, 401): to the services links only -/
  | reply (h : o.rcpt = st.serverSessions)
  /-- the KILL line: to the killed session only -/
  | victim (p0 : String) (tid : Id) (hp : m.params[0]? = some p0)
      (hi : AMap.get st.nicks (nickToLower p0) = some tid) (h : ToOnly tid o)
  /-- the victim's QUIT, under the victim's prefix: to exactly the sessions sharing a channel with the victim (the
  victim itself included: it is removed only afterwards) and the services links -/
  | quit (p0 : String) (tid : Id) (t : Session) (hp : m.params[0]? = some p0)
      (hi : AMap.get st.nicks (nickToLower p0) = some tid) (ht : AMap.get st.sessions tid = some t)
      (hd : o.data = (IrcMsg.mk (some t.ircPrefix) "QUIT" ["Killed: " ++ m.trailing]).render)
      (hr : RcptIs o (fun id => ∃ lc ∈ t.channels, Lists st lc id) st.serverSessions)

/-- **services KILL**: the lines, and the membership afterwards (the sessions still *on* a channel are the former
members other than the victim) -/
theorem cmdServerKill_out {c c' : Ctx} {sid : Id} {m : IrcMsg} (hi : Inv c.st) (hn : NI c.st)
    (hr : cmdServerKill c sid m = .ok c') :
    NewOut (SrvKillLine c.st m) c c' ∧
    (SameLists c.st c'.st ∨ ∃ p0 tid, m.params[0]? = some p0 ∧ AMap.get c.st.nicks (nickToLower p0) = some tid ∧
      ∀ lc id, OnChan c'.st lc id ↔ Lists c.st lc id ∧ id ≠ tid) := by
  revert c' hr
  show (cmdServerKill c sid m).Sat _
  have reply : ∀ msg, NewOut (SrvKillLine c.st m) c (sendSvc c msg) :=
    fun _ => (NewOut.refl _ c).sendSvc fun _ _ => .reply rfl
  unfold cmdServerKill
  refine .bind fun s _ => .ite (fun _ => .pure ⟨reply _, Or.inl (.refl _)⟩) fun _ => ?_
  dsimp only
  refine .bind fun kp? _ => .andThen (param_sat m 0) fun p0 hpp => ?_
  cases hidx : AMap.get c.st.nicks (nickToLower p0) with
  | none => exact .pure ⟨reply _, Or.inl (.refl _)⟩
  | some tid =>
    refine .andThen (getS_sat c tid) fun t ht => ?_
    cases kp? with
    | none => exact .panic _
    | some kp =>
      refine .bind fun rc hrc c' hr => ?_
      have hrc' : rcCommonChannels c.st t = .ok rc := hrc
      have hlive := hi.noDeleted tid t ht
      have sp := deleteSession_spec (c := emit (sendUser c tid _) _ _) hi.toWInv ht (DelPre.of_live hlive) hr
      refine ⟨(((NewOut.refl _ c).sendUser fun _ _ => .victim p0 tid hpp hidx rfl).emit fun i k => ?_).frame sp.frame,
        Or.inr ⟨p0, tid, hpp, hidx, fun lc id => sp.onChan (c := emit (sendUser c tid _) _ _) hi hn ht⟩⟩
      exact .quit p0 tid t hpp hidx ht rfl (rcCommonChannels_lists hi hn hrc').rcptIs

/-- the lines `cmdServerQuit` can produce; `sid` is the acting link -/
inductive SrvQuitLine (st : St) (sid : Id) (m : IrcMsg) (o : Out) : Prop
  /-- `:nick QUIT`: one pseudo-client `tid` of the link quits; its QUIT goes to exactly the sessions sharing a
  channel with it (itself included: it is removed afterwards) -/
  | one (p : Prefix) (tid : Id) (t : Session) (hpfx : m.pfx = some p) (ht : AMap.get st.sessions tid = some t)
      (hlink : tid.id = sid.id ∧ tid.reply ≠ 0) (hnick : nickToLower t.nick = nickToLower p.name)
      (hd : o.data = (IrcMsg.mk (some t.ircPrefix) "QUIT" [m.trailing]).render)
      (hr : RcptIs o (fun id => ∃ lc ∈ t.channels, Lists st lc id) [])
  /-- `QUIT` without prefix: the link is deleted first, then its pseudo-clients by ascending `reply`; the QUIT of
  the pseudo-client `tid` goes to exactly the sessions sharing a channel with it that are still there: not the
  link, not the pseudo-clients with a smaller `reply` number -/
  | all (tid : Id) (t : Session) (hpfx : m.pfx = none) (ht : AMap.get st.sessions tid = some t)
      (hlink : tid.id = sid.id ∧ tid.reply ≠ 0)
      (hd : o.data = (IrcMsg.mk (some t.ircPrefix) "QUIT" [m.trailing]).render)
      (hr : RcptIs o (fun id => ¬ (id.id = sid.id ∧ id.reply < tid.reply) ∧ ∃ lc ∈ t.channels, Lists st lc id) [])

/-- loop invariant of the no-prefix QUIT: `D` = the sessions deleted so far -/
structure QuitLoop (c : Ctx) (sid : Id) (D : List Id) (ci : Ctx) : Prop where
  qi : QuitInv c sid ci
  ni : NI ci.st
  kept : ∀ id, id ∉ D → ∀ t, AMap.get c.st.sessions id = some t →
    ∃ inv, AMap.get ci.st.sessions id = some { t with invitedTo := inv }
  onchan : ∀ lc id, OnChan ci.st lc id ↔ Lists c.st lc id ∧ id ∉ D

theorem QuitLoop.emit {c ci : Ctx} {sid : Id} {D : List Id} (h : QuitLoop c sid D ci) (m : IrcMsg) (r : List Nat) :
    QuitLoop c sid D (emit ci m r) := ⟨h.qi.emit m r, h.ni, h.kept, h.onchan⟩

theorem QuitLoop.congr {c ci : Ctx} {sid : Id} {D D' : List Id} (h : QuitLoop c sid D ci)
    (hD : ∀ id, id ∈ D' ↔ id ∈ D) : QuitLoop c sid D' ci :=
  ⟨h.qi, h.ni, fun id hid => h.kept id fun hm => hid ((hD id).2 hm),
    fun lc id => (h.onchan lc id).trans (and_congr_right fun _ => not_congr (hD id).symm)⟩

theorem QuitLoop.delete {c ci ci' : Ctx} {sid tid : Id} {D : List Id} {t : Session} (h : QuitLoop c sid D ci)
    (hi : Inv c.st) (htD : tid ∉ D) (ht : AMap.get c.st.sessions tid = some t)
    (hr : deleteSession ci tid = .ok ci') : QuitLoop c sid (tid :: D) ci' := by
  obtain ⟨inv, hti⟩ := h.kept tid htD t ht
  have hw := h.qi.1.hinv.toWInv
  have sp := deleteSession_spec hw hti (h.qi.2 tid _ hti) hr
  refine ⟨h.qi.deleteSession hti hr, h.ni.deleteSession hr, ?_, ?_⟩
  · intro id hid t0 ht0
    have hne : id ≠ tid := fun he => hid (by rw [he]; exact List.mem_cons_self ..)
    have hD : id ∉ D := fun hm => hid (List.mem_cons_of_mem _ hm)
    obtain ⟨inv0, h0⟩ := h.kept id hD t0 ht0
    obtain ⟨inv1, h1⟩ := sp.others id _ hne h0
    exact ⟨inv1, h1⟩
  · intro lc id
    rw [sp.onChan_step hw.toWInvCore h.ni hti (hi.noDeleted tid t ht), h.onchan lc id]
    constructor
    · rintro ⟨⟨h1, h2⟩, h3⟩
      exact ⟨h1, fun hm => by
        rcases List.mem_cons.1 hm with he | he
        · exact h3 he
        · exact h2 he⟩
    · rintro ⟨h1, h2⟩
      exact ⟨⟨h1, fun hm => h2 (List.mem_cons_of_mem _ hm)⟩, fun he => h2 (by rw [he]; exact List.mem_cons_self ..)⟩

theorem QuitLoop.rcpt {c ci : Ctx} {sid tid : Id} {D : List Id} {t : Session} (h : QuitLoop c sid D ci)
    (htD : tid ∉ D) (ht : AMap.get c.st.sessions tid = some t) :
    ∃ ti, AMap.get ci.st.sessions tid = some ti ∧ ti.ircPrefix = t.ircPrefix ∧
      ∀ rc, rcCommonChannels ci.st ti = .ok rc →
        IdsOf rc fun id => id ∉ D ∧ ∃ lc ∈ t.channels, Lists c.st lc id := by
  obtain ⟨inv, hti⟩ := h.kept tid htD t ht
  refine ⟨_, hti, rfl, fun rc hrc => (rcCommonChannels_ids h.qi.1.hinv.toWInv hrc).congr fun id => ?_⟩
  simp only [h.onchan]
  exact ⟨fun ⟨lc, hl, h1, h2⟩ => ⟨h2, lc, hl, h1⟩, fun ⟨h2, lc, hl, h1⟩ => ⟨lc, hl, h1, h2⟩⟩

/-- the lines of the loop, with the explicit list of predecessors -/
def QuitStepLine (st : St) (sid : Id) (m : IrcMsg) (subs : List Id) (o : Out) : Prop :=
  ∃ tid t pre post, subs = pre ++ tid :: post ∧ AMap.get st.sessions tid = some t ∧
    o.data = (IrcMsg.mk (some t.ircPrefix) "QUIT" [m.trailing]).render ∧
    RcptIs o (fun id => id ∉ sid :: pre ∧ ∃ lc ∈ t.channels, Lists st lc id) []

theorem quitLoop_out {c : Ctx} {sid : Id} {m : IrcMsg} (hi : Inv c.st) (subs : List Id)
    (hsub : ∀ x ∈ subs, ∃ t, AMap.get c.st.sessions x = some t) (hnd : subs.Nodup) (hsid : sid ∉ subs) :
    ∀ (l done : List Id) (ci : Ctx), subs = done ++ l → QuitLoop c sid (sid :: done) ci →
      NewOut (QuitStepLine c.st sid m subs) c ci →
      (l.foldlM (fun c tid => do
        let t ← getS c tid
        let rc ← rcCommonChannels c.st t
        let c := emit c ⟨some t.ircPrefix, "QUIT", [m.trailing]⟩ rc
        deleteSession c tid) ci).Sat fun c' =>
      NewOut (QuitStepLine c.st sid m subs) c c' ∧ ∃ D, QuitLoop c sid D c' ∧ ∀ id, id ∈ D ↔ id = sid ∨ id ∈ subs
  | [], done, ci, hsplit, hL, ho => .pure ⟨ho, sid :: done, hL, fun id => by
      rw [hsplit, List.append_nil, List.mem_cons]⟩
  | tid :: rest, done, ci, hsplit, hL, ho => by
    have hmem : tid ∈ subs := by rw [hsplit]; exact List.mem_append_right _ (List.mem_cons_self ..)
    obtain ⟨t, ht⟩ := hsub tid hmem
    have hnd' : (done ++ tid :: rest).Nodup := by rw [← hsplit]; exact hnd
    have htD : tid ∉ sid :: done := by
      intro hm
      rcases List.mem_cons.1 hm with he | he
      · exact hsid (he ▸ hmem)
      · exact (List.nodup_append.1 hnd').2.2 tid he tid (List.mem_cons_self ..) rfl
    obtain ⟨ti, hti, hpfx, hrcpt⟩ := hL.rcpt htD ht
    rw [List.foldlM_cons]
    refine .andThen
      (R := fun c1 => QuitLoop c sid (sid :: (done ++ [tid])) c1 ∧ NewOut (QuitStepLine c.st sid m subs) c c1)
      (.bindEq (getS_of_get hti) (.bind fun rc hrc c1 h1 => ?_)) fun c1 ⟨hL1, ho1⟩ =>
      quitLoop_out hi subs hsub hnd hsid rest (done ++ [tid]) c1 (by rw [hsplit, List.append_assoc]; rfl) hL1 ho1
    have sp := deleteSession_spec (c := emit ci _ _) hL.qi.1.hinv.toWInv hti (hL.qi.2 tid _ hti) h1
    refine ⟨(QuitLoop.delete (hL.emit _ _) hi htD ht h1).congr fun id => ?_, NewOut.frame (ho.emit fun i k =>
      ⟨tid, t, done, rest, hsplit, ht, by rw [hpfx], (hrcpt rc hrc).rcptIs_nil⟩) sp.frame⟩
    simp only [List.mem_cons, List.mem_append, List.not_mem_nil, or_false]
    exact ⟨fun h => h.elim (fun h => .inr (.inl h)) fun h => h.elim (fun h => .inr (.inr h)) .inl,
      fun h => h.elim (fun h => .inr (.inr h)) fun h => h.elim .inl fun h => .inr (.inl h)⟩

/-- sessions of the link `sid` other than the link itself, sorted by `reply` -/
theorem svcC_sorted_split {subs pre post : List Id} {tid : Id} {n : Nat}
    (hsplit : subs = pre ++ tid :: post) (hnd : subs.Nodup)
    (hsorted : subs.Pairwise fun a b => (decide (a.reply ≤ b.reply)) = true)
    (hall : ∀ x ∈ subs, x.id = n) :
    (∀ x ∈ pre, x.reply < tid.reply) ∧ (∀ x ∈ post, tid.reply < x.reply) := by
  subst hsplit
  have hs := List.pairwise_append.1 hsorted
  have hn := List.nodup_append.1 hnd
  have hne : ∀ x ∈ pre ++ tid :: post, x ≠ tid → x.reply ≠ tid.reply := by
    intro x hx hxt he
    apply hxt
    have h1 := hall x hx
    have h2 := hall tid (List.mem_append_right _ (List.mem_cons_self ..))
    exact Id.ext_fields (h1.trans h2.symm) he
  constructor
  · intro x hx
    have hle : x.reply ≤ tid.reply := by simpa using hs.2.2 x hx tid (List.mem_cons_self ..)
    have := hne x (List.mem_append_left _ hx) (fun he => hn.2.2 x hx tid (List.mem_cons_self ..) he)
    omega
  · intro x hx
    have hp := List.pairwise_cons.1 hs.2.1
    have hle : tid.reply ≤ x.reply := by simpa using hp.1 x hx
    have hnt : x ≠ tid := fun he => (List.nodup_cons.1 hn.2.1).1 (he ▸ hx)
    have := hne x (List.mem_append_right _ (List.mem_cons_of_mem _ hx)) hnt
    omega

/-- **services QUIT**: with a prefix, the QUIT of that pseudo-client goes to exactly the sessions sharing a channel
with it; without, the link and all its pseudo-clients are removed, each pseudo-client's QUIT going to exactly the
sessions that still share a channel with it at that moment -/
theorem cmdServerQuit_spec {c c' : Ctx} {sid : Id} {m : IrcMsg} {s : Session} (hp : Pre c sid) (hn : NI c.st)
    (hs : AMap.get c.st.sessions sid = some s) (hsrv : s.server = true)
    (hr : cmdServerQuit c sid m = .ok c') :
    NewOut (SrvQuitLine c.st sid m) c c' ∧
    (m.pfx = none → ∀ lc id, OnChan c'.st lc id ↔ Lists c.st lc id ∧ id.id ≠ sid.id) ∧
    (∀ p, m.pfx = some p → SameLists c.st c'.st ∨
      ∃ tid t, AMap.get c.st.sessions tid = some t ∧ tid.id = sid.id ∧ tid.reply ≠ 0 ∧
        nickToLower t.nick = nickToLower p.name ∧
        ∀ lc id, OnChan c'.st lc id ↔ Lists c.st lc id ∧ id ≠ tid) := by
  have hi := hp.inv
  have hsid : s.id = sid := (hi.sessId sid s hs).1
  revert c' hr
  show (cmdServerQuit c sid m).Sat _
  unfold cmdServerQuit
  refine .bindEq (getS_of_get hs) ?_
  cases hpfx : m.pfx with
  | none =>
    refine .bind fun c1 hd => ?_
    have hlive := hi.noDeleted sid s hs
    have sp := deleteSession_spec hi.toWInv hs (DelPre.of_live hlive) hd
    have h0 : QuitInv c sid c := ⟨Mid.of_pre hp hs hsrv, AllDelPre.of_inv hi⟩
    have hL0 : QuitLoop c sid [] c := by
      refine ⟨h0, hn, fun id _ t ht => ⟨t.invitedTo, ht⟩, fun lc id => ?_⟩
      rw [onChan_iff_lists hi hn]
      exact ⟨fun h => ⟨h, fun hm => by cases hm⟩, fun h => h.1⟩
    have hL1 : QuitLoop c sid [sid] c1 := hL0.delete hi (fun hm => by cases hm) hs hd
    dsimp only
    generalize hsubs : ((c1.st.sessions.filter fun e => e.1.id == s.id.id && e.1.reply != 0).map (·.1)).mergeSort
      (fun a b => decide (a.reply ≤ b.reply)) = subs
    have hmemsubs : ∀ x, x ∈ subs ↔ x ∈ AMap.keys c.st.sessions ∧ x.id = sid.id ∧ x.reply ≠ 0 := by
      intro x
      rw [← hsubs, List.mem_mergeSort, ← sp.keys]
      simp only [List.mem_map, List.mem_filter, Bool.and_eq_true, beq_iff_eq, bne_iff_ne, ne_eq, hsid]
      constructor
      · rintro ⟨e, ⟨he, h1, h2⟩, rfl⟩
        exact ⟨AMap.mem_keys_of_mem he, h1, h2⟩
      · rintro ⟨hk, h1, h2⟩
        obtain ⟨e, he, rfl⟩ := List.mem_map.1 hk
        exact ⟨e, ⟨he, h1, h2⟩, rfl⟩
    have hsub : ∀ x ∈ subs, ∃ t, AMap.get c.st.sessions x = some t := fun x hx =>
      AMap.mem_keys_iff_get.1 ((hmemsubs x).1 hx).1
    have hnd : subs.Nodup := by
      rw [← hsubs]
      refine ((List.mergeSort_perm _ _).nodup_iff).2 ?_
      exact AMap.nodup_keys_filter _ sp.winv.sessNodup
    have hsidn : sid ∉ subs := fun hm => ((hmemsubs sid).1 hm).2.2 hp.reply0
    have hsorted : subs.Pairwise fun a b => (decide (a.reply ≤ b.reply)) = true := by
      rw [← hsubs]
      exact List.pairwise_mergeSort replyLe_trans replyLe_total _
    refine (quitLoop_out (m := m) hi subs hsub hnd hsidn subs [] c1 rfl hL1 ((NewOut.refl _ c).frame sp.frame)).mono ?_
    rintro c' ⟨ho, D, hLD, hD⟩
    -- a stored session is the link or one of its pseudo-clients exactly if it has the link's id
    have hlink : ∀ {id : Id} {x : Session}, AMap.get c.st.sessions id = some x →
        (id = sid ∨ id ∈ subs ↔ id.id = sid.id) := fun {id x} hx => by
      refine ⟨fun h => h.elim (fun e => by rw [e]) fun h => ((hmemsubs id).1 h).2.1, fun he => ?_⟩
      by_cases h0 : id.reply = 0
      · exact Or.inl (Id.ext_fields he (h0.trans hp.reply0.symm))
      · exact Or.inr ((hmemsubs id).2 ⟨AMap.mem_keys_of_get hx, he, h0⟩)
    refine ⟨?lines, fun _ lc id => ?mem, fun _ hp' => nomatch hp'⟩
    case mem =>
      -- the membership at the end: everything of the link is gone
      rw [hLD.onchan lc id]
      exact and_congr_right fun ⟨_, hx, _⟩ => not_congr ((hD id).trans (hlink hx))
    refine ho.mono fun o ⟨tid, t, pre, post, hsplit, ht, hd, hrc⟩ => ?_
    have hmt : tid ∈ subs := by rw [hsplit]; exact List.mem_append_right _ (List.mem_cons_self ..)
    obtain ⟨_, hl1, hl2⟩ := (hmemsubs tid).1 hmt
    obtain ⟨hpre, hpost⟩ := svcC_sorted_split hsplit hnd hsorted (fun x hx => ((hmemsubs x).1 hx).2.1)
    refine .all tid t hpfx ht ⟨hl1, hl2⟩ hd (hrc.congr fun id => and_congr_left fun ⟨_, _, _, hx, _⟩ => not_congr ?_)
    -- among the stored sessions, those before `tid` are those of the link with a smaller reply number
    constructor
    · intro hm
      rcases List.mem_cons.1 hm with he | he
      · rw [he]
        exact ⟨rfl, by rw [hp.reply0]; omega⟩
      · exact ⟨((hmemsubs id).1 (by rw [hsplit]; exact List.mem_append_left _ he)).2.1, hpre id he⟩
    · rintro ⟨he1, he2⟩
      rcases (hlink hx).2 he1 with he | hmid
      · rw [he]; exact List.mem_cons_self ..
      · rw [hsplit] at hmid
        rcases List.mem_append.1 hmid with hm | hm
        · exact List.mem_cons_of_mem _ hm
        · rcases List.mem_cons.1 hm with hm | hm
          · rw [hm] at he2; omega
          · have := hpost id hm; omega
  | some p =>
    dsimp only
    cases hfind : c.st.sessions.find? (fun e => e.1.id == s.id.id && e.1.reply != 0 &&
        nickToLower e.2.nick == nickToLower p.name) with
    | none => exact .pure ⟨NewOut.refl _ c, nofun, fun _ _ => Or.inl (.refl _)⟩
    | some e =>
      refine .bind fun rc hrc c' hr => ?_
      have hmem : (e.1, e.2) ∈ c.st.sessions := List.mem_of_find?_eq_some hfind
      have hget := AMap.get_of_mem_nodup hi.sessNodup hmem
      have hprop := List.find?_some hfind
      simp only [Bool.and_eq_true, beq_iff_eq, bne_iff_ne, ne_eq, hsid] at hprop
      have hlive := hi.noDeleted _ _ hget
      have sp := deleteSession_spec (c := emit c _ _) hi.toWInv hget (DelPre.of_live hlive) hr
      refine ⟨((NewOut.refl _ c).emit fun i k => ?_).frame sp.frame, nofun,
        fun p' hp' => Or.inr ⟨e.1, e.2, hget, hprop.1.1, hprop.1.2, ?_, fun lc id => ?_⟩⟩
      · exact .one p e.1 e.2 hpfx hget ⟨hprop.1.1, hprop.1.2⟩ hprop.2 rfl
          (rcCommonChannels_lists hi hn hrc).rcptIs_nil
      · cases hp'; exact hprop.2
      · exact sp.onChan (c := emit c _ _) hi hn hget

end Robust.Irc
