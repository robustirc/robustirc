import Robust.Irc.Proofs.ClientMid
/-!
Handler proofs, group 1 — part b: `cmdQuit`, `cmdPart` (`partOne`), `cmdKick`, `cmdKill`, `cmdGline`.  KICK and PART
take a member out of a channel (`CMid.leaveChannel`); QUIT, KILL and GLINE delete a session and end in `CPost`
(`CMid.deleteSession`: the deleted session stays stored, flagged, until the entry is finished).
-/
namespace Robust.Irc
open AMap

variable {G : Prop}

theorem cmdQuit_wp {c0 c : Ctx} {sid : Id} {m : IrcMsg} (h : CMid c0 c sid) :
    (cmdQuit c sid m).Wp G fun c' => CPost c0 c' sid := by
  obtain ⟨s, hs⟩ := h.pre.actor
  unfold cmdQuit
  refine .bind (h.deleteSession hs (.inl rfl)) fun c1 _ ⟨hpost, hk, hw1⟩ => ?_
  obtain ⟨s1, hs1, _⟩ := hk sid s hs
  exact .bindEq (getS_of_get hs1) (.ite (fun _ => .bind (rcCommonChannels_wp s1 fun _ => hw1) fun _ _ _ =>
    .pure ((hpost.emit _ _).sendUser _ _)) fun _ => .pure hpost)

/-! ## PART

`Preserves cmdPart` is false without knowing that the actor has a nickname: `Inv` allows a
nickless session `A` that is indexed under `""` and a member (key `""`) of `#x`; a second
nickless, unindexed session `B` sending `PART #x` finds `""` in the member map, removes `A`'s
entry, and `A` then lists a channel it is no member of.  The gate only lets registered sessions
send PART, and `LInv` turns that into `nick ≠ ""`. -/

theorem partOne_wp {c0 c : Ctx} {sid : Id} {chn : String} (h : CMid c0 c sid) (hr : Reg c sid) :
    (partOne c sid chn).Wp G fun c' => CMid c0 c' sid ∧ Reg c' sid := by
  obtain ⟨s, hs, hl⟩ := hr
  have hnick := h.pre.linv sid s hs hl
  have hw := h.pre.inv.toWInvCore
  unfold partOne
  refine .bindEq (getS_of_get hs) ?_
  dsimp only
  cases hch : getChan c (chanToLower chn) with
  | none => exact .pure ⟨h.sendUser _ _, s, hs, hl⟩
  | some ch =>
    refine .ite (fun _ => .pure ⟨h.sendUser _ _, s, hs, hl⟩) fun _ =>
      .bind (rcChannel_wp (fun _ => hw) hch) fun _ _ _ => ?_
    have hidx := h.pre.inv.owns sid s hs (h.pre.live hs) hnick
    exact ((h.emit _ _).leaveChannel hidx hch).mono fun _ h' => ⟨h'.1, Reg.kept ⟨s, hs, hl⟩ h'.2⟩

/-- `Preserves` restricted to registered actors (what the gate guarantees for every command but
NICK/USER/PASS/QUIT/SERVER) -/
def PreservesL (h : Ctx → Id → IrcMsg → Res Ctx) : Prop :=
  ∀ c sid m c' s, Pre c sid → AMap.get c.st.sessions sid = some s → s.loggedIn = true →
    h c sid m = .ok c' → Post c c' sid

theorem Preserves.preservesL {h : Ctx → Id → IrcMsg → Res Ctx} (hh : Preserves h) : PreservesL h :=
  fun c sid m c' _ hp _ _ hr => hh c sid m c' hp hr

theorem cmdPart_wp {c : Ctx} {sid : Id} {m : IrcMsg} {s : Session} (hp : Pre c sid)
    (hs : AMap.get c.st.sessions sid = some s) (hl : s.loggedIn = true) :
    (cmdPart c sid m).Wp (1 ≤ m.params.length) fun c' => CMid c c' sid := by
  unfold cmdPart
  exact .bind (param_wp id) fun _ _ _ => (Res.Wp.foldlM _ (I := fun c1 => CMid c c1 sid ∧ Reg c1 sid)
    ⟨.refl hp, s, hs, hl⟩ fun _ _ _ h => partOne_wp h.1 h.2).mono fun _ h => h.1

theorem cmdKick_wp : ClientWp cmdKick 2 := fun c sid m hp => by
  have h0 := CMid.refl hp
  have hw := hp.inv.toWInvCore
  unfold cmdKick
  refine .bind (getS_wp fun _ => hp.actor) fun s _ _ => .bind (param_wp Nat.lt_of_succ_lt) fun chn _ _ =>
    .bind (param_wp id) fun target _ _ => ?_
  dsimp only
  cases hch : getChan c (chanToLower chn) with
  | none => exact .pure (h0.sendUser _ _)
  | some ch =>
    dsimp only
    cases AMap.get ch.nicks (nickToLower s.nick) with
    | none => exact .pure (h0.sendUser _ _)
    | some perms =>
      refine .ite (fun _ => .pure (h0.sendUser _ _)) fun _ => .ite (fun _ => .pure (h0.sendUser _ _)) fun hcont => ?_
      -- a member of a stored channel is indexed: the panic site is dead
      obtain ⟨tid, hidx⟩ := hw.membersIndexed hch _ (AMap.contains_iff_mem_keys.1 (by simpa using hcont))
      rw [hidx]
      exact .bind (rcChannel_wp (fun _ => hw) hch) fun _ _ _ =>
        ((h0.emit _ _).leaveChannel hidx hch).mono fun _ h => h.1

theorem cmdKill_wp {c0 c : Ctx} {sid : Id} {m : IrcMsg} (h : CMid c0 c sid) :
    (cmdKill c sid m).Wp (2 ≤ m.params.length) fun c' => CPost c0 c' sid := by
  have reply : ∀ x, CPost c0 (sendUser c sid x) sid := fun _ => (h.sendUser _ _).cpost
  unfold cmdKill
  refine .bind (getS_wp fun _ => h.pre.actor) fun s _ hs => .ite (fun _ => .pure (reply _)) fun hop =>
    .bind (param_wp Nat.lt_of_succ_lt) fun p0 _ _ => ?_
  cases hidx : AMap.get c.st.nicks (nickToLower p0) with
  | none => exact .pure (reply _)
  | some tid =>
    obtain ⟨t, ht, _⟩ := h.pre.inv.index _ tid hidx
    -- an IRC operator stays one, so it may leave the killed session flagged
    refine .bind (h.deleteSession ht (.inr fun c1 hk => ?_)) fun c1 _ ⟨hpost, hk, hw1⟩ => ?_
    · obtain ⟨s1, hs1, _, _, hop1⟩ := hk sid s hs
      exact ⟨s1, hs1, .inr (by rw [hop1]; simpa using hop)⟩
    · obtain ⟨t1, ht1, _⟩ := hk tid t ht
      obtain ⟨s1, hs1, _⟩ := hk sid s hs
      exact .bindEq (getS_of_get ht1) (.bindEq (getS_of_get hs1) (.bind (rcCommonChannels_wp t1 fun _ => hw1)
        fun _ _ _ => .pure (((hpost.emit _ _).sendUser _ _).sendUser _ _)))

theorem cmdGline_wp {c0 c : Ctx} {sid : Id} {m : IrcMsg} (h : CMid c0 c sid) :
    (cmdGline c sid m).Wp (2 ≤ m.params.length) fun c' => CPost c0 c' sid := by
  have reply : ∀ x, CPost c0 (sendUser c sid x) sid := fun _ => (h.sendUser _ _).cpost
  unfold cmdGline
  refine .bind (getS_wp fun _ => h.pre.actor) fun s _ _ => .ite (fun _ => .pure (reply _)) fun _ =>
    .bind (param_wp Nat.lt_of_succ_lt) fun p0 _ _ => ?_
  cases hidx : AMap.get c.st.nicks (nickToLower p0) with
  | none => exact .pure (reply _)
  | some tid =>
    exact .bind (getS_wp fun _ => h.pre.inv.toWInvCore.indexed_stored hidx) fun t _ _ =>
      .ite (fun _ => .pure (reply _)) fun _ => cmdKill_wp (h.setConfig _)

end Robust.Irc
