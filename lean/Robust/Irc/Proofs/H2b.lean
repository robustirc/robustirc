import Robust.Irc.Proofs.H2a
/-! NAMES, WHO, WHOIS -/
namespace Robust.Irc
open Rd
open AMap

/-- NAMES is also called by JOIN and SVSJOIN, for the session that has joined: all it needs of the sender is that it
is stored -/
theorem cmdNames_wp : RepliesWp cmdNames fun c sid _ => WInvCore c.st ∧ ∃ s, AMap.get c.st.sessions sid = some s :=
  fun c sid m => by
  unfold cmdNames
  refine .bind (getS_wp fun g => g.2) fun s _ _ => ?_
  dsimp only
  cases m.params.head? with
  | none => exact .pure (.reply c sid _)
  | some chn =>
    dsimp only
    cases hch : getChan c (chanToLower chn) with
    | none => exact .pure (.reply c sid _)
    | some ch =>
      refine .bind (.mapRes (R := fun _ _ => True) fun e he => ?_) fun _ _ _ =>
        .pure ((Refused.reply c sid _).sendUser _)
      -- a member of a stored channel is indexed, to a stored session
      cases h1 : AMap.get c.st.nicks e.1 with
      | none =>
        refine .panic _ fun g => ?_
        obtain ⟨_, h⟩ := g.1.membersIndexed hch e.1 (AMap.mem_keys_of_mem he)
        rw [h1] at h; cases h
      | some mid =>
        dsimp only
        cases h2 : AMap.get c.st.sessions mid with
        | none =>
          refine .panic _ fun g => ?_
          obtain ⟨_, h, _⟩ := g.1.index e.1 mid h1
          rw [h2] at h; cases h
        | some ms => exact .ite (fun _ => .ok trivial) fun _ => .ok trivial

theorem cmdNames_emits {c c' : Ctx} {sid : Id} {m : IrcMsg} (hr : cmdNames c sid m = .ok c') : Emits c c' :=
  cmdNames_wp.emitsWp.emits hr

theorem cmdNames_safe_member {c : Ctx} {sid : Id} {s : Session} (m : IrcMsg) (hw : WInvCore c.st)
    (hs : AMap.get c.st.sessions sid = some s) : ∀ site, cmdNames c sid m ≠ .panic site :=
  (cmdNames_wp c sid m).safe ⟨hw, s, hs⟩

theorem cmdNames_safe : ClientSafe cmdNames 0 true :=
  fun _ _ m _ hp hs _ _ _ => cmdNames_safe_member m hp.inv.toWInvCore hs

theorem cmdWho_wp : RepliesWp cmdWho (Gated 0) := fun c sid m => by
  unfold cmdWho
  refine .bind (getS_wp fun g => g.1.actor) fun s _ _ => ?_
  cases m.params.head? with
  | none => exact .pure (.reply c sid _)
  | some chn =>
    dsimp only
    cases hch : getChan c (chanToLower chn) with
    | none => exact .pure (.reply c sid _)
    | some ch =>
      -- what the first loop says of each nick it returns is what keeps the second loop from panicking
      refine .ite (fun _ => .pure (.reply c sid _)) fun _ => .bind (.mapRes (R := fun e o => ∀ n, o = some n →
        ∃ mid ms, AMap.get c.st.nicks e.1 = some mid ∧ AMap.get c.st.sessions mid = some ms ∧ ms.nick = n)
        fun e he => ?_) fun members _ hmem =>
          .bind (.foldlM (I := fun c1 => Refused c c1 sid) _ (.refl c sid) fun c1 nick hn h1 => ?_) fun _ _ h =>
            .pure (h.sendUser _)
      · cases hi : AMap.get c.st.nicks e.1 with
        | none =>
          refine .panic _ fun g => ?_
          obtain ⟨_, h⟩ := g.1.inv.toWInvCore.membersIndexed hch e.1 (AMap.mem_keys_of_mem he)
          rw [hi] at h; cases h
        | some mid =>
          exact .bind (getS_indexed_wp hi fun g => g.1.inv.toWInvCore) fun ms _ h2 =>
            .ite (fun _ => .ok fun _ h => nomatch h) fun _ => .ok fun _ h => ⟨mid, ms, rfl, h2, by cases h; rfl⟩
      · cases hi : AMap.get c1.st.nicks (nickToLower nick) with
        | none =>
          refine .panic _ fun g => ?_
          rw [List.mem_mergeSort, List.mem_filterMap] at hn
          obtain ⟨o, ho, rfl⟩ := hn
          obtain ⟨e, _, hR⟩ := hmem _ ho
          obtain ⟨mid, ms, a1, a2, rfl⟩ := hR _ rfl
          obtain ⟨ms', b1, _, b3⟩ := g.1.inv.toWInvCore.index e.1 mid a1
          rw [a2] at b1; cases b1
          rw [h1.st, b3, a1] at hi; cases hi
        | some mid =>
          exact .bind (getS_indexed_wp hi fun g => by rw [h1.st]; exact g.1.inv.toWInvCore)
            fun _ _ _ => .ok (h1.sendUser _)

theorem cmdWhois_wp : RepliesWp cmdWhois (Gated 1) := fun c sid m => by
  unfold cmdWhois
  refine .bind (getS_wp fun g => g.1.actor) fun s _ _ => .bind (param_wp fun g => g.2) fun p0 _ _ => ?_
  cases hi : AMap.get c.st.nicks (nickToLower p0) with
  | none => exact .pure (.reply c sid _)
  | some tid =>
    refine .bind (getS_indexed_wp hi fun g => g.1.inv.toWInvCore) fun t _ ht =>
      .bind (.mapRes (R := fun _ _ => True) fun lc hlc => ?_) fun _ _ _ => .ite (fun _ => .declined _) fun _ => .pure ?_
    · -- a session found through the index is a member of each channel it lists
      have hmemb : Gated 1 c sid m → ∃ ch mem, AMap.get c.st.channels lc = some ch ∧
          AMap.get ch.nicks (nickToLower t.nick) = some mem := fun g => by
        obtain ⟨t', ht', _, _, h⟩ := g.1.inv.toWInv.indexed_member hi
        rw [ht] at ht'; cases ht'
        exact h lc hlc
      rw [getChan_eq, sendUser_st]
      cases h1 : AMap.get c.st.channels lc with
      | none =>
        refine .panic _ fun g => ?_
        obtain ⟨_, _, h, _⟩ := hmemb g
        rw [h1] at h; cases h
      | some ch =>
        refine .ite (fun _ => .ok trivial) fun _ => ?_
        cases h2 : AMap.get ch.nicks (nickToLower t.nick) with
        | none =>
          refine .panic _ fun g => ?_
          obtain ⟨_, _, h, h'⟩ := hmemb g
          rw [h1] at h; cases h
          rw [h2] at h'; cases h'
        | some mem => exact .ok trivial
    · exact (((((((Refused.reply c sid _).sendUserIf).sendUser _).sendUserIf).sendUserIf).sendUser _).sendUserIf).sendUser _

end Robust.Irc
