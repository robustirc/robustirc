import Robust.Irc.SCmds
import Robust.Irc.Proofs.ChanModeSteps
/-!
The handlers cut into the pieces that the proofs walk one by one.

A handler whose body has a join point (the part after the admission checks of NICK, JOIN, SVSNICK), a loop body
(the services' MODE and SVSMODE, the burst of SERVER) or a long block that only emits (the welcome burst of
`maybeLogin`) is stated through named pieces, with an equation `cmdX_eq` (or `rfl`) that says so, so that every
family of theorems walks each piece once.  `cmdNick_cases` and `joinAdmit_cases` are eliminators for the admission
phases: they list the outcomes (refused with one reply, for JOIN also declined, gone on: then with what the passed
tests say of the nick, or that a created channel had room) but not which test refused, so they serve the statements that do not ask
(the invariant and panic-freedom in `H1c`/`H1d`, the recipients in `RcptNick`/`RcptJoin`, the operator history in
`PrivHistH`, the channel limit); a statement about the tests themselves (`joinAdmit_existing` of C13) walks the
piece.  `loginOper_sat` does the same for the OPER that the login runs, for a statement that needs nothing of the
parsed line (`RcptNick`).  Also here: what NICK and SVSNICK do to the index
and the member maps (`renameCtx`), what dropping an expired hold leaves alone (`holdCtx`, `HoldFrame`), the rule of the
JOIN loop (`joinLoop_rule`), and the two configuration tests that OPER and SERVER make (`operListed`, `servicesAuth`).
-/
namespace Robust.Irc
open Robust AMap

/-- what `cmdNick` / `cmdServerSvsnick` do to one channel: move the entry `old` to `new` -/
def rekeyCh (old new : String) (ch : Channel) : Channel :=
  { ch with nicks := AMap.erase (match AMap.get ch.nicks old with
      | some modes => AMap.set ch.nicks new modes
      | none => ch.nicks) old }

def rekeyChan (old new : String) (e : String × Channel) : String × Channel := (e.1, rekeyCh old new e.2)

/-- the lambda in the handlers is `rekeyChan` -/
theorem rekeyChan_eq (old new : String) :
    (fun (e : String × Channel) =>
      let ch := e.2
      let nicks := match AMap.get ch.nicks old with
        | some modes => AMap.set ch.nicks new modes
        | none => ch.nicks
      (e.1, { ch with nicks := AMap.erase nicks old })) = rekeyChan old new := rfl

/-- index the session under the new key and, if `doRekey`, drop the old key from the index and
move the member entries.  (`cmdNick`: `doRekey = (oldNick != "" && !onlyCapsChanged)`;
`cmdServerSvsnick`: `doRekey = (lcnew != oldNick)`.) -/
def renameCtx (c : Ctx) (tid : Id) (lcnew oldNick : String) (doRekey : Bool) : Ctx :=
  let c := { c with st := { c.st with nicks := AMap.set c.st.nicks lcnew tid } }
  if doRekey then
    let st := c.st
    { c with st := { st with
        nicks := AMap.erase st.nicks oldNick,
        channels := st.channels.map fun e =>
          let ch := e.2
          let nicks := match AMap.get ch.nicks oldNick with
            | some modes => AMap.set ch.nicks lcnew modes
            | none => ch.nicks
          (e.1, { ch with nicks := AMap.erase nicks oldNick }) } }
  else c

/-! ### a line that starts with a command word parses (what `maybeLogin` and the service aliases build) -/

theorem dropWhile_all_false {α : Type} (p : α → Bool) (l : List α) (h : ∀ x ∈ l, p x = false) : l.dropWhile p = l := by
  cases l with
  | nil => rfl
  | cons a t => exact List.dropWhile_cons_of_neg (by simp [h a (List.mem_cons_self ..)])

theorem trim_keeps_prefix (pre r : List Char) (h : ∀ x ∈ pre, isCutset x = false) :
    ∃ Y, (((pre ++ r).dropWhile isCutset).reverse.dropWhile isCutset).reverse = pre ++ Y := by
  cases pre with
  | nil => exact ⟨_, rfl⟩
  | cons a t =>
    have h1 : ((a :: t) ++ r).dropWhile isCutset = (a :: t) ++ r :=
      List.dropWhile_cons_of_neg (by simp [h a (List.mem_cons_self ..)])
    rw [h1, List.reverse_append, List.dropWhile_append]
    have h2 : (a :: t).reverse.dropWhile isCutset = (a :: t).reverse :=
      dropWhile_all_false _ _ (fun x hx => h x (List.mem_reverse.1 hx))
    split
    · rw [h2, List.reverse_reverse]; exact ⟨[], by simp⟩
    · rw [List.reverse_append, List.reverse_reverse]; exact ⟨_, rfl⟩

theorem parseMessage_some_of_prefix (s rest : String) (c0 c1 : Char) (tl : List Char)
    (hs : s.toList = c0 :: c1 :: tl) (hcut : ∀ x ∈ s.toList, isCutset x = false) (hc0 : c0 ≠ ':') :
    ∃ pm, parseMessage (s ++ rest) = some pm := by
  unfold parseMessage
  obtain ⟨Y, hY⟩ := trim_keeps_prefix s.toList rest.toList hcut
  rw [String.toList_append]
  simp only
  rw [hY, hs]
  have hsize : ¬ (String.ofList (c0 :: c1 :: tl ++ Y)).utf8ByteSize < 2 := by
    simp only [List.cons_append, String.ofList_cons, String.utf8ByteSize_append, String.utf8ByteSize_singleton]
    have := Char.utf8Size_pos c0
    have := Char.utf8Size_pos c1
    omega
  rw [if_neg hsize]
  split
  · rename_i heq
    simp only [List.cons_append, List.cons.injEq] at heq
    exact absurd heq.1 hc0
  · exact ⟨_, rfl⟩

/-- the welcome burst of `maybeLogin` (output only) -/
def loginBanner (c : Ctx) (sid : Id) (s : Session) : Ctx :=
  let sn := c.st.serverName
  let c := sendUser c sid (srv c "001" [s.nick, "Welcome to RobustIRC!"])
  let c := sendUser c sid (srv c "002" [s.nick, "Your host is " ++ sn])
  let c := sendUser c sid (srv c "003" [s.nick, "This server was created <ServerCreation>"])
  let c := sendUser c sid (srv c "004" [s.nick, sn ++ " v1 i nstix"])
  let c := sendUser c sid (srv c "005" ["CHANTYPES=#", "CHANNELLEN=32", "NICKLEN=30", "MODES=1", "PREFIX=(o)@", "KNOCK", "are supported by this server"])
  let c := emit c ⟨none, "NICK", [s.nick, "1", "1", s.username, s.ircPrefix.host, sn, s.svid, "+", s.realname]⟩ (rcServices c.st)
  let pass := extractPassword s.pass "nickserv"
  if pass != "" then
    emit c ⟨some s.ircPrefix, "PRIVMSG", ["NickServ", "IDENTIFY " ++ pass]⟩ (rcServices c.st)
  else c

/-- the automatic `OPER` of `maybeLogin` -/
def loginOper (c : Ctx) (sid : Id) (s : Session) : Res Ctx :=
  let opass := extractPassword s.pass "oper"
  if opass != "" then
    match parseMessage ("OPER " ++ opass) with
    | none => Res.panic "parsed is nil"
    | some parsed => if parsed.params.length > 1 then cmdOper c sid parsed else pure c
  else pure c

theorem maybeLogin_eq (c : Ctx) (sid : Id) (m : IrcMsg) :
    maybeLogin c sid m = (do
      let s ← getS c sid
      if s.loggedIn then return c
      if s.nick == "" || s.username == "" then return c
      if c.st.config.captchaRequiredForLogin then
        .declined "captcha login"
      else
        let c ← modS c sid fun s => { s with loggedIn := true }
        let c ← loginOper (loginBanner c sid s) sid s
        let c ← modS c sid fun s => { s with pass := "" }
        cmdMotd c sid m) := by
  unfold maybeLogin loginOper loginBanner
  refine bind_congr fun s => ?_
  refine ite_congr rfl (fun _ => rfl) (fun _ => ?_)
  refine ite_congr rfl (fun _ => rfl) (fun _ => ?_)
  refine ite_congr rfl (fun _ => rfl) (fun _ => ?_)
  refine bind_congr fun c1 => ?_
  dsimp only
  generalize parseMessage _ = pm
  cases pm <;> with_reducible rfl

theorem loginBanner_st (c : Ctx) (sid : Id) (s : Session) : (loginBanner c sid s).st = c.st := by
  unfold loginBanner
  extract_lets sn c1 c2 c3 c4 c5 c6 pass
  have h6 : c6.st = c.st :=
    (emit_st c5 _ _).trans ((sendUser_st c4 _ _).trans ((sendUser_st c3 _ _).trans ((sendUser_st c2 _ _).trans
      ((sendUser_st c1 _ _).trans (sendUser_st c _ _)))))
  split
  · exact (emit_st c6 _ _).trans h6
  · exact h6

theorem loginOper_sat {c : Ctx} {sid : Id} {s : Session} {P : Ctx → Prop} (hc : P c)
    (hop : ∀ m, (cmdOper c sid m).Sat P) : (loginOper c sid s).Sat P := by
  unfold loginOper
  refine .ite (fun _ => ?_) fun _ => .pure hc
  cases parseMessage ("OPER " ++ extractPassword s.pass "oper") with
  | none => exact .panic _
  | some parsed => exact .ite (fun _ => hop parsed) fun _ => .pure hc

/-- `cmdNick` drops an expired SVSHOLD on the nick -/
def holdCtx (c : Ctx) (k : String) (held : Option SvsHold) : Ctx :=
  match held with
  | some _ => { c with st := { c.st with svsholds := AMap.erase c.st.svsholds k } }
  | none => c

/-- what `holdCtx` leaves alone, as far as the families read it -/
structure HoldFrame (c c' : Ctx) : Prop where
  sessions : c'.st.sessions = c.st.sessions
  nicks : c'.st.nicks = c.st.nicks
  channels : c'.st.channels = c.st.channels
  serverSessions : c'.st.serverSessions = c.st.serverSessions
  config : c'.st.config = c.st.config
  out : c'.out = c.out
  msgid : c'.msgid = c.msgid

theorem holdCtx_frame (c : Ctx) (k : String) (held : Option SvsHold) : HoldFrame c (holdCtx c k held) := by
  cases held <;> exact ⟨rfl, rfl, rfl, rfl, rfl, rfl, rfl⟩

/-- the part of `cmdNick` after the admission checks (the join point of the SVSHOLD `match`) -/
def cmdNickTail (c : Ctx) (sid : Id) (m : IrcMsg) (s : Session) (nick : String) (held : Option SvsHold) : Res Ctx := do
  let oldPrefix := s.ircPrefix
  let dest := if s.loggedIn then s.nick else "*"
  let onlyCapsChanged := s.loggedIn && nickToLower nick == nickToLower dest
  let lcnew := nickToLower nick
  let c := holdCtx c lcnew held
  if s.nick == nick then return c
  let oldNick := nickToLower s.nick
  let c ← modS c sid fun s => { s with nick := nick }
  let c := renameCtx c sid lcnew oldNick (oldNick != "" && !onlyCapsChanged)
  let c ← modS c sid updateIrcPrefix
  if oldNick != "" then
    let s ← getS c sid
    let rc ← rcCommonChannels c.st s
    return emit c ⟨some oldPrefix, "NICK", [nick]⟩ (rcUser sid ++ rc ++ rcServices c.st)
  maybeLogin c sid m

theorem cmdNick_eq (c : Ctx) (sid : Id) (m : IrcMsg) :
    cmdNick c sid m = (do
      let s ← getS c sid
      let nick := m.params.head?.getD ""
      if nick == "" then
        return sendUser c sid (srv c "431" ["No nickname given"])
      let dest := if s.loggedIn then s.nick else "*"
      let onlyCapsChanged := s.loggedIn && nickToLower nick == nickToLower dest
      if !isValidNickname nick then
        return sendUser c sid (srv c "432" [dest, nick, "Erroneous nickname"])
      if (AMap.contains c.st.nicks (nickToLower nick) && !onlyCapsChanged) || isServicesNickname nick then
        return sendUser c sid (srv c "433" [dest, nick, "Nickname is already in use"])
      match AMap.get c.st.svsholds (nickToLower nick) with
      | some hold =>
        if !(s.lastActivity > hold.added + hold.duration) then
          return sendUser c sid (srv c "432" [dest, nick, "Erroneous Nickname: " ++ hold.reason])
        else cmdNickTail c sid m s nick (some hold)
      | none => cmdNickTail c sid m s nick none) := by
  unfold cmdNick cmdNickTail renameCtx holdCtx
  cases getS c sid with
  | panic e => rfl
  | declined e => rfl
  | ok s =>
    simp only [Res.ok_bind]
    cases AMap.get c.st.svsholds (nickToLower (m.params.head?.getD "")) <;> rfl

theorem cmdNick_cases {Q : Res Ctx → Prop} {c : Ctx} {sid : Id} {m : IrcMsg} {s : Session}
    (hs : AMap.get c.st.sessions sid = some s) (refuse : ∀ x, Q (.ok (sendUser c sid x)))
    (tail : ∀ nick held, nick = m.params.head?.getD "" → isValidNickname nick = true →
      ¬((AMap.contains c.st.nicks (nickToLower nick) &&
          !(s.loggedIn && nickToLower nick == nickToLower (if s.loggedIn then s.nick else "*"))) ||
        isServicesNickname nick) = true →
      AMap.get c.st.svsholds (nickToLower nick) = held → Q (cmdNickTail c sid m s nick held)) :
    Q (cmdNick c sid m) := by
  rw [cmdNick_eq, getS_of_get hs, Res.ok_bind]
  dsimp only
  refine ite_ind (fun _ => refuse _) fun _ => ite_ind (fun _ => refuse _) fun hvalid =>
    ite_ind (fun _ => refuse _) fun hfree => ?_
  have hvalid : isValidNickname (m.params.head?.getD "") = true := by simpa using hvalid
  cases hh : AMap.get c.st.svsholds (nickToLower (m.params.head?.getD "")) with
  | none => exact tail _ none rfl hvalid hfree hh
  | some hold => exact ite_ind (fun _ => refuse _) fun _ => tail _ (some hold) rfl hvalid hfree hh

/-- what the admission check of `cmdNick` establishes -/
theorem nick_free_of_not {a b d : Bool} (h : ¬ ((a && !b) || d) = true) : a = false ∨ b = true := by
  cases a <;> cases b <;> cases d <;> simp at h ⊢

/-- the admission phase of `joinOne`: `none` = `continue`, `some mm` = go on (with the `MODE +nt`
announcement `mm` when the channel was created) -/
def joinAdmit (c : Ctx) (sid : Id) (s : Session) (channelname key : String) :
    Res (Ctx × Option (Option IrcMsg)) :=
  let lc := chanToLower channelname
  (match getChan c lc with
    | none =>
      if c.st.channels.length ≥ c.st.config.maxChannels && c.st.config.maxChannels > 0 then
        Res.ok (sendUser c sid (srv c "403" [s.nick, channelname, "No such channel"]), none, true)
      else
        let ch : Channel := { name := channelname, modes := ['n', 't'] }
        Res.ok (putChan c lc ch, some (srv c "MODE" [channelname, "+nt"]), false)
    | some ch =>
      if ch.modes.contains 'i' && !s.invitedTo.contains lc then
        Res.ok (sendUser c sid (srv c "473" [s.nick, ch.name, "Cannot join channel (+i)"]), none, true)
      else if ch.modes.contains 'x' && !s.invitedTo.contains lc then
        Res.declined "captcha join"
      else do
        let isB ← isBanned ch.bans s.ircPrefix.str (s.nick ++ "!" ++ s.username ++ "@" ++ s.remoteAddr)
        if isB then
          Res.ok (sendUser c sid (srv c "474" [s.nick, ch.name, "Cannot join channel (+b)"]), none, true)
        else if ch.modes.contains 'k' && ch.key != key then
          Res.ok (sendUser c sid (srv c "475" [s.nick, channelname, "Cannot join channel (+k) - Incorrect key"]), none, true)
        else Res.ok (c, none, false)) >>= fun (r : Ctx × Option IrcMsg × Bool) =>
      if r.2.2 then Res.ok (r.1, none) else Res.ok (r.1, some r.2.1)

/-- the announcements at the end of `joinOne` (after the member has been added) -/
def joinAnnounce (c : Ctx) (sid : Id) (channelname : String) (ch : Channel) (existed : Bool)
    (modesmsg : Option IrcMsg) : Res Ctx := do
  let s ← getS c sid
  let rc ← rcChannel c.st ch
  let c := emit c ⟨some s.ircPrefix, "JOIN", [channelname]⟩ rc
  let c ← (match modesmsg with
    | some mm => do
      let rc ← rcChannel c.st ch
      pure (emit c mm rc)
    | none => pure c)
  let c := emit c (srv c "SJOIN" ["1", channelname, (if !existed then "@" else "") ++ s.nick]) (rcServices c.st)
  let c ← cmdMode c sid ⟨none, "MODE", [channelname]⟩
  let c ← cmdTopic c sid ⟨none, "TOPIC", [channelname]⟩
  cmdNames c sid ⟨none, "NAMES", [channelname]⟩

/-- `joinOne` after the admission phase -/
def joinTail (c : Ctx) (sid : Id) (s : Session) (channelname : String) (existed : Bool)
    (modesmsg : Option IrcMsg) : Res Ctx := do
  let lc := chanToLower channelname
  let some ch := getChan c lc | .panic "channel is nil (cmdJoin)"
  let c ← (if ch.modes.contains 'i' || ch.modes.contains 'x' then
      modS c sid fun s => { s with invitedTo := s.invitedTo.filter (· ≠ lc) } else pure c)
  let lcn := nickToLower s.nick
  if AMap.contains ch.nicks lcn then return c
  let ch := { ch with nicks := AMap.set ch.nicks lcn { chanop := !existed } }
  let c := putChan c lc ch
  let c ← modS c sid fun s => { s with channels := setInsert s.channels lc }
  joinAnnounce c sid channelname ch existed modesmsg

theorem joinOne_eq (c : Ctx) (sid : Id) (chn key : String) :
    joinOne c sid chn key = (do
      let s ← getS c sid
      if !isValidChannel chn then
        return sendUser c sid (srv c "403" [s.nick, chn, "No such channel"])
      let r ← joinAdmit c sid s chn key
      match r.2 with
      | none => pure r.1
      | some mm => joinTail r.1 sid s chn (getChan c (chanToLower chn)).isSome mm) := by
  unfold joinOne joinAdmit
  refine bind_congr fun s => ?_
  refine ite_congr rfl (fun _ => rfl) (fun _ => ?_)
  dsimp only
  generalize (getChan c (chanToLower chn)).isSome = ex
  generalize getChan c (chanToLower chn) = oc
  cases oc <;>
  · dsimp only
    refine bind_congr fun r => ?_
    obtain ⟨c1, mm⟩ := r
    cases mm with
    | none => rfl
    | some mm =>
      dsimp only
      unfold joinTail joinAnnounce
      dsimp only
      cases getChan c1 (chanToLower chn) <;> rfl

/-- the loop of JOIN: what every `joinOne` keeps, the loop keeps.  With `G := False` and each step made by
`.of_sat h nofun`, its `.sat` is the rule for `Res.Sat`. -/
theorem joinLoop_rule {G : Prop} {I : Ctx → Prop} {sid : Id} {keys : List String} :
    ∀ (chans : List String) {idx : Nat} {c : Ctx}, I c →
      (∀ c ch key, ch ∈ chans → I c → (joinOne c sid ch key).Wp G I) → (joinLoop c sid keys chans idx).Wp G I
  | [], _, _, h, _ => .ok h
  | ch :: rest, _, _, h, step => by
    unfold joinLoop
    exact .bind (step _ ch _ List.mem_cons_self h) fun _ _ h1 =>
      joinLoop_rule rest h1 fun c x key hx => step c x key (List.mem_cons_of_mem _ hx)

theorem isBanned_ne_panic (bans : List Ban) (uh uha site : String) : isBanned bans uh uha ≠ .panic site := by
  induction bans with
  | nil => exact nofun
  | cons b rest ih =>
    unfold isBanned
    split
    · exact nofun
    · split
      · exact nofun
      · exact ih

/-- The results of the admission phase of `joinOne`: refused with one reply (`none`: the loop goes on to the next
channel); the channel is created (there was room for it), with its `MODE +nt` announcement; or the stored channel
lets the session in.
A ban mask outside the modelled patterns and the captcha mode make it decline. -/
theorem joinAdmit_cases {Q : Res (Ctx × Option (Option IrcMsg)) → Prop} {c : Ctx} {sid : Id} {s : Session}
    {chn key : String} (refuse : ∀ x, Q (.ok (sendUser c sid x, none)))
    (create : AMap.get c.st.channels (chanToLower chn) = none →
      ¬(c.st.channels.length ≥ c.st.config.maxChannels && c.st.config.maxChannels > 0) = true →
      Q (.ok (putChan c (chanToLower chn) { name := chn, modes := ['n', 't'] },
        some (some (srv c "MODE" [chn, "+nt"])))))
    (accept : ∀ ch, AMap.get c.st.channels (chanToLower chn) = some ch → Q (.ok (c, some none)))
    (declined : ∀ why, Q (.declined why)) : Q (joinAdmit c sid s chn key) := by
  unfold joinAdmit
  dsimp only
  -- the inner block yields `(context, announcement, refused?)`; the continuation only repackages it
  cases hch : getChan c (chanToLower chn) with
  | none => exact ite_ind (P := fun x => Q (x >>= _)) (fun _ => refuse _) fun hroom => create hch hroom
  | some ch =>
    refine ite_ind (P := fun x => Q (x >>= _)) (fun _ => refuse _) fun _ =>
      ite_ind (P := fun x => Q (x >>= _)) (fun _ => declined _) fun _ => ?_
    cases hb : isBanned ch.bans s.ircPrefix.str (s.nick ++ "!" ++ s.username ++ "@" ++ s.remoteAddr) with
    | panic site => exact absurd hb (isBanned_ne_panic _ _ _ _)
    | declined why => exact declined why
    | ok isB =>
      exact ite_ind (P := fun x => Q (x >>= _)) (fun _ => refuse _) fun _ =>
        ite_ind (P := fun x => Q (x >>= _)) (fun _ => refuse _) fun _ => accept ch hch

/-- the body of the loop over the mode changes in `cmdServerMode` (scmd_mode.go): one letter of a channel mode -/
def serverModeStep (m : IrcMsg) (channelname lc : String) (c : Ctx) (mc : ModeCmd) : Res Ctx := do
  let some ch := getChan c lc | Res.panic "channel is nil (cmdServerMode)"
  let b := modeByteChar mc
  let newvalue := hasPrefix mc.mode "+"
  if b == 't' || b == 's' || b == 'r' || b == 'i' then
    pure (putChan c lc { ch with modes := modeSet ch.modes b newvalue })
  else if b == 'o' then
    match AMap.get ch.nicks (nickToLower mc.param) with
    | none => do
      let pn ← pfxName m
      pure (sendSvc c (srv c "441" [pn, mc.param, channelname, "They aren't on that channel"]))
    | some perms =>
      if perms.chanop != newvalue then
        pure (putChan c lc { ch with nicks := AMap.set ch.nicks (nickToLower mc.param) { perms with chanop := newvalue } })
      else pure c
  else do
    let pn ← pfxName m
    pure (sendSvc c (srv c "472" [pn, String.singleton b, "is unknown mode char to me"]))

theorem cmdServerMode_eq (c : Ctx) (sid : Id) (m : IrcMsg) :
    cmdServerMode c sid m = (do
      let channelname ← param m 0
      let lc := chanToLower channelname
      match getChan c lc with
      | none => do
        let pn ← pfxName m
        pure (sendSvc c (srv c "403" [pn, channelname, "No such nick/channel"]))
      | some _ =>
        let modes := normalizeModes m
        let c ← modes.foldlM (serverModeStep m channelname lc) c
        if c.replyid > 0 then return c
        let some ch := getChan c lc | .panic "channel is nil (cmdServerMode)"
        let sp ← servicesPrefix m
        let rc ← rcChannel c.st ch
        pure (emit c ⟨some sp, "MODE", channelname :: ircParams modes⟩ rc)) := rfl

/-- the body of the loop over the mode changes in `cmdServerSvsmode` (scmd_svsmode.go): `d` sets the services id of the
target, `r` its registered flag -/
def svsmodeStep (tid : Id) (c : Ctx) (mc : ModeCmd) : Res Ctx :=
  let b := modeByteChar mc
  if b == 'd' then modS c tid fun t => { t with svid := mc.param }
  else if b == 'r' then modS c tid fun t => { t with modes := modeSet t.modes 'r' (hasPrefix mc.mode "+") }
  else Res.ok (sendSvc c (srv c "501" ["*", "Unknown MODE flag"]))

theorem cmdServerSvsmode_eq (c : Ctx) (sid : Id) (m : IrcMsg) :
    cmdServerSvsmode c sid m = (do
      let s ← getS c sid
      let p0 ← param m 0
      match AMap.get c.st.nicks (nickToLower p0) with
      | none => pure (sendSvc c (srv c "401" ["*", p0, "No such nick/channel"]))
      | some tid =>
        let modestr ← param m 1
        if !hasPrefix modestr "+" && !hasPrefix modestr "-" then
          return sendSvc c (srv c "501" ["*", "Unknown MODE flag"])
        let modes := normalizeModes m
        let c ← modes.foldlM (svsmodeStep tid) c
        let t ← getS c tid
        pure (sendUser c tid ⟨some s.ircPrefix, "MODE", [t.nick, modeStr t.modes]⟩)) := rfl

/-- the part of `cmdServerSvsnick` after the admission checks (a `do` join point) -/
def svsnickTail (c : Ctx) (p0 p1 : String) (tid : Id) : Res Ctx := do
  let t ← getS c tid
  let oldPrefix := t.ircPrefix
  let oldNick := nickToLower p0
  let lcnew := nickToLower p1
  let c ← modS c tid fun t => { t with nick := p1 }
  let c := renameCtx c tid lcnew oldNick (lcnew != oldNick)
  let c ← modS c tid updateIrcPrefix
  let t ← getS c tid
  let rc ← rcCommonChannels c.st t
  pure (emit c ⟨some oldPrefix, "NICK", [t.nick]⟩ (rcUser tid ++ rc ++ rcServices c.st))

theorem cmdServerSvsnick_eq (c : Ctx) (sid : Id) (m : IrcMsg) :
    cmdServerSvsnick c sid m = (do
      let p0 ← param m 0
      let p1 ← param m 1
      if !isValidNickname p1 then
        return sendSvc c (srv c "432" ["*", p1, "Erroneous nickname"])
      match AMap.get c.st.nicks (nickToLower p0) with
      | none => pure (sendSvc c (srv c "401" ["*", p0, "No such nick/channel"]))
      | some tid =>
        match AMap.get c.st.nicks (nickToLower p1) with
        | some other =>
          if other != tid then
            return sendSvc c (srv c "433" ["*", p1, "Nickname is already in use"])
          else svsnickTail c p0 p1 tid
        | none => svsnickTail c p0 p1 tid) := by
  unfold cmdServerSvsnick svsnickTail renameCtx
  rfl

/-- the burst that answers SERVER (`cmdServer`, server_commands.go), inner loop: one `SJOIN` per channel of the
session `t` -/
def serverBurstChan (t : Session) (c : Ctx) (lc : String) : Res Ctx :=
  match getChan c lc with
  | none => Res.panic "channel is nil (cmdServer)"
  | some ch =>
    match AMap.get ch.nicks (nickToLower t.nick) with
    | none => Res.panic "c.nicks[nick] is nil (cmdServer)"
    | some mem => Res.ok (sendSvc c (srv c "SJOIN" ["1", ch.name, (if mem.chanop then "@" else "") ++ t.nick]))

/-- the burst that answers SERVER, outer loop over the nick index in sorted order: `NICK` for a registered client
session, then its channels -/
def serverBurstNick (c : Ctx) (nick : String) : Res Ctx :=
  match AMap.get c.st.nicks nick with
  | none => Res.panic "session is nil (cmdServer)"
  | some tid => (getS c tid).bind fun t =>
    if !t.loggedIn || t.server || t.id.reply != 0 then Res.ok c
    else
      let c := sendSvc c ⟨none, "NICK", [t.nick, "1", "1", t.username, t.ircPrefix.host, c.st.serverName, t.svid, modeStr t.modes, t.realname]⟩
      (t.channels.mergeSort (fun a b => a ≤ b)).foldlM (serverBurstChan t) c

theorem cmdServer_eq (c : Ctx) (sid : Id) (m : IrcMsg) :
    cmdServer c sid m = (do
      let s ← getS c sid
      if !(c.st.config.services.any fun pw => s.pass == "services=" ++ pw) then
        return sendUser c sid ⟨none, "ERROR", ["Invalid password"]⟩
      let p0 ← param m 0
      let c ← modS c sid fun s => { s with server := true, ircPrefix := ⟨p0, "", ""⟩ }
      let c := { c with st := { c.st with serverSessions := c.st.serverSessions ++ [sid.id] } }
      let c := sendSvc c ⟨none, "SERVER", [c.st.serverName, "1", "23"]⟩
      let nicks := (AMap.keys c.st.nicks).mergeSort (fun a b => a ≤ b)
      nicks.foldlM serverBurstNick c) := rfl

/-- the pair is configured in `Config.IRC.Operators` -/
def operListed (cfg : Config) (name password : String) : Bool :=
  cfg.operators.any fun op => op.1 == name && op.2 == password

/-- the password the session gave with PASS is a configured services password -/
def servicesAuth (cfg : Config) (pass : String) : Bool :=
  cfg.services.any fun pw => pass == "services=" ++ pw

end Robust.Irc
