import Robust.Irc.Inv
import Robust.Irc.Proofs.AMapLemmas
/-!
The consistency invariant of the IRC state as a `Prop`, in layers:

* `WInv`  – holds at every point *between primitives* inside a handler (sessions flagged
            `deleted` are still stored but no longer referenced; a channel may momentarily
            have no member, e.g. between `putChan … {name := …}` and the first member);
* `HInv`  – `WInv` + no stored channel is empty: holds at handler boundaries;
* `Inv`   – `HInv` + no stored session is flagged deleted: holds between entries.

The invariant of C14, `GInv` (`NInv.lean`), adds `LInv` (`FrameLogin.lean`: a registered session has a nickname) and
`NInv`, `VInv` (`NInv.lean`: nickless sessions are inert, names are valid).

`WInvCore` is `WInv` without the conjunct `member`; it is what survives *inside* the
primitives `leaveChannel` / `deleteSession` (which first drop the member and only then the
index entry / the channel from the session's list).
-/
namespace Robust.Irc
open Robust

theorem ofList_eq_empty {l : List Char} : String.ofList l = "" ↔ l = [] := by
  constructor
  · intro h
    have := congrArg String.toList h
    simpa using this
  · intro h; subst h; rfl

theorem toList_eq_nil {s : String} : s.toList = [] ↔ s = "" := by
  constructor
  · intro h
    have := congrArg String.ofList h
    simpa using this
  · intro h; subst h; rfl

theorem toLower_eq_empty {x : String} : toLower x = "" ↔ x = "" := by
  unfold toLower
  rw [ofList_eq_empty, List.map_eq_nil_iff, toList_eq_nil]

theorem nickToLower_eq_empty {x : String} : nickToLower x = "" ↔ x = "" := by
  unfold nickToLower
  rw [ofList_eq_empty, List.map_eq_nil_iff, toList_eq_nil, toLower_eq_empty]

theorem chanToLower_eq_empty {x : String} : chanToLower x = "" ↔ x = "" := toLower_eq_empty

@[simp] theorem nickToLower_empty : nickToLower "" = "" := nickToLower_eq_empty.2 rfl

theorem isValidNickname_ne_empty {x : String} (h : isValidNickname x = true) : x ≠ "" := by
  intro hx; subst hx
  simp [isValidNickname] at h

theorem nickToLower_ne_empty_of_valid {x : String} (h : isValidNickname x = true) : nickToLower x ≠ "" :=
  fun h' => isValidNickname_ne_empty h (nickToLower_eq_empty.1 h')

theorem keysNodup_iff {κ ν : Type} [DecidableEq κ] {m : AMap κ ν} : keysNodup m = true ↔ (AMap.keys m).Nodup := by
  simp [keysNodup]

def MemberOK (st : St) (lc : String) : Prop :=
  ∀ id s, AMap.get st.nicks lc = some id → AMap.get st.sessions id = some s →
    ∀ ch ∈ s.channels, ∃ c, AMap.get st.channels ch = some c ∧ AMap.contains c.nicks lc = true

structure WInvCore (st : St) : Prop where
  sessNodup : (AMap.keys st.sessions).Nodup
  nickNodup : (AMap.keys st.nicks).Nodup
  chanNodup : (AMap.keys st.channels).Nodup
  sessId : ∀ id s, AMap.get st.sessions id = some s → s.id = id ∧ s.channels.Nodup
  owns : ∀ id s, AMap.get st.sessions id = some s → s.deleted = false → s.nick ≠ "" →
          AMap.get st.nicks (nickToLower s.nick) = some id
  index : ∀ lc id, AMap.get st.nicks lc = some id →
          ∃ s, AMap.get st.sessions id = some s ∧ s.deleted = false ∧ nickToLower s.nick = lc
  chans : ∀ lc c, AMap.get st.channels lc = some c →
          chanToLower c.name = lc ∧ (AMap.keys c.nicks).Nodup ∧
          ∀ n, n ∈ AMap.keys c.nicks →
            ∃ id s, AMap.get st.nicks n = some id ∧ AMap.get st.sessions id = some s ∧ lc ∈ s.channels

structure WInv (st : St) : Prop extends WInvCore st where
  /-- an indexed session is a member of every channel it lists
  (stated on the index, so that it also covers a nickless session indexed under `""`) -/
  member : ∀ lc, MemberOK st lc

def ChansNonempty (st : St) : Prop := ∀ lc c, AMap.get st.channels lc = some c → c.nicks ≠ []

structure HInv (st : St) : Prop extends WInv st where
  nonempty : ChansNonempty st

structure Inv (st : St) : Prop extends HInv st where
  noDeleted : ∀ id s, AMap.get st.sessions id = some s → s.deleted = false

theorem WInvCore.chanMember {st : St} (h : WInvCore st) {lc : String} {c : Channel} {n : String} {mem : Member}
    (hc : AMap.get st.channels lc = some c) (hm : AMap.get c.nicks n = some mem) :
    ∃ id s, AMap.get st.nicks n = some id ∧ AMap.get st.sessions id = some s ∧ lc ∈ s.channels :=
  (h.chans lc c hc).2.2 n (AMap.mem_keys_of_get hm)

theorem WInvCore.index_get {st : St} (h : WInvCore st) {lc : String} {id : Id} {s : Session}
    (hi : AMap.get st.nicks lc = some id) (hs : AMap.get st.sessions id = some s) :
    s.deleted = false ∧ nickToLower s.nick = lc := by
  obtain ⟨s', hs', h1, h2⟩ := h.index lc id hi
  rw [hs] at hs'; cases hs'
  exact ⟨h1, h2⟩

theorem WInvCore.chanMember_get {st : St} (h : WInvCore st) {lc n : String} {c : Channel} {id : Id} {s : Session}
    (hc : AMap.get st.channels lc = some c) (hm : n ∈ AMap.keys c.nicks)
    (hi : AMap.get st.nicks n = some id) (hs : AMap.get st.sessions id = some s) : lc ∈ s.channels := by
  obtain ⟨id', s', h1, h2, h3⟩ := (h.chans lc c hc).2.2 n hm
  rw [hi] at h1; cases h1
  rw [hs] at h2; cases h2
  exact h3

theorem WInvCore.chanMember_live {st : St} (h : WInvCore st) {lc : String} {c : Channel} {n : String}
    (hc : AMap.get st.channels lc = some c) (hm : n ∈ AMap.keys c.nicks) :
    ∃ id s, AMap.get st.nicks n = some id ∧ AMap.get st.sessions id = some s ∧ lc ∈ s.channels ∧
      s.deleted = false ∧ nickToLower s.nick = n ∧ s.id = id := by
  obtain ⟨id, s, h1, h2, h3⟩ := (h.chans lc c hc).2.2 n hm
  exact ⟨id, s, h1, h2, h3, (h.index_get h1 h2).1, (h.index_get h1 h2).2, (h.sessId id s h2).1⟩

/-- the form C14 is stated in: a live session with a nickname is indexed under it and is a
member of every channel it lists -/
theorem WInv.owns_chans {st : St} (h : WInv st) {id : Id} {s : Session}
    (hs : AMap.get st.sessions id = some s) (hl : s.deleted = false) (hn : s.nick ≠ "") :
    AMap.get st.nicks (nickToLower s.nick) = some id ∧
    ∀ ch ∈ s.channels, ∃ c, AMap.get st.channels ch = some c ∧ AMap.contains c.nicks (nickToLower s.nick) = true :=
  ⟨h.owns id s hs hl hn, h.member _ id s (h.owns id s hs hl hn) hs⟩

theorem WInv.indexed {st : St} (h : WInv st) {lc : String} {id : Id} (hi : AMap.get st.nicks lc = some id) :
    ∃ s, AMap.get st.sessions id = some s ∧ s.deleted = false ∧ nickToLower s.nick = lc ∧ s.id = id ∧
      ∀ ch ∈ s.channels, ∃ c, AMap.get st.channels ch = some c ∧ AMap.contains c.nicks lc = true := by
  obtain ⟨s, h1, h2, h3⟩ := h.index lc id hi
  exact ⟨s, h1, h2, h3, (h.sessId id s h1).1, h.member lc id s hi h1⟩

theorem WInvCore.index_inj {st : St} (h : WInvCore st) {lc lc' : String} {id : Id}
    (h1 : AMap.get st.nicks lc = some id) (h2 : AMap.get st.nicks lc' = some id) : lc = lc' := by
  obtain ⟨s, hs, _, hn⟩ := h.index lc id h1
  rw [← hn, (h.index_get h2 hs).2]

/-! ### the invariants only look at `sessions`, `nicks`, `channels` -/

theorem MemberOK.congr {st st' : St} {lc : String} (h : MemberOK st lc) (hs : st'.sessions = st.sessions)
    (hn : st'.nicks = st.nicks) (hc : st'.channels = st.channels) : MemberOK st' lc := by
  unfold MemberOK at *
  rw [hs, hn, hc]; exact h

theorem WInvCore.congr {st st' : St} (h : WInvCore st) (hs : st'.sessions = st.sessions)
    (hn : st'.nicks = st.nicks) (hc : st'.channels = st.channels) : WInvCore st' := by
  obtain ⟨a1, a2, a3, a4, a5, a6, a7⟩ := h
  constructor <;> (rw [hs, hn, hc] at * <;> assumption)

theorem WInv.congr {st st' : St} (h : WInv st) (hs : st'.sessions = st.sessions)
    (hn : st'.nicks = st.nicks) (hc : st'.channels = st.channels) : WInv st' :=
  ⟨h.toWInvCore.congr hs hn hc, fun lc => (h.member lc).congr hs hn hc⟩

theorem ChansNonempty.congr {st st' : St} (h : ChansNonempty st) (hc : st'.channels = st.channels) :
    ChansNonempty st' := by
  unfold ChansNonempty at *
  rw [hc]; exact h

theorem HInv.congr {st st' : St} (h : HInv st) (hs : st'.sessions = st.sessions)
    (hn : st'.nicks = st.nicks) (hc : st'.channels = st.channels) : HInv st' :=
  ⟨h.toWInv.congr hs hn hc, h.nonempty.congr hc⟩

theorem Inv.congr {st st' : St} (h : Inv st) (hs : st'.sessions = st.sessions)
    (hn : st'.nicks = st.nicks) (hc : st'.channels = st.channels) : Inv st' :=
  ⟨h.toHInv.congr hs hn hc, by rw [hs]; exact h.noDeleted⟩

section congr_iff
variable {st st' : St} (hs : st'.sessions = st.sessions) (hn : st'.nicks = st.nicks) (hc : st'.channels = st.channels)
include hs hn hc

theorem WInv.congr_iff : WInv st' ↔ WInv st := ⟨fun h => h.congr hs.symm hn.symm hc.symm, fun h => h.congr hs hn hc⟩
theorem HInv.congr_iff : HInv st' ↔ HInv st := ⟨fun h => h.congr hs.symm hn.symm hc.symm, fun h => h.congr hs hn hc⟩
theorem Inv.congr_iff : Inv st' ↔ Inv st := ⟨fun h => h.congr hs.symm hn.symm hc.symm, fun h => h.congr hs hn hc⟩

end congr_iff

theorem WInv_init : WInv ({} : St) := by
  refine ⟨⟨List.nodup_nil, List.nodup_nil, List.nodup_nil, ?_, ?_, ?_, ?_⟩, ?_⟩
  · intro id s h; simp at h
  · intro id s h; simp at h
  · intro lc id h; simp at h
  · intro lc c h; simp at h
  · intro lc id s h; simp at h

theorem HInv_init : HInv ({} : St) := ⟨WInv_init, by intro lc c h; simp at h⟩

theorem Inv_init : Inv ({} : St) := ⟨HInv_init, by intro id s h; simp at h⟩

end Robust.Irc
