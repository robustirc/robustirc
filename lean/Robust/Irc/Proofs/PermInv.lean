import Robust.Irc.Proofs.PermHandler
import Robust.Irc.Proofs.Clean
/-!
Order-independence, part 7: the invariants are insensitive to the order of the maps.

* `Inv` (the working relation `StEq` is a `StView`), `LInv`, `NInv`, `VInv`, hence `GInv`, transfer along `StEq`
  (and hence along `≈` on states that satisfy the invariant and `HoldsNodup`);
* `UniqNick` (a non-empty nickname has one owner) follows from `Inv`;
* the prefix of a *parsed* line has a non-empty name (`MsgPfxOK`).
-/
namespace Robust.Irc
open Robust

/-! ### lookups on related states

The other value is given as the known one with other lists (`StEq.sess_cases`, `ChanEq.exists_with`), so that its scalar fields need
no rewriting. -/

theorem StEq.sess_bwd {st st' : St} (h : StEq st st') {id : Id} {s' : Session}
    (hg : AMap.get st'.sessions id = some s') :
    ∃ s chs inv, AMap.get st.sessions id = some s ∧ s' = { s with channels := chs, invitedTo := inv } ∧
      SessEq s { s with channels := chs, invitedTo := inv } := by
  rcases h.sess_cases id with ⟨_, h2⟩ | ⟨s, chs, inv, h1, h2, hs⟩
  · rw [hg] at h2; cases h2
  · rw [hg] at h2; cases h2
    exact ⟨s, chs, inv, h1, rfl, hs⟩

theorem StEq.chan_bwd {st st' : St} (h : StEq st st') {lc : String} {c' : Channel}
    (hg : AMap.get st'.channels lc = some c') :
    ∃ c n, AMap.get st.channels lc = some c ∧ c' = { c with nicks := n } ∧ ChanEq c { c with nicks := n } := by
  have := h.channels.rel lc
  rw [hg] at this
  obtain ⟨c, hg0, hc⟩ := this.of_some'
  obtain ⟨n, rfl⟩ := hc.exists_with
  exact ⟨c, n, hg0, rfl, hc⟩

theorem StEq.view {st st' : St} (h : StEq st st') : StView st st' :=
  ⟨h.sessions.nd', h.nicks.nd', h.channels.nd',
   fun id => (h.sessions.rel id).mono fun _ _ hs => ⟨hs.id, hs.deleted, hs.nick, hs.channels⟩, h.get_nicks,
   fun lc => (h.channels.rel lc).mono fun _ _ hc => ⟨hc.name, hc.keys_perm⟩⟩

theorem Inv.of_stEq {st st' : St} (hI : Inv st) (h : StEq st st') : Inv st' := hI.view h.view

theorem LInv.of_stEq {st st' : St} (hI : LInv st) (h : StEq st st') : LInv st' := by
  intro id s' hg hl
  obtain ⟨s, chs, inv, hg0, rfl, hs⟩ := h.sess_bwd hg
  exact hI id s hg0 hl

theorem NInv.of_stEq {st st' : St} (hI : NInv st) (h : StEq st st') : NInv st' := by
  refine ⟨by rw [h.get_nicks]; exact hI.1, ?_⟩
  intro id s' hg hn
  obtain ⟨s, chs, inv, hg0, rfl, hs⟩ := h.sess_bwd hg
  obtain ⟨e1, e2⟩ := hI.2 id s hg0 hn
  refine ⟨?_, fun x => by rw [h.get_nicks]; exact e2 x⟩
  have := hs.channels
  rw [e1] at this
  exact List.perm_nil.1 this.symm

theorem VInv.of_stEq {st st' : St} (hI : VInv st) (h : StEq st st') : VInv st' := by
  refine ⟨?_, ?_⟩
  · intro id s' hg hn
    obtain ⟨s, chs, inv, hg0, rfl, hs⟩ := h.sess_bwd hg
    exact hI.1 id s hg0 hn
  · intro lc c' hg
    obtain ⟨c, n, hg0, rfl, hc⟩ := h.chan_bwd hg
    exact hI.2 lc c hg0

theorem GInv.of_stEq {st st' : St} (hI : GInv st) (h : StEq st st') : GInv st' :=
  ⟨hI.inv.of_stEq h, hI.linv.of_stEq h, hI.ninv.of_stEq h, hI.vinv.of_stEq h⟩

theorem UniqNick.of_inv {st : St} (hI : Inv st) : UniqNick st := by
  intro id id' s s' hg hg' hn he
  have hn' : s'.nick ≠ "" := by
    intro e
    rw [e, nickToLower_empty] at he
    exact hn (nickToLower_eq_empty.1 he)
  have h1 := hI.owns id s hg (hI.noDeleted id s hg) hn
  have h2 := hI.owns id' s' hg' (hI.noDeleted id' s' hg') hn'
  rw [he, h2] at h1
  cases h1; rfl

theorem UniqNick.congr {st st' : St} (hu : UniqNick st) (hs : st'.sessions = st.sessions) : UniqNick st' := by
  unfold UniqNick at *
  rw [hs]; exact hu

theorem parsePrefix_name_ne {raw : List Char} (h : raw ≠ []) : (parsePrefix raw).name ≠ "" := by
  have take_ne : ∀ u, u > 0 → String.ofList (raw.take u) ≠ "" := by
    intro u hu e
    rw [ofList_eq_empty] at e
    cases raw with
    | nil => exact h rfl
    | cons a t =>
      cases u with
      | zero => exact absurd hu (Nat.lt_irrefl 0)
      | succ n => simp at e
  have raw_ne : String.ofList raw ≠ "" := fun e => h (ofList_eq_empty.1 e)
  unfold parsePrefix
  dsimp only
  split
  · split
    · rename_i hc; exact take_ne _ hc.1
    · split
      · rename_i hc; exact take_ne _ hc
      · split
        · rename_i hc; exact take_ne _ hc
        · exact raw_ne
  · split
    · rename_i hc; exact take_ne _ hc
    · exact raw_ne
  · split
    · rename_i hc; exact take_ne _ hc
    · exact raw_ne
  · exact raw_ne

theorem indexOfChar_lt {cs : List Char} {c : Char} {i : Nat} (h : indexOfChar cs c = some i) : i < cs.length := by
  unfold indexOfChar at h
  exact (List.findIdx?_eq_some_iff_findIdx_eq.1 h).1

theorem parseMessage_pfxOK {raw : String} {m : IrcMsg} (h : parseMessage raw = some m) : MsgPfxOK m := by
  intro p hp
  obtain ⟨cs, _, hm⟩ := parseMessage_cases h
  rcases hm with rfl | ⟨i, hi, h2, rfl⟩
  · rw [parseRest_pfx] at hp; cases hp
  · rw [parseRest_pfx] at hp; cases hp
    -- the prefix is what stands between the colon and the first space, which is at position 2 or later
    refine parsePrefix_name_ne fun e => ?_
    have hl := indexOfChar_lt hi
    have := congrArg List.length e
    simp only [List.length_drop, List.length_take, List.length_nil] at this
    omega

end Robust.Irc
