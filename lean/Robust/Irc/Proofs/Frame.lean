import Robust.Irc.Proofs.FrameJoin
import Robust.Irc.Proofs.FrameLogin
/-!
Frame lemmas for the per-handler proofs, collected from the `Frame*` modules.  Here: `maybeDeleteChannel` on its
own, and the lookups the handlers perform on members.
-/
namespace Robust.Irc
open Robust AMap

/-- `maybeDeleteChannel` preserves the weak invariant (an empty channel has no members, hence —
by `member` — no indexed session lists it) -/
theorem maybeDeleteChannel_WInv {c : Ctx} (lc : String) (h : WInv c.st) : WInv (maybeDeleteChannel c lc).st := by
  obtain ⟨e1, e2, _, e4⟩ := maybeDeleteChannel_spec (c := c) (lc := lc) (fun ch hg => (h.chans lc ch hg).1)
  rcases e4 with ⟨e5, _⟩ | ⟨e5, ch, hg, hnil⟩
  · exact h.sim ⟨e2.sim h.sessNodup, e1, by rw [e5]; exact MapSim.refl h.chanNodup⟩
  · have hsh : Shrink lc "" ch c.st.channels (AMap.erase c.st.channels lc) := by
      refine ⟨AMap.nodup_keys_erase _ h.chanNodup, fun lc' hne => AMap.get_erase_other hne,
        fun c' hc' => by simp at hc', fun n _ hn => by rw [hnil] at hn; simp at hn⟩
    have hmid : WInv { c.st with channels := AMap.erase c.st.channels lc } := by
      refine ⟨hsh.core (st' := { c.st with channels := AMap.erase c.st.channels lc }) h.toWInvCore hg rfl rfl, ?_⟩
      intro x id s hi hg2 ch2 hch2
      obtain ⟨c0, hc0, hcont⟩ := h.member x id s hi hg2 ch2 hch2
      have hne : ch2 ≠ lc := by
        intro he; subst he
        rw [hg] at hc0; cases hc0
        rw [AMap.contains_iff_mem_keys, hnil] at hcont; simp at hcont
      exact ⟨c0, by show AMap.get (AMap.erase c.st.channels lc) ch2 = some c0
                    rw [AMap.get_erase_other hne]; exact hc0, hcont⟩
    exact hmid.sim ⟨e2.sim h.sessNodup, e1, by rw [e5]; exact MapSim.refl (AMap.nodup_keys_erase _ h.chanNodup)⟩

theorem maybeDeleteChannel_chansNonempty {c : Ctx} (lc : String) (h : WInvCore c.st)
    (hne : ChansNonemptyBut c.st lc) : ChansNonempty (maybeDeleteChannel c lc).st := by
  obtain ⟨_, _, _, e4⟩ := maybeDeleteChannel_spec (c := c) (lc := lc) (fun ch hg => (h.chans lc ch hg).1)
  intro lc' c' hg'
  rcases e4 with ⟨e5, e6⟩ | ⟨e5, _⟩
  · rw [e5] at hg'
    by_cases he : lc' = lc
    · subst he; exact e6 c' hg'
    · exact hne lc' c' he hg'
  · rw [e5] at hg'
    obtain ⟨he, hg0⟩ := AMap.get_of_get_erase hg'
    exact hne lc' c' he hg0

theorem maybeDeleteChannel_HInv {c : Ctx} (lc : String) (h : WInv c.st) (hne : ChansNonemptyBut c.st lc) :
    HInv (maybeDeleteChannel c lc).st :=
  ⟨maybeDeleteChannel_WInv lc h, maybeDeleteChannel_chansNonempty lc h.toWInvCore hne⟩


/-! ### lookups that the handlers perform (the `… is nil` panic sites) -/

/-- `cmdMode`, `cmdTopic`, …: a live session with a nickname is a member of each channel it lists -/
theorem WInv.listed_member {st : St} (h : WInv st) {id : Id} {s : Session} {lc : String}
    (hs : AMap.get st.sessions id = some s) (hl : s.deleted = false) (hn : s.nick ≠ "") (hc : lc ∈ s.channels) :
    ∃ ch mem, AMap.get st.channels lc = some ch ∧ AMap.get ch.nicks (nickToLower s.nick) = some mem := by
  obtain ⟨ch, h1, h2⟩ := (h.owns_chans hs hl hn).2 lc hc
  obtain ⟨mem, h3⟩ := AMap.contains_iff_get.1 h2
  exact ⟨ch, mem, h1, h3⟩

/-- membership is symmetric: `cmdTopic` and `cmdMode` test the session's channel list, `cmdKick` and `cmdInvite` the
channel's member map; for a live session with a nickname the two notions of "being on a channel" coincide -/
theorem WInv.listed_iff {st : St} (h : WInv st) {id : Id} {s : Session}
    (hs : AMap.get st.sessions id = some s) (hl : s.deleted = false) (hn : s.nick ≠ "") (lc : String) :
    lc ∈ s.channels ↔ ∃ c, AMap.get st.channels lc = some c ∧ nickToLower s.nick ∈ AMap.keys c.nicks := by
  constructor
  · intro hlc
    obtain ⟨c, hc, hm⟩ := (h.owns_chans hs hl hn).2 lc hlc
    exact ⟨c, hc, AMap.contains_iff_mem_keys.1 hm⟩
  · rintro ⟨c, hc, hm⟩
    obtain ⟨id', s', h1, h2, h3⟩ := (h.chans lc c hc).2.2 _ hm
    rw [h.owns id s hs hl hn] at h1; cases h1
    rw [hs] at h2; cases h2
    exact h3

/-- `cmdWhois`, `cmdServer`: a session found through the index is a member of each channel it lists -/
theorem WInv.indexed_member {st : St} (h : WInv st) {x : String} {id : Id} (hi : AMap.get st.nicks x = some id) :
    ∃ s, AMap.get st.sessions id = some s ∧ s.deleted = false ∧ nickToLower s.nick = x ∧
      ∀ lc ∈ s.channels, ∃ ch mem, AMap.get st.channels lc = some ch ∧
        AMap.get ch.nicks (nickToLower s.nick) = some mem := by
  obtain ⟨s, h1, h2, h3, _, h5⟩ := h.indexed hi
  refine ⟨s, h1, h2, h3, fun lc hlc => ?_⟩
  obtain ⟨ch, h6, h7⟩ := h5 lc hlc
  obtain ⟨mem, h8⟩ := AMap.contains_iff_get.1 h7
  exact ⟨ch, mem, h6, by rw [h3]; exact h8⟩

theorem WInvCore.indexed_stored {st : St} (h : WInvCore st) {x : String} {id : Id}
    (hi : AMap.get st.nicks x = some id) : ∃ s, AMap.get st.sessions id = some s := by
  obtain ⟨s, h1, _⟩ := h.index x id hi
  exact ⟨s, h1⟩

theorem AddSpec.linv {c c' : Ctx} {tid : Id} {lc : String} {ch' : Channel} (sp : AddSpec c c' tid lc ch')
    (h : LInv c.st) : LInv c'.st :=
  h.of_sessions fun _ _ hg => let ⟨s, hs, e⟩ := sp.stored hg; ⟨s, hs, by rw [e], by rw [e]⟩

end Robust.Irc
