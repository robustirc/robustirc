import Robust.Irc.Msg
/-!
Cleanliness (no CR / LF / NUL) of strings, byte strings and IRC messages, and the lemmas
needed for property C15: UTF-8 encoding of clean strings is clean, case mapping keeps
characters clean, every field produced by `parseMessage` is built from characters of the input.
-/
namespace Robust.Irc
open Robust

def cleanChar (c : Char) : Bool := c != '\r' && c != '\n' && c.toNat != 0
def Clean (s : String) : Prop := ∀ c ∈ s.toList, cleanChar c = true
def CleanBytes (b : Bytes) : Prop := ∀ x ∈ b, x ≠ 13 ∧ x ≠ 10 ∧ x ≠ 0
def CleanMsg (m : IrcMsg) : Prop :=
  (∀ p, m.pfx = some p → Clean p.name ∧ Clean p.user ∧ Clean p.host) ∧ Clean m.command ∧
    ∀ p ∈ m.params, Clean p
/-- Go `firstLine`: everything before the first CR, LF or NUL -/
def firstLine (s : String) : String := String.ofList (s.toList.takeWhile cleanChar)

instance (s : String) : Decidable (Clean s) :=
  inferInstanceAs (Decidable (∀ c ∈ s.toList, cleanChar c = true))
instance (b : Bytes) : Decidable (CleanBytes b) :=
  inferInstanceAs (Decidable (∀ x ∈ b, x ≠ 13 ∧ x ≠ 10 ∧ x ≠ 0))
instance (m : IrcMsg) : Decidable (CleanMsg m) :=
  match h : m.pfx with
  | none =>
    if h2 : Clean m.command ∧ ∀ p ∈ m.params, Clean p then
      isTrue ⟨fun p hp => (by rw [h] at hp; cases hp), h2⟩
    else isFalse fun hc => h2 hc.2
  | some q =>
    if h2 : (Clean q.name ∧ Clean q.user ∧ Clean q.host) ∧ Clean m.command ∧ ∀ p ∈ m.params, Clean p then
      isTrue ⟨fun p hp => (by rw [h] at hp; cases hp; exact h2.1), h2.2⟩
    else isFalse fun hc => h2 ⟨hc.1 q h, hc.2⟩

def CleanL (l : List Char) : Prop := ∀ c ∈ l, cleanChar c = true

theorem byteArray_toList_loop (bs : ByteArray) (i : Nat) (r : List UInt8) :
    ByteArray.toList.loop bs i r = r.reverse ++ bs.data.toList.drop i := by
  fun_induction ByteArray.toList.loop bs i r with
  | case1 i r h ih =>
    rw [ih]
    have h' : i < bs.data.toList.length := by rw [Array.length_toList]; exact h
    rw [List.drop_eq_getElem_cons h']
    have : bs.get! i = bs.data.toList[i] := by
      cases bs with
      | mk d =>
        simp only [ByteArray.get!]
        have h2 : i < d.size := by simpa using h'
        simp [h2]
    rw [this]; simp
  | case2 i r h =>
    have : bs.data.toList.length ≤ i := by rw [Array.length_toList]; exact Nat.le_of_not_lt h
    simp [List.drop_eq_nil_of_le this]

theorem byteArray_toList (bs : ByteArray) : bs.toList = bs.data.toList := by
  simp [ByteArray.toList, byteArray_toList_loop]

theorem utf8_eq_flatMap (s : String) : utf8 s = s.toList.flatMap String.utf8EncodeChar := by
  unfold utf8
  rw [String.toUTF8_eq_toByteArray, ← String.utf8Encode_toList, byteArray_toList, List.utf8Encode,
    List.toList_data_toByteArray]

theorem cleanChar_iff (c : Char) : cleanChar c = true ↔ c.toNat ≠ 13 ∧ c.toNat ≠ 10 ∧ c.toNat ≠ 0 := by
  have h1 : c = '\r' ↔ c.toNat = 13 := by
    constructor
    · intro h; subst h; rfl
    · intro h; apply Char.ext; apply UInt32.toNat_inj.mp; exact h
  have h2 : c = '\n' ↔ c.toNat = 10 := by
    constructor
    · intro h; subst h; rfl
    · intro h; apply Char.ext; apply UInt32.toNat_inj.mp; exact h
  simp [cleanChar, h1, h2, and_assoc]

theorem utf8EncodeChar_bytes (c : Char) :
    ∀ x ∈ String.utf8EncodeChar c, (x.toNat = c.toNat) ∨ 128 ≤ x.toNat := by
  intro x hx
  unfold String.utf8EncodeChar at hx
  simp only [] at hx
  have hv : c.val.toNat = c.toNat := rfl
  rw [hv] at hx
  split at hx
  · simp at hx; subst hx; left; simp [UInt8.toNat_ofNat']; omega
  · right
    split at hx
    · simp at hx; rcases hx with hx | hx <;> subst hx <;> simp [UInt8.toNat_ofNat'] <;> omega
    · split at hx
      · simp at hx; rcases hx with hx | hx | hx <;> subst hx <;> simp [UInt8.toNat_ofNat'] <;> omega
      · simp at hx; rcases hx with hx | hx | hx | hx <;> subst hx <;> simp [UInt8.toNat_ofNat'] <;> omega

theorem toNat_ofNat_valid (n : Nat) (hv : n < 0xd800 ∨ (0xdfff < n ∧ n < 0x110000)) : (Char.ofNat n).toNat = n := by
  have hv : n.isValidChar := hv
  unfold Char.ofNat
  rw [dif_pos hv]
  simp [Char.ofNatAux, Char.toNat]

theorem char_le_iff (a b : Char) : a ≤ b ↔ a.toNat ≤ b.toNat := by
  rw [Char.le_def, UInt32.le_iff_toNat_le]; rfl

theorem lookupTable_go_some (t : Array (Nat × Nat)) (c : Nat) (fuel : Nat) :
    ∀ lo hi v, lookupTable.go t c lo hi fuel = some v → (c, v) ∈ t := by
  induction fuel with
  | zero => intro lo hi v h; simp [lookupTable.go] at h
  | succ n ih =>
    intro lo hi v h
    unfold lookupTable.go at h
    split at h
    · cases h
    · simp only at h
      split at h
      · cases h
      · rename_i k w hk
        split at h
        · rename_i hkc
          cases h; subst hkc
          exact Array.mem_of_getElem? hk
        · split at h
          · exact ih _ _ _ h
          · exact ih _ _ _ h

theorem lookupTable_some {t : Array (Nat × Nat)} {c v : Nat} (h : lookupTable t c = some v) : (c, v) ∈ t :=
  lookupTable_go_some t c 32 0 t.size v h

theorem lookupTable_mem (t : Array (Nat × Nat)) (c v : Nat) (h : lookupTable t c = some v) :
    ∃ k, (k, v) ∈ t.toList := ⟨c, Array.mem_toList_iff.2 (lookupTable_some h)⟩

def tableOk (t : List (Nat × Nat)) : Bool :=
  t.all (fun p => p.2 != 0 && p.2 != 10 && p.2 != 13 && (decide (p.2 < 0xd800) || (decide (0xdfff < p.2) && decide (p.2 < 0x110000))))

theorem upperTable_ok : tableOk Gen.Unicode.toUpperTable.toList = true := by decide +kernel
theorem lowerTable_ok : tableOk Gen.Unicode.toLowerTable.toList = true := by decide +kernel

theorem tableOk_clean (t : List (Nat × Nat)) (h : tableOk t = true) (k v : Nat) (hm : (k, v) ∈ t) :
    cleanChar (Char.ofNat v) = true := by
  have := List.all_eq_true.mp h (k, v) hm
  simp only [Bool.and_eq_true, Bool.or_eq_true, bne_iff_ne, decide_eq_true_eq] at this
  obtain ⟨⟨⟨h0, h10⟩, h13⟩, hv⟩ := this
  rw [cleanChar_iff, toNat_ofNat_valid v hv]
  exact ⟨h13, h10, h0⟩

theorem upperChar_clean (c : Char) (h : cleanChar c = true) : cleanChar (upperChar c) = true := by
  unfold upperChar
  split
  · split
    · rename_i h1 h2
      rw [Char.le_def, Char.le_def] at h2
      have ha : 97 ≤ c.toNat := UInt32.le_iff_toNat_le.mp h2.1
      have hz : c.toNat ≤ 122 := UInt32.le_iff_toNat_le.mp h2.2
      rw [cleanChar_iff, toNat_ofNat_valid _ (by omega)]
      omega
    · exact h
  · split
    · rename_i v hv
      obtain ⟨k, hk⟩ := lookupTable_mem _ _ _ hv
      exact tableOk_clean _ upperTable_ok k v hk
    · exact h

theorem lowerChar_clean (c : Char) (h : cleanChar c = true) : cleanChar (lowerChar c) = true := by
  unfold lowerChar
  split
  · split
    · rename_i h1 h2
      rw [Char.le_def, Char.le_def] at h2
      have ha : 65 ≤ c.toNat := UInt32.le_iff_toNat_le.mp h2.1
      have hz : c.toNat ≤ 90 := UInt32.le_iff_toNat_le.mp h2.2
      rw [cleanChar_iff, toNat_ofNat_valid _ (by omega)]
      omega
    · exact h
  · split
    · rename_i v hv
      obtain ⟨k, hk⟩ := lookupTable_mem _ _ _ hv
      exact tableOk_clean _ lowerTable_ok k v hk
    · exact h

theorem clean_ofList {l : List Char} (h : CleanL l) : Clean (String.ofList l) := by
  unfold Clean; rw [String.toList_ofList]; exact h

theorem clean_toList {s : String} (h : Clean s) : CleanL s.toList := h

/-- A string literal is clean.  The kernel reads the literal as `String.ofList` of its characters and tests each one;
`decide` on `Clean "…"` itself would run the UTF-8 decoder of `String.toList` instead. -/
theorem clean_lit {l : List Char} (h : l.all cleanChar = true := by decide +kernel) : Clean (String.ofList l) :=
  clean_ofList fun c hc => List.all_eq_true.1 h c hc

theorem clean_empty : Clean "" := by
  intro c hc; simp at hc

theorem Clean.append {a b : String} (ha : Clean a) (hb : Clean b) : Clean (a ++ b) := by
  intro c hc
  rw [String.toList_append, List.mem_append] at hc
  rcases hc with hc | hc
  · exact ha c hc
  · exact hb c hc

theorem CleanL.sub {l l' : List Char} (h : CleanL l) (hs : ∀ c ∈ l', c ∈ l) : CleanL l' :=
  fun c hc => h c (hs c hc)

theorem CleanL.take {l : List Char} (h : CleanL l) (n : Nat) : CleanL (l.take n) :=
  h.sub fun _ hc => List.mem_of_mem_take hc
theorem CleanL.drop {l : List Char} (h : CleanL l) (n : Nat) : CleanL (l.drop n) :=
  h.sub fun _ hc => List.mem_of_mem_drop hc
theorem CleanL.dropWhile {l : List Char} (h : CleanL l) (p : Char → Bool) : CleanL (l.dropWhile p) :=
  h.sub fun _ hc => (List.dropWhile_sublist p).subset hc
theorem CleanL.reverse {l : List Char} (h : CleanL l) : CleanL l.reverse :=
  h.sub fun _ hc => List.mem_reverse.mp hc
theorem CleanL.nil : CleanL [] := fun _ hc => by simp at hc

theorem clean_toUpper {s : String} (h : Clean s) : Clean (toUpper s) := by
  apply clean_ofList
  intro c hc
  obtain ⟨d, hd, rfl⟩ := List.mem_map.mp hc
  exact upperChar_clean d (h d hd)

theorem clean_toLower {s : String} (h : Clean s) : Clean (toLower s) := by
  apply clean_ofList
  intro c hc
  obtain ⟨d, hd, rfl⟩ := List.mem_map.mp hc
  exact lowerChar_clean d (h d hd)

theorem clean_joinStr {sep : String} {xs : List String} (hs : Clean sep) (hx : ∀ x ∈ xs, Clean x) :
    Clean (joinStr sep xs) := by
  unfold joinStr
  induction xs with
  | nil => simpa using clean_empty
  | cons a t ih =>
    cases t with
    | nil => simpa using hx a (by simp)
    | cons b t =>
      rw [String.intercalate_cons_cons]
      exact Clean.append (Clean.append (hx a (by simp)) hs) (ih fun x hx' => hx x (by simp [hx']))

/-! ## where the characters of a computed string come from

`Clean` and `Spaceless` (`UlenBytes.lean`) both say that every character of a string satisfies some predicate, so
these are stated for any predicate. -/

theorem hexNat_go_all {P : Char → Prop} (hd : ∀ n, n < 16 → P (hexDigitLower n)) :
    ∀ (fuel n : Nat) (acc : List Char), (∀ c ∈ acc, P c) → ∀ c ∈ hexNat.go n acc fuel, P c
  | 0, _, _, h => by unfold hexNat.go; exact h
  | fuel + 1, n, acc, h => by
    unfold hexNat.go
    split
    · rename_i hlt
      exact List.forall_mem_cons.2 ⟨hd n hlt, h⟩
    · exact hexNat_go_all hd fuel _ _ (List.forall_mem_cons.2 ⟨hd _ (Nat.mod_lt _ (by decide)), h⟩)

theorem hexNat_all {P : Char → Prop} (hd : ∀ n, n < 16 → P (hexDigitLower n)) (n : Nat) :
    ∀ c ∈ (hexNat n).toList, P c := by
  unfold hexNat
  rw [String.toList_ofList]
  exact hexNat_go_all hd 64 n [] fun _ h => nomatch h

theorem splitChar_go_all {P : Char → Prop} (sep : Char) (cs cur : List Char) (acc : List String)
    (hcs : ∀ c ∈ cs, c ≠ sep → P c) (hcur : ∀ c ∈ cur, P c) (hacc : ∀ s ∈ acc, ∀ c ∈ s.toList, P c) :
    ∀ s ∈ splitChar.go sep cs cur acc, ∀ c ∈ s.toList, P c := by
  have piece : ∀ cur : List Char, (∀ c ∈ cur, P c) → ∀ c ∈ (String.ofList cur.reverse).toList, P c :=
    fun cur hcur c hc => by rw [String.toList_ofList] at hc; exact hcur c (List.mem_reverse.1 hc)
  induction cs generalizing cur acc with
  | nil =>
    intro s hs
    simp only [splitChar.go, List.mem_reverse, List.mem_cons] at hs
    rcases hs with rfl | hs
    · exact piece cur hcur
    · exact hacc s hs
  | cons c rest ih =>
    have hrest : ∀ d ∈ rest, d ≠ sep → P d := fun d hd => hcs d (List.mem_cons_of_mem _ hd)
    unfold splitChar.go
    split
    · refine ih _ _ hrest (fun _ h => nomatch h) fun s hs => ?_
      rcases List.mem_cons.mp hs with rfl | hs
      · exact piece cur hcur
      · exact hacc s hs
    · rename_i hne
      refine ih _ _ hrest (fun d hd => ?_) hacc
      rcases List.mem_cons.mp hd with rfl | hd
      · exact hcs _ List.mem_cons_self hne
      · exact hcur d hd

theorem splitChar_all {P : Char → Prop} {s : String} (sep : Char) (h : ∀ c ∈ s.toList, c ≠ sep → P c) :
    ∀ x ∈ splitChar s sep, ∀ c ∈ x.toList, P c :=
  splitChar_go_all sep s.toList [] [] h (fun _ h => nomatch h) (fun _ h => nomatch h)

theorem splitChar_clean {s : String} (sep : Char) (h : Clean s) : ∀ x ∈ splitChar s sep, Clean x :=
  splitChar_all sep fun c hc _ => h c hc

theorem parsePrefix_all {P : Char → Prop} (raw : List Char) (h : ∀ c ∈ raw, P c) :
    (∀ c ∈ (parsePrefix raw).name.toList, P c) ∧ (∀ c ∈ (parsePrefix raw).user.toList, P c) ∧
      ∀ c ∈ (parsePrefix raw).host.toList, P c := by
  have of : ∀ l : List Char, (∀ c ∈ l, c ∈ raw) → ∀ c ∈ (String.ofList l).toList, P c :=
    fun l hl c hc => by rw [String.toList_ofList] at hc; exact h c (hl c hc)
  have t := fun n => of (raw.take n) fun _ hc => List.mem_of_mem_take hc
  have d := fun n => of (raw.drop n) fun _ hc => List.mem_of_mem_drop hc
  have e : ∀ c ∈ ("" : String).toList, P c := fun _ hc => nomatch hc
  have whole := And.intro (of raw fun _ hc => hc) (And.intro e e)
  unfold parsePrefix
  dsimp only
  split
  · split
    · exact ⟨t _, of _ fun _ hc => List.mem_of_mem_take (List.mem_of_mem_drop hc), d _⟩
    · split
      · exact ⟨t _, d _, e⟩
      · split
        · exact ⟨t _, e, d _⟩
        · exact whole
  · split
    · exact ⟨t _, d _, e⟩
    · exact whole
  · split
    · exact ⟨t _, e, d _⟩
    · exact whole
  · exact whole

theorem parseRest_clean (pfx : Option Prefix) (r : List Char)
    (hp : ∀ p, pfx = some p → Clean p.name ∧ Clean p.user ∧ Clean p.host) (h : CleanL r) :
    CleanMsg (parseRest pfx r) := by
  unfold parseRest
  split
  · exact ⟨hp, clean_toUpper (clean_ofList h), fun _ hm => by simp at hm⟩
  · exact ⟨hp, clean_toUpper (clean_ofList h), fun _ hm => by simp at hm⟩
  · simp only []
    split
    · exact ⟨hp, clean_toUpper (clean_ofList (h.take _)),
        splitChar_clean _ (clean_ofList ((h.drop _).drop _))⟩
    · refine ⟨hp, clean_toUpper (clean_ofList (h.take _)), ?_⟩
      intro p hm
      simp only [List.mem_append, List.mem_singleton] at hm
      rcases hm with hm | rfl
      · split at hm
        · exact splitChar_clean _ (clean_ofList (((h.drop _).take _).drop _)) p hm
        · simp at hm
      · exact clean_ofList ((h.drop _).drop _)

theorem parseMessage_cases {raw : String} {m : IrcMsg} (hp : parseMessage raw = some m) :
    ∃ cs : List Char, (∀ c ∈ cs, c ∈ raw.toList) ∧ (m = parseRest none cs ∨ ∃ i, indexOfChar cs ' ' = some i ∧
      2 ≤ i ∧ m = parseRest (some (parsePrefix ((cs.take i).drop 1))) (cs.drop (i + 1))) := by
  unfold parseMessage at hp
  simp only [] at hp
  refine ⟨((raw.toList.dropWhile isCutset).reverse.dropWhile isCutset).reverse, fun c hc =>
    (List.dropWhile_sublist _).subset (List.mem_reverse.1 ((List.dropWhile_sublist _).subset (List.mem_reverse.1 hc))), ?_⟩
  generalize ((raw.toList.dropWhile isCutset).reverse.dropWhile isCutset).reverse = cs at hp
  split at hp
  · cases hp
  · split at hp
    · split at hp
      · cases hp
      · rename_i i hi
        split at hp
        · cases hp
        · rename_i h2
          cases hp
          exact .inr ⟨i, hi, Nat.le_of_not_lt h2, rfl⟩
    · cases hp
      exact .inl rfl

theorem parseMessage_clean (raw : String) (m : IrcMsg) (h : Clean raw) (hp : parseMessage raw = some m) :
    CleanMsg m := by
  obtain ⟨cs, hsub, hm⟩ := parseMessage_cases hp
  have hcs : CleanL cs := (clean_toList h).sub hsub
  rcases hm with rfl | ⟨i, _, _, rfl⟩
  · exact parseRest_clean _ _ (fun _ hp => nomatch hp) hcs
  · refine parseRest_clean _ _ (fun p hp => ?_) (hcs.drop _)
    cases hp
    exact parsePrefix_all _ ((hcs.take _).drop _)

theorem cleanBytes_take {b : Bytes} (h : CleanBytes b) (n : Nat) : CleanBytes (b.take n) :=
  fun x hx => h x (List.mem_of_mem_take hx)

theorem utf8_clean (s : String) (h : Clean s) : CleanBytes (utf8 s) := by
  intro x hx
  rw [utf8_eq_flatMap, List.mem_flatMap] at hx
  obtain ⟨c, hc, hxc⟩ := hx
  have hcl := (cleanChar_iff c).mp (h c hc)
  have hb := utf8EncodeChar_bytes c x hxc
  refine ⟨?_, ?_, ?_⟩ <;> intro he <;> subst he <;> simp at hb <;> omega


theorem prefix_str_clean (p : Prefix) (hn : Clean p.name) (hu : Clean p.user) (hh : Clean p.host) :
    Clean p.str := by
  unfold Prefix.str
  refine Clean.append (Clean.append hn ?_) ?_
  · split
    · exact clean_empty
    · exact Clean.append clean_lit hu
  · split
    · exact clean_empty
    · exact Clean.append clean_lit hh

theorem render_length (m : IrcMsg) : m.render.length ≤ 510 := by
  unfold IrcMsg.render
  simp only [List.length_take]
  exact Nat.min_le_left _ _

theorem render_clean (m : IrcMsg) (h : CleanMsg m) : CleanBytes m.render := by
  obtain ⟨hp, hc, hps⟩ := h
  unfold IrcMsg.render
  simp only []
  apply cleanBytes_take
  apply utf8_clean
  refine Clean.append (Clean.append (Clean.append ?_ hc) ?_) ?_
  · split
    · rename_i p hpe
      obtain ⟨hn, hu, hh⟩ := hp p hpe
      exact Clean.append (Clean.append clean_lit (prefix_str_clean p hn hu hh)) clean_lit
    · exact clean_empty
  · split
    · exact Clean.append clean_lit
        (clean_joinStr clean_lit fun x hx => hps x (List.dropLast_subset _ hx))
    · exact clean_empty
  · split
    · exact clean_empty
    · rename_i t ht
      refine Clean.append (Clean.append clean_lit ?_) (hps t (List.mem_of_getLast? ht))
      split
      · exact clean_lit
      · exact clean_empty

theorem mem_takeWhile_sat {α} (p : α → Bool) (l : List α) : ∀ x ∈ l.takeWhile p, p x = true :=
  List.all_eq_true.1 List.all_takeWhile

theorem takeWhile_all {α} (p : α → Bool) (l : List α) (h : ∀ x ∈ l, p x = true) : l.takeWhile p = l := by
  induction l with
  | nil => rfl
  | cons a t ih =>
    rw [List.takeWhile_cons, if_pos (h a (by simp)), ih fun x hx => h x (by simp [hx])]

theorem firstLine_clean (s : String) : Clean (firstLine s) :=
  clean_ofList (mem_takeWhile_sat cleanChar s.toList)

theorem firstLine_id (s : String) (h : Clean s) : firstLine s = s := by
  unfold firstLine
  rw [takeWhile_all cleanChar _ h, String.ofList_toList]

theorem firstLine_prefix (s : String) : (firstLine s).toList <+: s.toList := by
  unfold firstLine
  rw [String.toList_ofList]
  exact List.takeWhile_prefix _

end Robust.Irc
