import Robust.Irc.Proofs.H2Base
/-! PING, AWAY, ISON, USERHOST, LIST, KNOCK -/
namespace Robust.Irc
open Rd
open AMap

/-- PING also serves the services link (`server_PING`): all it needs is that the sender is stored -/
theorem cmdPing_wp : RepliesWp cmdPing fun c sid _ => ∃ s, AMap.get c.st.sessions sid = some s := fun c sid m => by
  unfold cmdPing
  refine .bind (getS_wp id) fun s _ _ => ?_
  cases m.params.head? with
  | none => exact .pure (.reply c sid _)
  | some p0 => exact .pure (.reply c sid _)

theorem cmdPing_emits {c c' : Ctx} {sid : Id} {m : IrcMsg} (hr : cmdPing c sid m = .ok c') : Emits c c' :=
  cmdPing_wp.emitsWp.emits hr

theorem cmdPing_noPanic {c : Ctx} {sid : Id} {s : Session} (m : IrcMsg)
    (hs : AMap.get c.st.sessions sid = some s) : NoPanic (cmdPing c sid m) :=
  (cmdPing_wp c sid m).safe ⟨s, hs⟩

theorem cmdPing_safe : ClientSafe cmdPing 0 true := fun _ _ m _ _ hs _ _ _ => cmdPing_noPanic m hs

theorem cmdAway_wp : InertWp cmdAway (Gated 0) := fun c sid m hw => by
  unfold cmdAway
  refine .bind (modS_wp _ fun g => g.1.actor) fun c1 h1 _ => ?_
  have hI := (Inert.refl hw).modS hw h1 (fun _ => ⟨rfl, rfl, rfl, rfl⟩) (fun _ => ⟨rfl, rfl⟩)
  exact .bind (getS_wp fun g => hI.stored g.1.actor) fun s _ _ =>
    .ite (fun _ => .pure (hI.sendUser _ _)) fun _ => .pure (hI.sendUser _ _)

theorem cmdIson_wp : RepliesWp cmdIson (Gated 1) := fun c sid m => by
  unfold cmdIson
  refine .bind (getS_wp fun g => g.1.actor) fun s _ _ =>
    .bind (.mapRes (R := fun _ _ => True) fun n _ => ?_) fun _ _ _ => .pure (.reply c sid _)
  cases hi : AMap.get c.st.nicks (nickToLower n) with
  | none => exact .ok trivial
  | some tid => exact .bind (getS_indexed_wp hi fun g => g.1.inv.toWInvCore) fun _ _ _ => .ok trivial

theorem cmdUserhost_wp : RepliesWp cmdUserhost (Gated 1) := fun c sid m => by
  unfold cmdUserhost
  refine .bind (getS_wp fun g => g.1.actor) fun s _ _ =>
    .bind (.mapRes (R := fun _ _ => True) fun n _ => ?_) fun _ _ _ => .pure (.reply c sid _)
  cases hi : AMap.get c.st.nicks (nickToLower n) with
  | none => exact .ok trivial
  | some tid => exact .bind (getS_indexed_wp hi fun g => g.1.inv.toWInvCore) fun _ _ _ => .ok trivial

theorem cmdList_wp : RepliesWp cmdList (Gated 0) := fun c sid m => by
  unfold cmdList
  refine .bind (getS_wp fun g => g.1.actor) fun s _ _ => .pure (Refused.sendUser ?_ _)
  refine foldl_invariant (I := fun c1 => Refused c c1 sid) _ (.refl c sid) fun c1 lc _ h1 => ?_
  cases getChan c1 lc with
  | none => exact h1
  | some ch => exact .ite h1 (h1.sendUser _)

theorem cmdKnock_wp : EmitsWp cmdKnock (Gated 1) := fun c sid m => by
  have h0 := Emits.refl c
  unfold cmdKnock
  refine .bind (getS_wp fun g => g.1.actor) fun s _ _ => .bind (param_wp fun g => g.2) fun chn _ _ => ?_
  cases hch : getChan c (chanToLower chn) with
  | none => exact .pure (h0.sendUser _ _)
  | some ch =>
    exact .ite (fun _ => .pure (h0.sendUser _ _)) fun _ =>
      .bind (rcChannel_wp (fun g => g.1.inv.toWInvCore) hch) fun _ _ _ => .pure ((h0.emit _ _).sendUser _ _)

end Robust.Irc
