import Robust.Irc.Proofs.H1a
import Robust.Irc.Proofs.H1b
import Robust.Irc.Proofs.H1c
import Robust.Irc.Proofs.H1d
/-!
Handler proofs, group 1 (client handlers that change state) — umbrella and summary.  Each handler is walked once
over `Res.Wp` (`WpCore.lean`): what it re-establishes on normal return, whatever the input, and that it does not
panic once the gate has counted the parameters (MOTD has a second, unconditional statement, `cmdMotd_refused`: its
lines go to the sender alone).  The handler's row in the dispatch table (`ClientOK`, `Dispatch.lean`) is that
statement with the postcondition weakened to `CPost`.

| handler      | theorem                                                        | returns with                  |
|--------------|----------------------------------------------------------------|-------------------------------|
| `cmdMotd`    | `cmdMotd_wp  : ClientWp cmdMotd 0`  (`cmdMotd_lstep`)          | `CMid`                        |
| `cmdOper`    | `cmdOper_wp  : ClientWp cmdOper 2`  (`cmdOper_lstep`)          | `CMid`                        |
| `maybeLogin` | `maybeLogin_lstep` (needs `Stored` only), `maybeLogin_preserves` | `LStep`                     |
| `cmdUser`    | `cmdUser_wp  : ClientWp cmdUser 3`                             | `CMid`                        |
| `cmdPass`    | `cmdPass_wp  : ClientWp cmdPass 0`                             | `CMid`                        |
| `cmdQuit`    | `cmdQuit_wp`                                                   | `CPost` (the actor is flagged) |
| `cmdPart`    | `cmdPart_wp` (†), `partOne_wp`                                 | `CMid`                        |
| `cmdKick`    | `cmdKick_wp  : ClientWp cmdKick 2`                             | `CMid`                        |
| `cmdKill`    | `cmdKill_wp`                                                   | `CPost` (the target is flagged) |
| `cmdGline`   | `cmdGline_wp`                                                  | `CPost`                       |
| `cmdNick`    | `cmdNick_wp` (‡), `cmdNickTail_wp`                             | `CMid`                        |
| `cmdJoin`    | `cmdJoin_wp` (†), `joinOne_wp`, `joinTail_wp`                  | `CMid` (`joinAnnounce_wp` in `H2e`: `Emits`) |

`CMid` (`ClientMid.lean`) is `Pre` again (no session is left flagged), output only appended, `NI` kept; `CPost` is
`Post` with `NI` kept.

(†) `Preserves` is false for a nickless actor; PART and JOIN assume that the actor is registered (which the gate
    guarantees for these commands: `Reg`, `PreservesL`).
(‡) `Inv` allows a nickless session to be indexed under `""` or to list channels; NICK then breaks the
    invariant, so `cmdNick_wp` promises `CMid` for a nickless actor that is unindexed and in no channel.
-/
namespace Robust.Irc
open AMap

/-- NICK for a registered actor needs no side condition: `LInv` gives it a nickname -/
theorem cmdNick_preservesL : PreservesL cmdNick :=
  fun _ sid _ c' s hp hs hl hr =>
    ((cmdNick_wp (G := False) hp hs).sat c' hr fun he => absurd he (hp.linv sid s hs hl)).cpost.post

end Robust.Irc
