import Robust.Irc.Proofs.FrameBasic
/-!
Correctness of a `Res` computation up to a gate: `r.Wp G P` says that every normal result of `r` satisfies `P`
(whatever the input), and that `r` does not panic when `G` holds.  With `G := False` this is `Res.Sat`; with
`G := True` it adds that no panic site is reached (`r` may still be `.declined`: the model declines to follow the
code there).  `G` is what holds when a command reaches its handler: for a client's line the number of parameters that
`ProcessMessage` has tested; for a services line a prefix and the documented number of parameters, which
`ProcessMessage` does not test (the table's minimum is 0 for several services commands) and the entry-level
theorems assume of the line (`Conforming`, `Entry.lean`).  It stays fixed through a walk.

A statement `(f …).Wp G P` is proved by ONE walk through the body of `f`, as a statement `(f …).Sat P` is (see the
head of `ResSat.lean`): `ok`, `pure`, `declined`, `mono`, `bind`, `bindEq`, `ite`, `foldlM`, `mapRes` are the rules
of `Res.Sat` of the same names (`mapRes` says of each result which element it comes from).  From `h : r.Wp G P`
and `hr : r = .ok a`, `h.sat a hr : P a`.  Three differences:

* `let b ← x`: `.bind hx fun b e hb => …` takes a `Wp` fact `hx : x.Wp G R` of the step and hands the
  continuation both the equation `e : x = .ok b` and `hb : R b`.  For a primitive the fact is one of the leaves
  below (`getS_wp`, `param_wp`, `modS_wp`, `rcChannel_wp`, …): each asks, under the gate, for what keeps it from
  panicking (`G → i < m.params.length`).  `.of_sat` makes a leaf from a `Sat` fact and a proof that the step
  returns under the gate; `.returns` is the case where nothing is needed of the result.
* a panic site, `match … | none => .panic "…"`: after `cases h : discr`, the branch is closed by
  `.panic _ fun g => …`, a proof that the gate excludes it; where the invariant excludes it whatever the gate,
  rewrite with the known value of the discriminant before the `match` (`rw [hidx]`) and the site is gone.
* the notions that the theorems about handlers are stated in are projections: `h.sat` is the `Res.Sat` form
  (`Preserves`, `PreservesSrv`, `Emits`, `Inert`, `Mid`), `h.safe g` the absence of a panic (`ClientSafe`,
  `ServicesSafe`, the three `NoPanic`); `ClientWp`, `RepliesWp`, `EmitsWp`, `InertWp`, `SrvWp` (`ClientMid.lean`,
  `H2Base.lean`, `H3a.lean`) name the form one handler of each group takes and carry these projections.
-/
namespace Robust.Irc
open Robust AMap

structure Res.Wp {α : Type} (G : Prop) (r : Res α) (P : α → Prop) : Prop where
  sat : r.Sat P
  safe : G → ∀ site, r ≠ .panic site

namespace Res.Wp
variable {α β : Type} {G : Prop} {P Q : α → Prop}

theorem ok {a : α} (h : P a) : (Res.ok a).Wp G P := ⟨.ok h, fun _ _ e => by cases e⟩
theorem pure {a : α} (h : P a) : (Pure.pure a : Res α).Wp G P := ok h
theorem declined (why : String) : (Res.declined why : Res α).Wp G P := ⟨.declined _, fun _ _ e => by cases e⟩
theorem panic (site : String) (h : ¬G) : (Res.panic site : Res α).Wp G P := ⟨.panic _, fun g => absurd g h⟩

theorem mono {r : Res α} (h : r.Wp G P) (hPQ : ∀ a, P a → Q a) : r.Wp G Q := ⟨h.sat.mono hPQ, h.safe⟩

/-- a fact proved for the gate `G'` of a sub-computation (a handler called by another) serves under `G` -/
theorem gate {G' : Prop} {r : Res α} (h : r.Wp G' P) (hg : G → G') : r.Wp G P := ⟨h.sat, fun g => h.safe (hg g)⟩

theorem of_sat {r : Res α} (hs : r.Sat P) (hn : G → ∃ a, r = .ok a) : r.Wp G P :=
  ⟨hs, fun g site e => by obtain ⟨a, ha⟩ := hn g; rw [ha] at e; cases e⟩

theorem returns {r : Res α} (hn : G → ∃ a, r = .ok a) : r.Wp G fun _ => True := of_sat (fun _ _ => trivial) hn

theorem bind {x : Res β} {f : β → Res α} {R : β → Prop} (hx : x.Wp G R)
    (hf : ∀ b, x = .ok b → R b → (f b).Wp G P) : (x >>= f).Wp G P :=
  ⟨.bind fun b e => (hf b e (hx.sat b e)).sat, fun g => by
    cases x with
    | ok b => exact (hf b rfl (hx.sat b rfl)).safe g
    | panic site => exact absurd rfl (hx.safe g site)
    | declined why => exact fun _ e => by cases e⟩

theorem bindEq {x : Res β} {f : β → Res α} {b : β} (e : x = .ok b) (h : (f b).Wp G P) : (x >>= f).Wp G P := by
  subst e
  exact h

theorem ite {p : Prop} [Decidable p] {a b : Res α} (ha : p → a.Wp G P) (hb : ¬p → b.Wp G P) :
    (if p then a else b).Wp G P := by
  by_cases h : p
  · rw [if_pos h]; exact ha h
  · rw [if_neg h]; exact hb h

theorem foldlM {σ ι : Type} {f : σ → ι → Res σ} {I : σ → Prop} :
    ∀ (l : List ι) {s : σ}, I s → (∀ s a, a ∈ l → I s → (f s a).Wp G I) → (l.foldlM f s).Wp G I
  | [], _, hs, _ => pure hs
  | a :: l, s, hs, hf => by
    rw [List.foldlM_cons]
    exact bind (hf s a List.mem_cons_self hs) fun s1 _ h1 =>
      foldlM l h1 fun s a ha => hf s a (List.mem_cons_of_mem _ ha)

theorem mapRes {ι : Type} {f : ι → Res α} {R : ι → α → Prop} :
    ∀ {l : List ι}, (∀ a ∈ l, (f a).Wp G (R a)) → (mapRes f l).Wp G fun bs => ∀ b ∈ bs, ∃ a ∈ l, R a b
  | [], _ => ok fun _ hb => by cases hb
  | a :: l, h => by
    unfold Robust.Irc.mapRes
    refine bind (h a List.mem_cons_self) fun b _ hb => ?_
    refine bind (mapRes fun a ha => h a (List.mem_cons_of_mem _ ha)) fun bs _ hbs => pure fun b' hb' => ?_
    rcases List.mem_cons.1 hb' with rfl | hb'
    · exact ⟨a, List.mem_cons_self, hb⟩
    · obtain ⟨a', ha', hr⟩ := hbs b' hb'
      exact ⟨a', List.mem_cons_of_mem _ ha', hr⟩

end Res.Wp

variable {G : Prop}

theorem getS_wp {c : Ctx} {sid : Id} (h : G → ∃ s, AMap.get c.st.sessions sid = some s) :
    (getS c sid).Wp G fun s => AMap.get c.st.sessions sid = some s :=
  .of_sat (getS_sat c sid) fun g => (h g).imp fun _ => getS_of_get

theorem param_wp {m : IrcMsg} {i : Nat} (h : G → i < m.params.length) :
    (param m i).Wp G fun p => m.params[i]? = some p :=
  .of_sat (param_sat m i) fun g => param_ok (h g)

theorem modS_wp {c : Ctx} {sid : Id} (f : Session → Session) (h : G → ∃ s, AMap.get c.st.sessions sid = some s) :
    (modS c sid f).Wp G fun _ => True :=
  .returns fun g => (h g).elim fun _ hs => ⟨_, modS_of_get f hs⟩

theorem rcChannel_wp {st : St} {lc : String} {ch : Channel} (hw : G → WInvCore st)
    (hc : AMap.get st.channels lc = some ch) : (rcChannel st ch).Wp G fun _ => True :=
  .returns fun g => rcChannel_ok (hw g) hc

theorem rcChannelButOne_wp {st : St} {lc : String} {ch : Channel} (user : Id) (hw : G → WInvCore st)
    (hc : AMap.get st.channels lc = some ch) : (rcChannelButOne st ch user).Wp G fun _ => True :=
  .returns fun g => rcChannelButOne_ok (hw g) user hc

theorem rcCommonChannels_wp {st : St} (s : Session) (hw : G → WInvCore st) :
    (rcCommonChannels st s).Wp G fun _ => True :=
  .returns fun g => rcCommonChannels_ok (hw g) s

/-- the recipients of a channel value all of whose members are indexed: a channel stored before an inert update, or
stored again with the members it had -/
theorem rcChannel_indexed_wp {st : St} {ch : Channel} (h : G → MembersIndexed st ch) :
    (rcChannel st ch).Wp G fun _ => True :=
  .returns fun g => rcChannel_ok_of_indexed (h g)

end Robust.Irc
