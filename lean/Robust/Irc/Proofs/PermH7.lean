import Robust.Irc.Proofs.PermH2
/-!
Order-independence, handlers 7: the two services handlers that search the sessions:
`cmdServerQuit` (sorted pseudo-clients / unique owner of the prefix nick) and `cmdServerKill`.
-/
namespace Robust.Irc
open Robust
attribute [local irreducible] IrcMsg.render emit sendUser sendSvc


theorem subsSorted_eq {c c' : Ctx} (h : CEq c c') (n : Nat) :
    ((c'.st.sessions.filter fun e => e.1.id == n && e.1.reply != 0).map (·.1)).mergeSort (fun a b => a.reply ≤ b.reply) =
    ((c.st.sessions.filter fun e => e.1.id == n && e.1.reply != 0).map (·.1)).mergeSort (fun a b => a.reply ≤ b.reply) := by
  have hf : MEq SessEq (c.st.sessions.filter fun e => e.1.id == n && e.1.reply != 0)
      (c'.st.sessions.filter fun e => e.1.id == n && e.1.reply != 0) :=
    h.st.sessions.filter (fun k v v' _ _ _ => rfl)
  symm
  refine mergeSort_eq_of_perm replyLe_trans replyLe_total (fun a ha b hb h1 h2 => ?_) hf.keys_perm
  have hid : ∀ x ∈ (c.st.sessions.filter fun e => e.1.id == n && e.1.reply != 0).map (·.1), x.id = n := by
    intro x hx
    obtain ⟨e, he, rfl⟩ := List.mem_map.1 hx
    have := (List.mem_filter.1 he).2
    simp only [Bool.and_eq_true, beq_iff_eq] at this
    exact this.1
  simp only [decide_eq_true_eq] at h1 h2
  exact Id.ext_fields ((hid a ha).trans (hid b hb).symm) (Nat.le_antisymm h1 h2)

/-- at most one stored session carries a given non-empty nickname: the early-exit searches of
`cmdServerQuit` / `cmdServerKill` find related entries -/
theorem findOwner_congr {c c' : Ctx} (h : CEq c c') (hu : UniqNick c.st) {x : String} (hx : x ≠ "")
    {q q' : Id × Session → Bool} (hq : ∀ e e', EntryRel SessEq e e' → q e = q' e') :
    ORel (EntryRel SessEq)
      (c.st.sessions.find? (fun e => q e && nickToLower e.2.nick == nickToLower x))
      (c'.st.sessions.find? (fun e => q' e && nickToLower e.2.nick == nickToLower x)) := by
  refine find?_permR h.st.sessions.toPermR (fun e e' hee => by rw [hq e e' hee, hee.2.nick]) ?_
  intro a ha b hb pa pb
  simp only [Bool.and_eq_true, beq_iff_eq] at pa pb
  obtain ⟨ka, va⟩ := a
  obtain ⟨kb, vb⟩ := b
  have ga := AMap.get_of_mem_nodup h.st.sessions.nd ha
  have gb := AMap.get_of_mem_nodup h.st.sessions.nd hb
  have hne : va.nick ≠ "" := by
    intro e
    have := pa.2
    simp only at this
    rw [e, nickToLower_empty] at this
    exact hx (nickToLower_eq_empty.1 this.symm)
  have hk : ka = kb := hu ka kb va vb ga gb hne (pa.2.trans pb.2.symm)
  subst hk
  rw [ga] at gb
  cases gb
  rfl


theorem cmdServerQuit_congr : HCongrU cmdServerQuit := by
  intro c c' sid m hu hm h
  unfold cmdServerQuit
  refine getS_bind h sid (fun s chs inv hs => ?_)
  split
  · -- the link itself goes away: all its pseudo-clients quit, in the order of their `reply` numbers
    refine RRel.bind (deleteSession_congr h sid) (fun c1 c1' h1 => ?_)
    rw [subsSorted_eq h1 s.id.id]
    refine foldlM_rrel_same _ (fun c2 c2' tid _ h2 => ?_) h1
    refine getS_bind h2 tid (fun t chs inv ht => ?_)
    refine RRel.bind (rcCommonChannels_congr h2.st ht) (fun rc rc' hrc => ?_)
    exact deleteSession_congr (emit_congr h2 rfl hrc) tid
  · -- one pseudo-client quits: the owner of the prefix nick
    rename_i p hp
    have hf := findOwner_congr h hu (hm p hp) (q := fun e => e.1.id == s.id.id && e.1.reply != 0)
      (q' := fun e => e.1.id == s.id.id && e.1.reply != 0) (fun e e' hee => by rw [hee.1])
    rcases hf.cases' with ⟨h1, h2⟩ | ⟨e, e', h1, h2, hee⟩
    · simp only [h1, h2]; ceqs
    · simp only [h1, h2]
      refine RRel.bind (rcCommonChannels_congr h.st hee.2) (fun rc rc' hrc => ?_)
      rw [hee.2.ircPrefix, ← hee.1]
      exact deleteSession_congr (emit_congr h rfl hrc) e.1

theorem cmdServerKill_congr : HCongrU cmdServerKill := by
  intro c c' sid m hu hm h
  unfold cmdServerKill
  refine getS_bind h sid (fun s chs inv hs => ?_)
  simp -zeta only [h.st.get_nicks]
  apply RRel.ite
  · ceqs
  extract_lets subs kp subs' kp'
  have hsubs : PermR (EntryRel SessEq) subs subs' :=
    h.st.sessions.toPermR.filter (fun e e' hee => by rw [hee.1])
  have hkp : kp' = kp := by
    show (if subs'.isEmpty = true then _ else _) = (if subs.isEmpty = true then _ else _)
    rw [isEmpty_eq_of_length hsubs.length_eq]
    split
    · rfl
    · split
      · rfl
      · rename_i p hp
        have hf : ORel (EntryRel SessEq)
            (subs.find? (fun e => nickToLower e.2.nick == nickToLower p.name))
            (subs'.find? (fun e => nickToLower e.2.nick == nickToLower p.name)) := by
          simp only [subs, subs', List.find?_filter, Bool.decide_and, Bool.decide_eq_true]
          exact findOwner_congr h hu (hm p hp) (q := fun e => e.1.id == s.id.id && e.1.reply != 0)
            (q' := fun e => e.1.id == s.id.id && e.1.reply != 0) (fun e e' hee => by rw [hee.1])
        rcases hf.cases' with ⟨h1, h2⟩ | ⟨e, e', h1, h2, hee⟩
        · simp only [h1, h2]
        · simp only [h1, h2, hee.2.ircPrefix]
  clear_value kp kp'
  subst hkp
  refine RRel.bind_same (fun killPrefix => ?_)
  refine RRel.bind_same (fun p0 => ?_)
  split
  · ceqs
  · rename_i tid _
    refine getS_bind h tid (fun t chs inv ht => ?_)
    split
    · extract_lets killPath c1 c1'
      ceq_let h1 c1 c1'
      refine RRel.bind (rcCommonChannels_congr h1.st ht) (fun rc rc' hrc => ?_)
      extract_lets c2 c2'
      ceq_let h2 c2 c2'
      exact deleteSession_congr h2 tid
    · exact .panic
end Robust.Irc
