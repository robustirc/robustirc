import Robust.Irc.Proofs.FrmEntry
import Robust.Irc.Proofs.ChanLimit
import Robust.Irc.Proofs.FlagOriginEntry
/-!
The channel limit (`ChanLimit.lean`) through `processMessage`, one committed entry (`applyEntry`) and histories
(`ChannelsWithinLimit`, `ConfigKeepsLimit`, `run_within_limit`).

The number of channels grows only through a type-2 entry (IRCFromClient) whose line is `JOIN` (sent by a
client session or by a services link) or `SVSJOIN` sent by a services link, and then — when there is a
limit — it stays at most `max (old number) maxChannels`: all three handlers refuse to create a channel at
the limit.
-/
namespace Robust.Irc
open Robust AMap

/-- what a run may do to the channels: nothing that grows them; a JOIN (client or services link) or a
services link's SVSJOIN, within the limit -/
def ChanOutcome (st st' : St) (server : Bool) (command : String) : Prop :=
  ChanLe st st' ∨ ((command = "JOIN" ∨ (server = true ∧ command = "SVSJOIN")) ∧ ChanLim st st')

theorem ChanOutcome.after {a b c : St} {sv : Bool} {cmd : String} (h1 : ChanLe a b) (h2 : ChanOutcome b c sv cmd) :
    ChanOutcome a c sv cmd := by
  rcases h2 with h2 | ⟨hc, h2⟩
  · exact Or.inl (h1.trans h2)
  · exact Or.inr ⟨hc, h1.lim.trans h2⟩

theorem ChanOutcome.lim {a b : St} {sv : Bool} {cmd : String} (h : ChanOutcome a b sv cmd) : ChanLim a b := by
  rcases h with h | ⟨_, h⟩
  · exact h.lim
  · exact h

/-- what the handler that the key `toUpper x` selects for `s` may do to the channels -/
theorem call_chan {c c' : Ctx} {s : Session} {m : IrcMsg} {x fname : String} {mp : Nat} {h : Handler}
    (hl : lookupCommand ((if s.server then "server_" else "") ++ toUpper x) = some (fname, mp))
    (hh : handlerByName fname = some h) (hr : h c s.id m = .ok c') :
    ChanOutcome c.st c'.st s.server (toUpper x) := by
  have k := registered_key hl
  have lim := handler_chanLim hh (ChanLim.refl _) hr
  by_cases h1 : fname = "cmdJoin"
  · exact Or.inr ⟨Or.inl (client_key (by decide) (k.join h1)).2, lim⟩
  by_cases h2 : fname = "cmdServerJoin"
  · exact Or.inr ⟨Or.inl (server_key (startsLowerS_toUpper x) (k.serverJoin h2)).2, lim⟩
  by_cases h3 : fname = "cmdServerSvsjoin"
  · exact Or.inr ⟨Or.inr (server_key (startsLowerS_toUpper x) (k.serverSvsjoin h3)), lim⟩
  exact Or.inl (handler_chanLe hh h1 h2 h3 (ChanLe.refl _) hr)

theorem processMessage_chan {c : Ctx} {e : Entry} {im : Option IrcMsg} {s : Session}
    (hw : SessWf c.st) (hs : AMap.get c.st.sessions e.session = some s) :
    (processMessage c e im).Sat fun c' =>
      ChanLe c.st c'.st ∨ ∃ m, im = some m ∧ ChanOutcome c.st c'.st s.server (toUpper m.command) := by
  refine fun c' hr => processMessage_keeps (.stable (ChanLe.stable c.st)) (ChanLe.refl _) (fun _ _ => .of_not id)
    (fun _ f => Or.inl f) (fun him k f1 => ?_) hr
  cases hs.symm.trans k.stored
  obtain ⟨a, rfl, _⟩ := k.actor_eq (hw.ids _ s hs)
  exact Or.inr ⟨_, him, ChanOutcome.after f1 (call_chan k.row k.handler k.ret)⟩

structure EntryChan (st st' : St) (e : Entry) : Prop where
  maxChannels : e.type ≠ 6 → st'.config.maxChannels = st.config.maxChannels
  config : e.type = 6 → st'.channels = st.channels
  chans : st'.channels.length ≤ st.channels.length ∨
    (e.type = 2 ∧ ∃ s m, AMap.get st.sessions e.session = some s ∧ parseMessage e.data = some m ∧
      (toUpper m.command = "JOIN" ∨ (s.server = true ∧ toUpper m.command = "SVSJOIN")) ∧
      (0 < st.config.maxChannels → st'.channels.length ≤ max st.channels.length st.config.maxChannels))

theorem applyEntry_chan {st st' : St} {e : Entry} {out : List Out} (hw : SessWf st)
    (hr : applyEntry st e = .ok (st', out)) : EntryChan st st' e := by
  have same : ∀ {st1 : St}, st1.config = st.config → st1.channels = st.channels → EntryChan st st1 e :=
    fun hc hch => ⟨fun _ => by rw [hc], fun _ => hch, Or.inl (Nat.le_of_eq (by rw [hch]))⟩
  cases applyEntry_run hr with
  | skip => exact same rfl rfl
  | death _ hu =>
    obtain ⟨_, _, u⟩ := updateLast_run hu
    exact same u.config u.channels
  | create _ hcs => rw [createSession_eq hcs]; exact same rfl rfl
  | @delete s c h1 hs hpm =>
    have h6 : e.type ≠ 6 := by rw [h1]; decide
    obtain ⟨hcfg, _, _, hch⟩ := maybeDeleteSession_other { c.st with lastProcessed := ⟨e.id, 0⟩ } e.session
    have hle : ChanLe st c.st := by
      rcases (processMessage_chan hw hs).apply hpm with hle | ⟨m, hm, hle | ⟨hj | ⟨_, hj⟩, _⟩⟩
      · exact hle
      · exact hle
      · rw [(parseMessage_quit _ hm).2] at hj; exact absurd hj (by decide)
      · rw [(parseMessage_quit _ hm).2] at hj; exact absurd hj (by decide)
    exact ⟨fun _ => by rw [hcfg]; exact hle.maxChannels, fun h => absurd h h6, Or.inl (by rw [hch]; exact hle.le)⟩
  | @client st1 c h2 hu hpm =>
    have h6 : e.type ≠ 6 := by rw [h2]; decide
    obtain ⟨hcfg, _, _, hch⟩ := maybeDeleteSession_other { c.st with lastProcessed := ⟨e.session.id, 0⟩ } e.session
    obtain ⟨s, s1, u⟩ := updateLast_run hu
    have hw1 := hw.updateLast hu
    have ho := (processMessage_chan hw1 u.get1).apply hpm
    refine ⟨fun _ => by rw [hcfg, ← u.config]; exact (ho.elim ChanLe.lim fun ⟨_, _, h⟩ => h.lim).maxChannels,
      fun h => absurd h h6, ?_⟩
    rw [hch]
    show c.st.channels.length ≤ st.channels.length ∨ _
    rw [← u.channels, ← u.config]
    rcases ho with hle | ⟨m, hm, hle | ⟨hj, hlim⟩⟩
    · exact Or.inl hle.le
    · exact Or.inl hle.le
    · exact Or.inr ⟨h2, s, m, u.get, hm, hj.imp_right fun ⟨hsrv, hj⟩ => ⟨u.same.server ▸ hsrv, hj⟩, hlim.le⟩
  | config h6 => exact ⟨fun h => absurd h6 h, fun _ => rfl, Or.inl (Nat.le_refl _)⟩

/-- the configured limit is respected (`0` = no limit) -/
def ChannelsWithinLimit (st : St) : Prop :=
  st.config.maxChannels = 0 ∨ st.channels.length ≤ st.config.maxChannels

/-- a Config entry does not lower the limit below the current number of channels -/
def ConfigKeepsLimit (st : St) (e : Entry) : Prop :=
  e.type = 6 → ∀ cfg, e.cfg = some cfg → cfg.maxChannels = 0 ∨ st.channels.length ≤ cfg.maxChannels

theorem EntryChan.within {st st' : St} {e : Entry} (h : EntryChan st st' e) (hl : ChannelsWithinLimit st)
    (hcfg : ConfigKeepsLimit st e) (hr : ∃ out, applyEntry st e = .ok (st', out)) :
    ChannelsWithinLimit st' := by
  by_cases h6 : e.type = 6
  · obtain ⟨out, hr⟩ := hr
    obtain ⟨rfl, _⟩ := applyEntry_config h6 hr
    cases hc : e.cfg with
    | none => exact hl
    | some cfg => exact hcfg h6 cfg hc
  · have hm := h.maxChannels h6
    unfold ChannelsWithinLimit
    rw [hm]
    by_cases hz : st.config.maxChannels = 0
    · exact Or.inl hz
    · right
      have hle : st.channels.length ≤ st.config.maxChannels := hl.resolve_left hz
      rcases h.chans with hle' | ⟨_, _, _, _, _, _, hlim⟩
      · exact Nat.le_trans hle' hle
      · have := hlim (Nat.pos_of_ne_zero hz)
        omega

/-- nothing is asked of the entries but that no Config entry lowers the limit below the current number: `SessWf`
survives every entry (`applyEntry_flags`) -/
theorem run_within_limit {st st' : St} {es : List Entry} (hw : SessWf st) (hl : ChannelsWithinLimit st)
    (hlh : Along ConfigKeepsLimit st es) (hr : runEntries st es = .ok st') : ChannelsWithinLimit st' :=
  (run_along (I := fun st => SessWf st ∧ ChannelsWithinLimit st)
    (fun ⟨hw, hl⟩ hcfg hap => ⟨(applyEntry_flags hw hap).wf, (applyEntry_chan hw hap).within hl hcfg ⟨_, hap⟩⟩)
    ⟨hw, hl⟩ hlh hr).2

end Robust.Irc
