import Robust.Irc.Proofs.FrmBase
import Robust.Irc.Proofs.StableEntry
/-!
The frame relation `Frm` (markers, stored ids, configuration, `lastProcessed`; `FrmBase.lean`) through the
handlers and through one committed entry.

`Frm` is stable and reads none of the fields that NICK, USER, OPER change, so each client handler keeps it (stated
for thirteen of them).  Two handlers need a look of their own: GLINE adds a ban to the configuration and keeps
the marker part `FrmM` (`cmdGline_spec`); the services' `NICK` stores a new session, with marker `0`, an id with
`reply ≠ 0` and the numeric id of its link, as `Frm` asks of a new id (`Frm.serverNick`).  Hence every handler of
the table keeps the marker part (`handler_frmM`), every handler but GLINE the configuration (`handler_fpres`), and
so do the call of the handler that a command selects (`call_frm`) and `processMessage` (`processMessage_frm`).  What `updateLastClientMessageID` and
`maybeDeleteSession` do to the stored ids (`SessWf.updateLast`, `finish_sub`); the entry-level theorems about markers
and configuration are in `FrmHist.lean`.
-/
namespace Robust.Irc
open Robust AMap

theorem FrmPres.of_keeps {h : Ctx → Id → IrcMsg → Res Ctx}
    (H : ∀ {I : Ctx → Prop} (L : HLogic I) {c : Ctx} {sid : Id} {m : IrcMsg}, I c → L.Msg m → (h c sid m).Sat I) :
    FrmPres h :=
  fun st0 _ _ _ _ _ hp hr => (H (.stable (Frm.stable st0)) hp (.of_not id)).apply hr

theorem cmdAway_fpres : FrmPres cmdAway := .of_keeps cmdAway_keeps

theorem cmdInvite_fpres : FrmPres cmdInvite := .of_keeps cmdInvite_keeps

theorem cmdTopic_fpres : FrmPres cmdTopic := .of_keeps cmdTopic_keeps

theorem cmdMode_fpres : FrmPres cmdMode :=
  fun st0 _ _ _ _ _ hp hr => (cmdMode_stable (Frm.stable st0) (Frm.chanAny st0) hp).apply hr

theorem cmdMotd_fpres : FrmPres cmdMotd := .of_keeps fun L _ _ _ hc _ => cmdMotd_keeps L hc

theorem cmdQuit_fpres : FrmPres cmdQuit := .of_keeps cmdQuit_keeps

theorem cmdPart_fpres : FrmPres cmdPart := .of_keeps cmdPart_keeps

theorem cmdKick_fpres : FrmPres cmdKick := .of_keeps cmdKick_keeps

theorem cmdKill_fpres : FrmPres cmdKill := .of_keeps cmdKill_keeps

theorem cmdOper_fpres : FrmPres cmdOper :=
  fun st0 _ sid _ _ _ hp hr => (cmdOper_stable (Frm.stable st0) (fun _ => Frm.upd sid (fun _ => ⟨rfl, rfl⟩)) hp).apply hr

theorem cmdUser_fpres : FrmPres cmdUser :=
  fun st0 _ sid _ _ _ hp hr =>
    (cmdUser_stable (Frm.stable st0) (fun _ _ => Frm.upd sid fun _ => ⟨rfl, rfl⟩)
      (fun _ _ _ _ => Frm.upd sid fun _ => ⟨rfl, rfl⟩) hp).apply hr

theorem cmdPass_fpres : FrmPres cmdPass :=
  fun st0 _ sid _ _ _ hp hr => (cmdPass_stable (Frm.stable st0) (Frm.upd sid (fun _ => ⟨rfl, rfl⟩)) hp).apply hr

theorem cmdJoin_fpres : FrmPres cmdJoin :=
  fun st0 _ _ _ _ _ hp hr => (cmdJoin_stable (Frm.stable st0) (Frm.chanAny st0) (Frm.newChan st0) hp).apply hr

/-- the ban a GLINE adds: the actor is an IRC operator, the target is the session indexed under the
first parameter, its address is known, and `banned[address] := trailing` -/
def GlineBan (c c' : Ctx) (sid : Id) (m : IrcMsg) : Prop :=
  ∃ s p0 tid t, AMap.get c.st.sessions sid = some s ∧ s.operator = true ∧ param m 0 = .ok p0 ∧
    AMap.get c.st.nicks (nickToLower p0) = some tid ∧ AMap.get c.st.sessions tid = some t ∧
    t.remoteAddr ≠ "" ∧
    c'.st.config = { c.st.config with banned := AMap.set c.st.config.banned t.remoteAddr m.trailing }

/-- GLINE: either nothing but output happened to the configuration, or the ban was added — by an
IRC operator, for the address of the named session — and then KILL ran -/
theorem cmdGline_spec {c : Ctx} {sid : Id} {m : IrcMsg} (hw : SessWf c.st) :
    (cmdGline c sid m).Sat fun c' =>
      FrmM c.st c'.st ∧ (c'.st.config = c.st.config ∨ GlineBan c c' sid m) := by
  have h := Frm.refl hw
  unfold cmdGline
  refine .andThen (getS_sat c sid) fun s hs => .ite (fun _ => .pure ⟨h.toFrmM, .inl rfl⟩) fun hop =>
    .bind fun p0 hp0 => ?_
  cases htid : AMap.get c.st.nicks (nickToLower p0) with
  | none => exact .pure ⟨h.toFrmM, .inl rfl⟩
  | some tid =>
    refine .andThen (getS_sat c tid) fun t ht => .ite (fun _ => .pure ⟨h.toFrmM, .inl rfl⟩) fun haddr => ?_
    -- the ban is stored, then KILL runs on the new configuration and keeps it
    refine (cmdKill_keeps (.stable (Frm.stable _)) (Frm.refl (hw.congr (st' := { c.st with config :=
      { c.st.config with banned := AMap.set c.st.config.banned t.remoteAddr m.trailing } }) rfl))
      (.of_not id)).mono fun c' hk => ?_
    exact ⟨hk.toFrmM.congr_base rfl rfl,
      .inr ⟨s, p0, tid, t, hs, by simpa using hop, hp0, htid, ht, by simpa using haddr, hk.config⟩⟩

/-- brute-force walk through a handler whose leaves are output / `putChan` on top of a context `c`
with `h : Frm st0 c.st`: `frm_auto hr h` -/
macro "frm_auto" hr:ident h:ident : tactic =>
  `(tactic| repeat' (first
      | split at $hr:ident
      | (obtain ⟨_, _, $hr:ident⟩ := Res.bind_eq_ok.1 $hr:ident)
      | dsimp only at $hr:ident
      | (cases $hr:ident <;> first | exact $h:ident | exact Frm.congr $h:ident rfl rfl rfl)))

theorem Frm.serverNick {st0 : St} {c c2 : Ctx} {sid : Id} {s : Session} {p0 : String} {st1 : St}
    {f : Session → Session} (hf : MkKeep f) (h0 : sid.reply = 0) (h : Frm st0 c.st)
    (hs : AMap.get c.st.sessions sid = some s) (hnone : AMap.get c.st.sessions ⟨s.id.id, fnv64 p0⟩ = none)
    (hcs : createSession c.st ⟨s.id.id, fnv64 p0⟩ "" s.lastActivity = some st1)
    (hm : modS { c with st := st1 } ⟨s.id.id, fnv64 p0⟩ f = .ok c2) : Frm st0 c2.st := by
  have hsid : s.id = sid := h.wf.ids sid s hs
  have n1 : Frm st0 st1 := by
    rw [createSession_eq hcs]
    exact h.newSession hnone rfl rfl (pseudoClient_reply_ne h0 hs hsid hnone) ⟨sid, s, hs, by rw [hsid]⟩ rfl rfl rfl
  exact (Frm.upd _ hf (c := { c with st := st1 }) n1).apply hm

theorem Frm.special {st0 : St} {fname : String} {c : Ctx} {sid : Id} {m : IrcMsg} (hg : fname ≠ "cmdGline")
    (h0 : sid.reply = 0) (h : Frm st0 c.st) : Special (Frm st0) fname c sid m :=
  .of_keeps (Frm.stable st0) (Frm.chanAny st0) (fun tid _ hf => Frm.upd tid hf) (fun e => absurd e hg) (fun _ => Frm.newChan st0)
    fun _ => Frm.serverNick (fun _ => ⟨rfl, rfl⟩) h0 h

theorem handler_fpres {fname : String} {h : Handler} (hh : handlerByName fname = some h)
    (hg : fname ≠ "cmdGline") : FrmPres h :=
  fun st0 _ _ _ _ h0 hp hr => (handler_stable (Frm.stable st0) hh (Frm.special hg h0 hp) hp).apply hr

theorem handler_frmM {fname : String} {h : Handler} (hh : handlerByName fname = some h) {c c' : Ctx} {sid : Id}
    {m : IrcMsg} (h0 : sid.reply = 0) (hw : SessWf c.st) (hr : h c sid m = .ok c') : FrmM c.st c'.st := by
  by_cases hg : fname = "cmdGline"
  · subst hg
    cases (Option.some.inj hh : cmdGline = h)
    exact ((cmdGline_spec hw).apply hr).1
  · exact (handler_fpres hh hg c.st c sid m c' h0 (Frm.refl hw) hr).toFrmM

/-- what the handler that the key `command` selects for `s` may do to the frame -/
theorem call_frm {c c' : Ctx} {sid : Id} {s : Session} {m : IrcMsg} {command fname : String} {mp : Nat} {h : Handler}
    (h0 : sid.reply = 0) (hw : SessWf c.st) (hs : AMap.get c.st.sessions sid = some s)
    (hl : lookupCommand ((if s.server then "server_" else "") ++ command) = some (fname, mp))
    (hh : handlerByName fname = some h) (hr : h c s.id m = .ok c') :
    FrmM c.st c'.st ∧ (c'.st.config = c.st.config ∨ (command = "GLINE" ∧ GlineBan c c' sid m)) := by
  rw [hw.ids sid s hs] at hr
  by_cases hg : fname = "cmdGline"
  · subst hg
    cases (show some cmdGline = some h from hh)
    obtain ⟨fm, hc⟩ := (cmdGline_spec hw).apply hr
    exact ⟨fm, hc.imp_right fun hc => ⟨(client_key (by decide) ((registered_key hl).gline rfl)).2, hc⟩⟩
  · have f := handler_fpres hh hg c.st c sid m c' h0 (Frm.refl hw) hr
    exact ⟨f.toFrmM, Or.inl f.config⟩

/-- what `ProcessMessage` may do: the marker part of the frame, and the configuration is kept
unless the line is a GLINE of an IRC operator, which adds one ban -/
theorem processMessage_frm {c : Ctx} {e : Entry} {im : Option IrcMsg} (h0 : e.session.reply = 0) (hw : SessWf c.st) :
    (processMessage c e im).Sat fun c' =>
      FrmM c.st c'.st ∧
      (c'.st.config = c.st.config ∨
        ∃ m s addr reason, im = some m ∧ toUpper m.command = "GLINE" ∧
          AMap.get c.st.sessions e.session = some s ∧ s.operator = true ∧
          c'.st.config = { c.st.config with banned := AMap.set c.st.config.banned addr reason }) := by
  refine fun c' hr => processMessage_keeps (.stable (Frm.stable c.st)) (Frm.refl hw) (fun _ _ => .of_not id)
    (fun _ f => And.intro f.toFrmM (Or.inl f.config)) (fun him k f1 => ?_) hr
  obtain ⟨a, rfl, _⟩ := k.actor_eq (hw.ids _ _ k.stored)
  obtain ⟨fm, hc⟩ := call_frm h0 f1.wf k.actor k.row k.handler k.ret
  refine ⟨f1.toFrmM.trans fm, ?_⟩
  rcases hc with hc | ⟨hcmd, s2, p0, tid, t, hs2, hop, _, _, _, _, hcfg⟩
  · exact Or.inl (hc.trans f1.config)
  · cases k.actor.symm.trans hs2
    exact Or.inr ⟨_, _, t.remoteAddr, _, him, hcmd, k.stored, hop, by rw [hcfg, f1.config]⟩

theorem GInv.sessWf {st : St} (h : GInv st) : SessWf st :=
  ⟨fun id s hg => (h.inv.sessId id s hg).1, h.inv.sessNodup⟩

theorem SessWf.updateLast {st st1 : St} {e : Entry} (hw : SessWf st)
    (hu : updateLastClientMessageID st e = some st1) : SessWf st1 := by
  obtain ⟨s, s1, u⟩ := updateLast_run hu
  refine ⟨fun id t hg => ?_, by rw [u.keys]; exact hw.nodup⟩
  obtain ⟨t0, h0, e0⟩ := u.back hg
  exact e0.id.trans (hw.ids id t0 h0)

/-- at the end of `applyEntry`, where `lastProcessed` has just been set: only sessions are removed -/
theorem finish_sub {st : St} {x sid : Id} (hnd : (AMap.keys st.sessions).Nodup) {id : Id} {s : Session}
    (hg : AMap.get (maybeDeleteSession { st with lastProcessed := x } sid).sessions id = some s) :
    AMap.get st.sessions id = some s :=
  maybeDeleteSession_sub (st := { st with lastProcessed := x }) sid hnd hg

theorem SessWf.maybeDeleteSession {st : St} (hw : SessWf st) (x sid : Id) :
    SessWf (maybeDeleteSession { st with lastProcessed := x } sid) :=
  ⟨fun id s hg => hw.ids id s (finish_sub hw.nodup hg),
    maybeDeleteSession_nodup (st := { st with lastProcessed := x }) sid hw.nodup⟩

end Robust.Irc
