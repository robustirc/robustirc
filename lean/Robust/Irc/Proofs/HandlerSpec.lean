import Robust.Irc.Proofs.Frame
/-!
What a command handler is given and what it owes (`Pre`, `Post`), and the notions in which that is said of a handler:
`Preserves`, `ClientSafe`, `ServicesSafe` (with `PreservesSrv`, `H3a.lean`, they are what `H2_summary` and
`H3_summary` state).  The entry-level theorems (C06, C14) take the same facts through `ClientOK`/`ServerOK`
(`Dispatch.lean`).
-/
namespace Robust.Irc
open AMap

/-- what holds when `ProcessMessage` hands a command to its handler -/
structure Pre (c : Ctx) (sid : Id) : Prop where
  inv : Inv c.st
  linv : LInv c.st
  actor : ∃ s, AMap.get c.st.sessions sid = some s
  /-- the HTTP API can only name sessions with `Reply = 0`; services pseudo-clients never act themselves -/
  reply0 : sid.reply = 0

structure Post (c c' : Ctx) (sid : Id) : Prop where
  hinv : HInv c'.st
  linv : LInv c'.st
  /-- the acting session is still stored (it is removed only by `MaybeDeleteSession` afterwards) -/
  actorKept : ∃ s, AMap.get c'.st.sessions sid = some s
  flagged : ∀ id s, AMap.get c'.st.sessions id = some s → s.deleted = true → id = sid ∨ Privileged c'.st sid
  outGrows : ∃ extra, c'.out = c.out ++ extra
  msgid : c'.msgid = c.msgid

def Preserves (h : Ctx → Id → IrcMsg → Res Ctx) : Prop :=
  ∀ c sid m c', Pre c sid → h c sid m = .ok c' → Post c c' sid

/-- client handlers: never panic once the gate let the command through (`minParams` parameters,
session registered unless the command is one of NICK/USER/PASS/QUIT/SERVER, not a services link) -/
def ClientSafe (h : Ctx → Id → IrcMsg → Res Ctx) (minParams : Nat) (needsLogin : Bool) : Prop :=
  ∀ c sid m s, Pre c sid → AMap.get c.st.sessions sid = some s → s.server = false →
    (needsLogin = true → s.loggedIn = true) → minParams ≤ m.params.length →
    ∀ site, h c sid m ≠ .panic site

/-- services handlers: never panic on protocol-conforming lines: a prefix is present and the
documented number of parameters (`docParams`, see the header comment of each scmd_*.go) -/
def ServicesSafe (h : Ctx → Id → IrcMsg → Res Ctx) (docParams : Nat) : Prop :=
  ∀ c sid m s, Pre c sid → AMap.get c.st.sessions sid = some s → s.server = true →
    m.pfx.isSome = true → docParams ≤ m.params.length →
    ∀ site, h c sid m ≠ .panic site

theorem Post.refl_of_pre {c : Ctx} {sid : Id} (h : Pre c sid) : Post c c sid where
  hinv := h.inv.toHInv
  linv := h.linv
  actorKept := h.actor
  flagged := fun id s hg hd => by
    have := h.inv.noDeleted id s hg
    rw [this] at hd
    cases hd
  outGrows := ⟨[], by simp⟩
  msgid := rfl

end Robust.Irc
