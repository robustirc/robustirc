import Robust.Irc.Proofs.PermH3
import Robust.Irc.Proofs.PermH4
import Robust.Irc.Proofs.PermH5
import Robust.Irc.Proofs.PermH6
import Robust.Irc.Proofs.PermH7
import Robust.Irc.Proofs.HandlerTable
/-!
Order-independence, part 8: every handler of the command table is congruent.

Proved per handler in `PermH1` … `PermH7`: `HCongr`, except the two services handlers that search the sessions,
`cmdServerQuit` and `cmdServerKill` (`HCongrU`: needs `UniqNick` and a non-empty prefix name).
-/
namespace Robust.Irc
open Robust

theorem allHandlersCongr {fname : String} {h : Handler} (hh : handlerByName fname = some h) : HCongrU h :=
  handlerByName_cases (P := fun _ h => HCongrU h)
    cmdAway_congr.toU cmdServiceAlias_congr.toU cmdGline_congr.toU cmdInvite_congr.toU cmdIson_congr.toU
    cmdJoin_congr.toU cmdKick_congr.toU cmdKill_congr.toU cmdKnock_congr.toU cmdList_congr.toU cmdMode_congr.toU
    cmdMotd_congr.toU cmdNames_congr.toU cmdNick_congr.toU cmdOper_congr.toU cmdPart_congr.toU cmdPass_congr.toU
    cmdPing_congr.toU cmdPrivmsg_congr.toU cmdQuit_congr.toU cmdServer_congr.toU cmdTopic_congr.toU cmdUser_congr.toU
    cmdUserhost_congr.toU cmdWho_congr.toU cmdWhois_congr.toU
    cmdServerInvite_congr.toU cmdServerJoin_congr.toU cmdServerKick_congr.toU cmdServerKill_congr
    cmdServerMode_congr.toU cmdServerNick_congr.toU cmdServerPrivmsg_congr.toU cmdServerPart_congr.toU
    cmdServerQuit_congr cmdServerSvshold_congr.toU cmdServerSvsjoin_congr.toU cmdServerSvsmode_congr.toU
    cmdServerSvsnick_congr.toU cmdServerSvspart_congr.toU cmdServerTopic_congr.toU hh

end Robust.Irc
