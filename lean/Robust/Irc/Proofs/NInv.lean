import Robust.Irc.Proofs.HandlerSpec
/-!
Two further, separately kept conjuncts of the global invariant: *nickless sessions are inert*
(`NInv`) and *names are syntactically valid* (`VInv`).

`Inv` (see `InvDef.lean`) allows a session without nickname to be indexed under `""` or to list
channels.  Since `cmdServerNick` validates the nickname, no session is ever indexed under `""`, and
`NInv` records this: `""` is not an index key, and a session without nickname lists no channel
and is not indexed.

`VInv`: every nickname carried by a stored session satisfies `isValidNickname`, every stored channel's
name satisfies `isValidChannel` (NICK, SVSNICK, the services NICK and the three JOIN variants check
this before they store a name).

The working form of `NInv ∧ VInv` is `NI` (the part of `NInv` about the index follows from
`WInvCore.index`); this file proves that every primitive that touches `nick` / the index / the
channel lists / channel names preserves `NI`, without assuming any of the other invariants wherever
possible.  At the end, the global invariant itself: `GInv`.
-/
namespace Robust.Irc
open Robust AMap

def NInv (st : St) : Prop :=
  AMap.get st.nicks "" = none ∧
  ∀ id s, AMap.get st.sessions id = some s → s.nick = "" →
    s.channels = [] ∧ ∀ x, AMap.get st.nicks x ≠ some id

def VInv (st : St) : Prop :=
  (∀ id s, AMap.get st.sessions id = some s → s.nick ≠ "" → isValidNickname s.nick = true) ∧
  (∀ lc c, AMap.get st.channels lc = some c → isValidChannel c.name = true)

def SessOK (s : Session) : Prop :=
  (s.nick = "" → s.channels = []) ∧ (s.nick ≠ "" → isValidNickname s.nick = true)

structure NI (st : St) : Prop where
  idx : AMap.get st.nicks "" = none
  sess : ∀ id s, AMap.get st.sessions id = some s → SessOK s
  chan : ∀ lc c, AMap.get st.channels lc = some c → isValidChannel c.name = true

theorem NI.of {st : St} (h : NInv st) (hv : VInv st) : NI st :=
  ⟨h.1, fun id s hg => ⟨fun hn => (h.2 id s hg hn).1, hv.1 id s hg⟩, hv.2⟩

theorem NI.indexed_nick {st : St} (h : NI st) (hw : WInvCore st) {x : String} {id : Id} {s : Session}
    (hi : AMap.get st.nicks x = some id) (hs : AMap.get st.sessions id = some s) : s.nick ≠ "" := by
  intro hn
  obtain ⟨s0, hs0, _, hlow⟩ := hw.index x id hi
  rw [hs] at hs0; cases hs0
  rw [hn, nickToLower_empty] at hlow
  subst hlow
  rw [h.idx] at hi; cases hi

theorem NI.ninv {st : St} (h : NI st) (hw : WInvCore st) : NInv st :=
  ⟨h.idx, fun id s hg hn => ⟨(h.sess id s hg).1 hn, fun _ hx => h.indexed_nick hw hx hg hn⟩⟩

theorem NI.vinv {st : St} (h : NI st) : VInv st := ⟨fun id s hg => (h.sess id s hg).2, h.chan⟩

theorem NI_init : NI ({} : St) := ⟨rfl, by intro id s h; simp at h, by intro lc c h; simp at h⟩

theorem NI.congr {st st' : St} (h : NI st) (hs : st'.sessions = st.sessions) (hn : st'.nicks = st.nicks)
    (hc : st'.channels = st.channels) : NI st' := by
  obtain ⟨a, b, d⟩ := h
  constructor
  · rw [hn]; exact a
  · rw [hs]; exact b
  · rw [hc]; exact d

theorem NI.sim {st st' : St} (h : NI st) (hs : StSim st st') : NI st' := by
  refine ⟨by rw [hs.nicks]; exact h.idx, fun id s' hg => ?_, fun lc c' hg => ?_⟩
  · obtain ⟨s, hg0, hcore⟩ := hs.sess.bwd hg
    obtain ⟨_, _, e3, e4⟩ := Session.core_eq.1 hcore
    have := h.sess id s hg0
    unfold SessOK at this ⊢
    rw [e3, e4]; exact this
  · obtain ⟨c, hg0, hcore⟩ := hs.chans.bwd hg
    obtain ⟨e1, _⟩ := Channel.core_eq.1 hcore
    rw [e1]; exact h.chan lc c hg0

theorem NI.emit {c : Ctx} (h : NI c.st) (m : IrcMsg) (r : List Nat) : NI (emit c m r).st := h
theorem NI.sendUser {c : Ctx} (h : NI c.st) (sid : Id) (m : IrcMsg) : NI (sendUser c sid m).st := h
theorem NI.sendSvc {c : Ctx} (h : NI c.st) (m : IrcMsg) : NI (sendSvc c m).st := h

theorem NI.putChan {c : Ctx} (h : NI c.st) (lc : String) {ch : Channel} (hv : isValidChannel ch.name = true) :
    NI (putChan c lc ch).st := by
  refine ⟨h.idx, h.sess, fun lc' c' hg => ?_⟩
  rcases AMap.get_of_get_set (m := c.st.channels) hg with ⟨_, rfl⟩ | ⟨_, hg⟩
  · exact hv
  · exact h.chan lc' c' hg

theorem NI.putChan_same {c : Ctx} (h : NI c.st) (lc : String) {lc0 : String} {ch ch0 : Channel}
    (hg : AMap.get c.st.channels lc0 = some ch0) (hname : ch.name = ch0.name) :
    NI (Robust.Irc.putChan c lc ch).st :=
  h.putChan lc (by rw [hname]; exact h.chan lc0 ch0 hg)

theorem NI.setSession {st st' : St} (h : NI st) {k : Id} {v : Session} (hv : SessOK v)
    (hs : st'.sessions = AMap.set st.sessions k v) (hn : st'.nicks = st.nicks) (hc : st'.channels = st.channels) :
    NI st' := by
  refine ⟨by rw [hn]; exact h.idx, fun id s hg => ?_, by rw [hc]; exact h.chan⟩
  rw [hs] at hg
  rcases AMap.get_of_get_set hg with ⟨_, rfl⟩ | ⟨_, hg⟩
  · exact hv
  · exact h.sess id s hg

theorem NI.putS {c : Ctx} (h : NI c.st) {s' : Session} (hv : SessOK s') : NI (putS c s').st :=
  h.setSession hv rfl rfl rfl

theorem NI.modS {c c' : Ctx} {tid : Id} {f : Session → Session} (h : NI c.st) (hr : Robust.Irc.modS c tid f = Res.ok c')
    (hf : ∀ s, AMap.get c.st.sessions tid = some s → SessOK s → SessOK (f s)) : NI c'.st := by
  obtain ⟨s, hs, rfl⟩ := modS_eq_ok.1 hr
  exact h.putS (hf s hs (h.sess tid s hs))

theorem NI.modS_sub {c c' : Ctx} {tid : Id} {f : Session → Session} (h : NI c.st) (hr : Robust.Irc.modS c tid f = Res.ok c')
    (hf : ∀ s, (f s).nick = s.nick ∧ ∀ x ∈ (f s).channels, x ∈ s.channels) : NI c'.st :=
  h.modS hr fun s _ h0 => by
    refine ⟨fun hn => ?_, fun hn => by rw [(hf s).1] at hn ⊢; exact h0.2 hn⟩
    have h1 := h0.1 (by rw [← (hf s).1]; exact hn)
    apply List.eq_nil_iff_forall_not_mem.2
    intro x hx
    have := (hf s).2 x hx
    rw [h1] at this
    cases this

theorem NI.modS_keep {c c' : Ctx} {tid : Id} {f : Session → Session} (h : NI c.st) (hr : Robust.Irc.modS c tid f = Res.ok c')
    (hf : ∀ s, (f s).nick = s.nick ∧ (f s).channels = s.channels) : NI c'.st :=
  h.modS_sub hr fun s => ⟨(hf s).1, fun x hx => by rw [← (hf s).2]; exact hx⟩

theorem NI.modS_nick {c c' : Ctx} {tid : Id} {f : Session → Session} (h : NI c.st) (hr : Robust.Irc.modS c tid f = Res.ok c')
    (hf : ∀ s, isValidNickname (f s).nick = true) : NI c'.st :=
  h.modS hr fun s _ _ => ⟨fun hn => absurd hn (isValidNickname_ne_empty (hf s)), fun _ => hf s⟩

theorem NI.modS_named {c c' : Ctx} {tid : Id} {f : Session → Session} {t : Session} (h : NI c.st)
    (hr : Robust.Irc.modS c tid f = Res.ok c') (ht : AMap.get c.st.sessions tid = some t) (hn : t.nick ≠ "")
    (hf : ∀ s, (f s).nick = s.nick) : NI c'.st :=
  h.modS hr fun s hs h0 => by
    rw [ht] at hs; cases hs
    refine ⟨fun hn' => ?_, fun hn' => by rw [hf] at hn' ⊢; exact h0.2 hn'⟩
    rw [hf] at hn'
    exact absurd hn' hn

/-- the join step: the channel is stored under a valid name or its name was checked, and the new member has a nickname
because it is indexed -/
theorem NI.addMember {c c' : Ctx} {lc lcn : String} {tid : Id} {ch : Channel} {mem : Member} (h : NI c.st)
    (hw : WInvCore c.st) (hidx : AMap.get c.st.nicks lcn = some tid)
    (hch : ChanOrNew c.st lc ch)
    (hvn : AMap.get c.st.channels lc = none → isValidChannel ch.name = true)
    (hr : Robust.Irc.modS (Robust.Irc.putChan c lc { ch with nicks := AMap.set ch.nicks lcn mem }) tid
            (fun t => { t with channels := setInsert t.channels lc }) = Res.ok c') : NI c'.st := by
  obtain ⟨t, ht, _⟩ := hw.index lcn tid hidx
  have hv : isValidChannel ch.name = true := Or.elim hch (h.chan lc ch) fun hg => hvn hg.1
  exact NI.modS_named (c := Robust.Irc.putChan c lc _) (h.putChan lc (ch := { ch with nicks := AMap.set ch.nicks lcn mem }) hv) hr ht
    (h.indexed_nick hw hidx ht) fun _ => rfl

theorem NI.setNick {st st' : St} (h : NI st) {k : String} {id : Id} (hk : k ≠ "")
    (hs : st'.sessions = st.sessions) (hn : st'.nicks = AMap.set st.nicks k id) (hc : st'.channels = st.channels) :
    NI st' := by
  refine ⟨?_, by rw [hs]; exact h.sess, by rw [hc]; exact h.chan⟩
  rw [hn, AMap.get_set_other _ (Ne.symm hk)]; exact h.idx

theorem NI.eraseNick {st st' : St} (h : NI st) {k : String}
    (hs : st'.sessions = st.sessions) (hn : st'.nicks = AMap.erase st.nicks k) (hc : st'.channels = st.channels) :
    NI st' := by
  refine ⟨?_, by rw [hs]; exact h.sess, by rw [hc]; exact h.chan⟩
  rw [hn, AMap.get_erase]
  split
  · rfl
  · exact h.idx

theorem NI.withNicksErase {st : St} (h : NI st) (k : String) : NI { st with nicks := AMap.erase st.nicks k } :=
  h.eraseNick rfl rfl rfl

theorem NI.withNicksSet {st : St} (h : NI st) {k : String} (hk : k ≠ "") (id : Id) :
    NI { st with nicks := AMap.set st.nicks k id } :=
  h.setNick hk rfl rfl rfl

theorem NI.maybeDeleteChannel {c : Ctx} (h : NI c.st) (lc : String) : NI (maybeDeleteChannel c lc).st := by
  unfold Robust.Irc.maybeDeleteChannel
  split
  · exact h
  · split
    · exact h
    · refine ⟨h.idx, fun id s hg => ?_, fun lc' c' hg => ?_⟩
      · dsimp only at hg
        rw [AMap.get_map_val'] at hg
        cases hg0 : AMap.get c.st.sessions id with
        | none => rw [hg0] at hg; cases hg
        | some s0 =>
          rw [hg0] at hg
          simp only [Option.map_some, Option.some.injEq] at hg
          subst hg
          exact h.sess id s0 hg0
      · exact h.chan lc' c' (AMap.get_of_get_erase hg).2

theorem NI.leaveChannel {c c' : Ctx} {lc lcn : String} {tid : Id} (h : NI c.st)
    (hr : leaveChannel c lc lcn tid = Res.ok c') : NI c'.st := by
  unfold Robust.Irc.leaveChannel at hr
  split at hr
  · rename_i ch hch
    exact ((h.putChan_same lc (ch := { ch with nicks := AMap.erase ch.nicks lcn }) hch rfl).maybeDeleteChannel lc).modS_sub hr
      fun s => ⟨rfl, fun x hx => (List.mem_filter.1 hx).1⟩
  · cases hr

theorem NI.deleteSession {c c' : Ctx} {sid : Id} (h : NI c.st) (hr : deleteSession c sid = Res.ok c') : NI c'.st := by
  unfold Robust.Irc.deleteSession at hr
  obtain ⟨s, _, hr⟩ := Res.bind_eq_ok.1 hr
  dsimp only at hr
  refine NI.modS_keep ?_ hr (fun _ => ⟨rfl, rfl⟩)
  refine NI.withNicksErase ?_ _
  refine foldl_invariant (I := fun c : Ctx => NI c.st) _ h fun c1 e _ h1 => ?_
  split
  · exact h1
  · rename_i ch hch
    exact (h1.putChan_same e.1 (ch := { ch with nicks := AMap.erase ch.nicks (nickToLower s.nick) }) hch rfl).maybeDeleteChannel _

theorem NI.createSession {st st' : St} {id : Id} {auth : String} {ts : Int} (h : NI st)
    (hr : createSession st id auth ts = some st') : NI st' := by
  rw [createSession_eq hr]
  exact h.setSession ⟨fun _ => rfl, fun hn => absurd rfl hn⟩ rfl rfl rfl

theorem NI.renameCtx {c : Ctx} (h : NI c.st) (tid : Id) {lcnew : String} (old : String) (b : Bool)
    (hk : lcnew ≠ "") : NI (renameCtx c tid lcnew old b).st := by
  unfold Robust.Irc.renameCtx
  have h1 : NI { c.st with nicks := AMap.set c.st.nicks lcnew tid } := h.setNick hk rfl rfl rfl
  cases b with
  | false => exact h1
  | true =>
    refine ⟨(h1.eraseNick (k := old) (st' := { c.st with nicks := AMap.erase (AMap.set c.st.nicks lcnew tid) old }) rfl rfl rfl).idx,
      h1.sess, fun lc' c' hg => ?_⟩
    change AMap.get (c.st.channels.map (rekeyChan old lcnew)) lc' = some c' at hg
    obtain ⟨c0, hg0, rfl⟩ := get_of_get_map_rekeyChan hg
    exact h.chan lc' c0 hg0

theorem NI.updateLastClientMessageID {st st' : St} {e : Entry} (h : NI st)
    (hr : updateLastClientMessageID st e = some st') : NI st' := by
  obtain ⟨s, a, c, hg, rfl⟩ := updateLastClientMessageID_eq hr
  refine h.setSession (hv := ?_) rfl rfl rfl
  exact h.sess _ s hg

theorem NI.maybeDeleteSession {st : St} (sid : Id) (h : NI st) (hnd : (AMap.keys st.sessions).Nodup) :
    NI (maybeDeleteSession st sid) :=
  ⟨by rw [(maybeDeleteSession_other st sid).2.2.1]; exact h.idx,
    fun id s hg => h.sess id s ((get_maybeDeleteSession hnd).1 hg).1,
    by rw [(maybeDeleteSession_other st sid).2.2.2]; exact h.chan⟩

/-- the invariant of C14: the consistency invariant `Inv` (`InvDef.lean`), a registered session has a nickname
(`LInv`, `FrameLogin.lean`), nickless sessions are inert, names are valid -/
structure GInv (st : St) : Prop where
  inv : Inv st
  linv : LInv st
  ninv : NInv st
  vinv : VInv st

theorem GInv.of_ni {st : St} (h1 : Inv st) (h2 : LInv st) (h3 : NI st) : GInv st :=
  ⟨h1, h2, h3.ninv h1.toWInvCore, h3.vinv⟩

theorem GInv_init : GInv ({} : St) := .of_ni Inv_init LInv_init NI_init

theorem GInv.ni {st : St} (h : GInv st) : NI st := NI.of h.ninv h.vinv

/-- what a handler is given of the state, on a state between entries: the actor is stored, under an id the API names -/
theorem GInv.pre {c : Ctx} {sid : Id} {s : Session} (h : GInv c.st) (hs : AMap.get c.st.sessions sid = some s)
    (h0 : sid.reply = 0) : Pre c sid :=
  ⟨h.inv, h.linv, ⟨s, hs⟩, h0⟩

end Robust.Irc
