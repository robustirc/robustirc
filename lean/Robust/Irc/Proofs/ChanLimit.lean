import Robust.Irc.Proofs.StableTable
import Robust.Irc.Proofs.H3
/-!
The channel limit (`Config.MaxChannels`) through the handlers.

`ChanLe st0 st`: relative to a base state `st0` the configured limit is unchanged and the number of
stored channels did not grow.  It is stable (`ChanLe.stable`; pure length arguments: `AMap.set` on a
present key keeps the length, `AMap.erase`/`filter` shrink, `map` keeps), so every handler of the table keeps it
(`handler_chanLe`) except the three that can store a channel under a new key: the client's JOIN (`joinOne`) and
the services' `JOIN` (`cmdServerJoin`) and `SVSJOIN` (`cmdServerSvsjoin`).  These create a channel only while the
number of channels is below `MaxChannels` (or the limit is `0` = unlimited): they keep `ChanLim`, and so does
every handler of the table (`handler_chanLim`).
-/
namespace Robust.Irc
open Srv
open Robust AMap

structure ChanLe (st0 st : St) : Prop where
  maxChannels : st.config.maxChannels = st0.config.maxChannels
  le : st.channels.length ≤ st0.channels.length

theorem ChanLe.refl (st : St) : ChanLe st st := ⟨rfl, Nat.le_refl _⟩

theorem ChanLe.trans {a b c : St} (h1 : ChanLe a b) (h2 : ChanLe b c) : ChanLe a c :=
  ⟨h2.maxChannels.trans h1.maxChannels, Nat.le_trans h2.le h1.le⟩

theorem ChanLe.congr {st0 st st' : St} (h : ChanLe st0 st) (hc : st'.config.maxChannels = st.config.maxChannels)
    (hl : st'.channels.length ≤ st.channels.length) : ChanLe st0 st' :=
  ⟨hc.trans h.maxChannels, Nat.le_trans hl h.le⟩

theorem ChanLe.same {st0 st st' : St} (h : ChanLe st0 st) (hc : st'.config = st.config)
    (hch : st'.channels = st.channels) : ChanLe st0 st' :=
  h.congr (by rw [hc]) (by rw [hch]; exact Nat.le_refl _)

theorem ChanLe.set {st0 st st' : St} (h : ChanLe st0 st) {lc : String} {ch0 ch : Channel}
    (hg : AMap.get st.channels lc = some ch0) (hc : st'.config = st.config)
    (hch : st'.channels = AMap.set st.channels lc ch) : ChanLe st0 st' :=
  h.congr (by rw [hc]) (by rw [hch, AMap.length_set_of_get ch hg]; exact Nat.le_refl _)

theorem ChanLe.putChan {st0 : St} {c : Ctx} (h : ChanLe st0 c.st) {lc : String} {ch0 : Channel}
    (hg : AMap.get c.st.channels lc = some ch0) (ch : Channel) : ChanLe st0 (putChan c lc ch).st :=
  h.set hg rfl rfl

/-- brute-force walk through a handler whose leaves are output / `putChan` of a present key on top of a
context `c` with `h : ChanLe st0 c.st` and `hch : AMap.get c.st.channels lc = some ch`: `chanle_auto hr h hch` -/
macro "chanle_auto" hr:ident h:ident hch:ident : tactic =>
  `(tactic| repeat' (first
      | split at $hr:ident
      | (obtain ⟨_, _, $hr:ident⟩ := Res.bind_eq_ok.1 $hr:ident)
      | dsimp only at $hr:ident
      | (cases $hr:ident <;> first
          | exact $h:ident
          | exact ChanLe.putChan $h:ident $hch:ident _)))

/-- the handlers' ordinary updates store channels under present keys only, or erase them -/
theorem ChanLe.stable (st0 : St) : Stable (ChanLe st0) where
  congr h _ hch hc _ := h.same hc hch
  setSession h _ _ := h.same rfl rfl
  mapSessions _ h _ := h.same rfl rfl
  setChannel _ h hg _ := h.set hg rfl rfl
  eraseChannel _ h := h.congr rfl (length_erase_le _ _)

theorem ChanLe.chanAny (st0 : St) : ChanAny (ChanLe st0) :=
  ⟨fun _ h hg => h.set hg rfl rfl, fun _ h => h.congr rfl (Nat.le_of_eq (List.length_map _))⟩

/-- sessions are not read -/
theorem ChanLe.upd {st0 : St} (tid : Id) (f : Session → Session) : Upd (ChanLe st0) tid f :=
  fun _ h => (modS_sat _ tid f).mono fun _ ⟨_, _, e⟩ => e ▸ h.same rfl rfl

/-- relative to the base state: the limit is unchanged, and if there is a limit (`maxChannels > 0`)
the number of channels is at most the larger of the base number and the limit -/
structure ChanLim (st0 st : St) : Prop where
  maxChannels : st.config.maxChannels = st0.config.maxChannels
  le : 0 < st0.config.maxChannels → st.channels.length ≤ max st0.channels.length st0.config.maxChannels

theorem ChanLim.refl (st : St) : ChanLim st st := ⟨rfl, fun _ => Nat.le_max_left _ _⟩

theorem ChanLe.lim {st0 st : St} (h : ChanLe st0 st) : ChanLim st0 st :=
  ⟨h.maxChannels, fun _ => Nat.le_trans h.le (Nat.le_max_left _ _)⟩

theorem ChanLim.trans {a b c : St} (h1 : ChanLim a b) (h2 : ChanLim b c) : ChanLim a c := by
  refine ⟨h2.maxChannels.trans h1.maxChannels, fun h => ?_⟩
  have h3 := h2.le (by rw [h1.maxChannels]; exact h)
  rw [h1.maxChannels] at h3
  have := h1.le h
  omega

/-- the admission phase: the channel map is untouched, or a new key was stored while the number of
channels was below the limit (or there is no limit) -/
theorem joinAdmit_channels {c : Ctx} {sid : Id} {s : Session} {chn key : String} :
    (joinAdmit c sid s chn key).Sat fun r =>
      r.1.st.config = c.st.config ∧
      (r.1.st.channels = c.st.channels ∨
        (AMap.get c.st.channels (chanToLower chn) = none ∧
          r.1.st.channels.length = c.st.channels.length + 1 ∧
          (c.st.config.maxChannels = 0 ∨ c.st.channels.length < c.st.config.maxChannels))) :=
  joinAdmit_cases (Q := fun r => r.Sat _) (fun _ => .ok ⟨rfl, .inl rfl⟩)
    (fun hnone hroom => .ok ⟨rfl, .inr ⟨hnone, AMap.length_set_of_none _ hnone, room_of_not_full hroom⟩⟩)
    (fun _ _ => .ok ⟨rfl, .inl rfl⟩) fun _ => .declined _

theorem ChanLim.newChan (st0 : St) : NewChan (ChanLim st0) := by
  intro st lc ch h hnone hl
  refine ⟨h.maxChannels, fun hpos => ?_⟩
  show (AMap.set st.channels lc ch).length ≤ _
  rw [AMap.length_set_of_none ch hnone]
  have hb := h.le hpos
  rw [h.maxChannels] at hl
  omega

theorem ChanLim.stable (st0 : St) : Stable (ChanLim st0) where
  congr h _ hch hc _ := ⟨by rw [hc]; exact h.maxChannels, fun hpos => by rw [hch]; exact h.le hpos⟩
  setSession h _ _ := ⟨h.maxChannels, h.le⟩
  mapSessions _ h _ := ⟨h.maxChannels, h.le⟩
  setChannel ch h hg _ := ⟨h.maxChannels, fun hpos => by
    show (AMap.set _ _ ch).length ≤ _
    rw [AMap.length_set_of_get ch hg]; exact h.le hpos⟩
  eraseChannel _ h := ⟨h.maxChannels, fun hpos => Nat.le_trans (length_erase_le _ _) (h.le hpos)⟩

theorem ChanLim.chanAny (st0 : St) : ChanAny (ChanLim st0) where
  setChannel ch h hg := ⟨h.maxChannels, fun hpos => by
    show (AMap.set _ _ ch).length ≤ _
    rw [AMap.length_set_of_get ch hg]; exact h.le hpos⟩
  mapChannels _ h := ⟨h.maxChannels, fun hpos => by
    show (List.map _ _).length ≤ _
    rw [List.length_map]; exact h.le hpos⟩

theorem joinAdmit_lim {st0 : St} {c c1 : Ctx} {sid : Id} {s : Session} {chn key : String}
    {mm : Option (Option IrcMsg)} (h : ChanLim st0 c.st) (hr : joinAdmit c sid s chn key = .ok (c1, mm)) :
    ChanLim st0 c1.st :=
  ((joinAdmit_keeps (.stable (ChanLim.stable st0)) (NewChan.addsChan (ChanLim.stable st0) (ChanLim.newChan st0)) h
    ⟨False.elim, False.elim⟩ False.elim).apply hr).1

def CreatesBelowLimit (st st' : St) (lc : String) : Prop :=
  st'.channels.length ≤ st.channels.length ∨
    (st'.channels.length = st.channels.length + 1 ∧ AMap.get st.channels lc = none ∧
      (st.config.maxChannels = 0 ∨ st.channels.length < st.config.maxChannels))

/-- **one JOIN target**: the number of channels does not grow, or exactly one channel — whose key was
not stored — is created, and then the number of channels was below the limit (or there is no limit) -/
theorem joinOne_creates_only_below_limit {c c' : Ctx} {sid : Id} {chn key : String}
    (hr : joinOne c sid chn key = .ok c') :
    c'.st.config.maxChannels = c.st.config.maxChannels ∧ CreatesBelowLimit c.st c'.st (chanToLower chn) := by
  rw [joinOne_eq] at hr
  obtain ⟨s0, hs0, hr⟩ := Res.bind_eq_ok.1 hr
  split at hr
  · cases hr; exact ⟨rfl, Or.inl (Nat.le_refl _)⟩
  · obtain ⟨r, hadm, hr⟩ := Res.bind_eq_ok.1 hr
    obtain ⟨c1, mm⟩ := r
    obtain ⟨hc, hch⟩ := joinAdmit_channels.apply hadm
    -- after the admission phase (the channel is stored) nothing is created
    have htail : ChanLe c1.st c'.st := by
      cases mm with
      | none => cases hr; exact ChanLe.refl _
      | some mm =>
        exact (joinTail_keeps (.stable (ChanLe.stable c1.st)) (ChanLe.chanAny c1.st).setsMembers (ChanLe.refl _) False.elim
          fun _ _ => ⟨False.elim, False.elim⟩).apply hr
    refine ⟨by rw [htail.maxChannels, hc], ?_⟩
    have hl := htail.le
    rcases hch with e | ⟨hnone, e, hlim⟩
    · rw [e] at hl; exact Or.inl hl
    · rw [e] at hl
      by_cases hle : c'.st.channels.length ≤ c.st.channels.length
      · exact Or.inl hle
      · exact Or.inr ⟨by omega, hnone, hlim⟩

theorem ChanLe.emits {st0 : St} {c c' : Ctx} (h : ChanLe st0 c.st) (he : Srv.Emits c c') : ChanLe st0 c'.st := by
  rw [he.st]; exact h

/-- storing a channel after the limit check of the services `JOIN` / `SVSJOIN` has passed -/
theorem chanLim_putChan_checked (c : Ctx) (lc : String) (ch : Channel)
    (hlim : ¬ ((!(AMap.get c.st.channels lc).isSome && decide (c.st.channels.length ≥ c.st.config.maxChannels) &&
      decide (c.st.config.maxChannels > 0)) = true)) :
    CreatesBelowLimit c.st (putChan c lc ch).st lc := by
  show (AMap.set c.st.channels lc ch).length ≤ _ ∨ ((AMap.set c.st.channels lc ch).length = _ ∧ _)
  cases hg : AMap.get c.st.channels lc with
  | some ch0 => exact Or.inl (Nat.le_of_eq (AMap.length_set_of_get ch hg))
  | none =>
    rw [hg] at hlim
    exact Or.inr ⟨AMap.length_set_of_none ch hg, rfl, room_of_not_full hlim⟩

theorem ChanLim.creates {st0 st st' : St} {lc : String} (h : ChanLim st0 st)
    (hc : st'.config.maxChannels = st.config.maxChannels) (hch : CreatesBelowLimit st st' lc) : ChanLim st0 st' := by
  refine ⟨hc.trans h.maxChannels, fun hpos => ?_⟩
  have hb := h.le hpos
  rcases hch with hl | ⟨e, _, hl⟩
  · exact Nat.le_trans hl hb
  · rw [e]
    rw [h.maxChannels] at hl
    omega

/-- **one services JOIN target** (`serverJoinOne`): the limit is untouched; the number of channels does not
grow, or exactly one channel — whose key was not stored — is created, and then the number of channels was
below the limit (or there is no limit) -/
theorem serverJoinOne_creates_only_below_limit {c c' : Ctx} {m : IrcMsg} {chn : String}
    (hr : serverJoinOne c m chn = Res.ok c') :
    c'.st.config.maxChannels = c.st.config.maxChannels ∧ CreatesBelowLimit c.st c'.st (chanToLower chn) := by
  -- the limit: `serverJoinOne` keeps `ChanLim`, like every step of the table
  refine ⟨((serverJoinOne_keeps (.stable (ChanLim.stable c.st)) (ChanLim.chanAny c.st).setsMembers
    (NewChan.addsChan (ChanLim.stable c.st) (ChanLim.newChan c.st)) (ChanLim.refl _) (.of_not id) nofun nofun).apply hr).maxChannels, ?_⟩
  unfold serverJoinOne at hr
  obtain ⟨pn, _, hr⟩ := Res.bind_eq_ok.1 hr
  split at hr
  · cases hr; exact Or.inl (Nat.le_refl _)
  · dsimp only at hr
    split at hr
    · cases hr; exact Or.inl (Nat.le_refl _)
    · split at hr
      · cases hr; exact Or.inl (Nat.le_refl _)
      rename_i hlim
      obtain ⟨c1, h1, hr⟩ := Res.bind_eq_ok.1 hr
      obtain ⟨sp, _, hr⟩ := Res.bind_eq_ok.1 hr
      obtain ⟨rc, _, hr⟩ := Res.bind_eq_ok.1 hr
      cases hr
      simp only [getChan_eq] at h1 hlim
      show c1.st.channels.length ≤ _ ∨ (c1.st.channels.length = _ ∧ _)
      rw [(modS_frame h1).1]
      exact chanLim_putChan_checked c _ _ hlim

/-- **services SVSJOIN**: the limit is untouched; the number of channels does not grow, or exactly one
channel — whose key was not stored — is created, and then the number of channels was below the limit
(or there is no limit) -/
theorem cmdServerSvsjoin_creates_only_below_limit {c c' : Ctx} {sid : Id} {m : IrcMsg}
    (hr : cmdServerSvsjoin c sid m = Res.ok c') :
    c'.st.config.maxChannels = c.st.config.maxChannels ∧
    (c'.st.channels.length ≤ c.st.channels.length ∨
      ∃ chn, m.params[1]? = some chn ∧
        c'.st.channels.length = c.st.channels.length + 1 ∧ AMap.get c.st.channels (chanToLower chn) = none ∧
        (c.st.config.maxChannels = 0 ∨ c.st.channels.length < c.st.config.maxChannels)) := by
  unfold cmdServerSvsjoin at hr
  obtain ⟨p0, _, hr⟩ := Res.bind_eq_ok.1 hr
  obtain ⟨chn, hp1, hr⟩ := Res.bind_eq_ok.1 hr
  have hp1' : m.params[1]? = some chn := (param_sat m 1).apply hp1
  dsimp only at hr
  have key : ∀ {st' : St}, st'.config.maxChannels = c.st.config.maxChannels →
      CreatesBelowLimit c.st st' (chanToLower chn) →
      st'.config.maxChannels = c.st.config.maxChannels ∧
      (st'.channels.length ≤ c.st.channels.length ∨
        ∃ chn, m.params[1]? = some chn ∧
          st'.channels.length = c.st.channels.length + 1 ∧ AMap.get c.st.channels (chanToLower chn) = none ∧
          (c.st.config.maxChannels = 0 ∨ c.st.channels.length < c.st.config.maxChannels)) := by
    intro st' hc hch
    refine ⟨hc, ?_⟩
    rcases hch with hl | hcr
    · exact Or.inl hl
    · exact Or.inr ⟨chn, hp1', hcr⟩
  split at hr
  · obtain ⟨pn, _, hr⟩ := Res.bind_eq_ok.1 hr
    cases hr; exact ⟨rfl, Or.inl (Nat.le_refl _)⟩
  · split at hr
    · obtain ⟨pn, _, hr⟩ := Res.bind_eq_ok.1 hr
      cases hr; exact ⟨rfl, Or.inl (Nat.le_refl _)⟩
    · simp only [getChan_eq, putChan_putChan] at hr
      split at hr
      · obtain ⟨pn, _, hr⟩ := Res.bind_eq_ok.1 hr
        cases hr; exact ⟨rfl, Or.inl (Nat.le_refl _)⟩
      rename_i hlim
      split at hr
      · cases hr
        exact key rfl (chanLim_putChan_checked c _ _ hlim)
      · obtain ⟨c1, h1, hr⟩ := Res.bind_eq_ok.1 hr
        obtain ⟨t, _, hr⟩ := Res.bind_eq_ok.1 hr
        obtain ⟨rc, _, hr⟩ := Res.bind_eq_ok.1 hr
        obtain ⟨c2, h2, hr⟩ := Res.bind_eq_ok.1 hr
        have e1 := modS_frame h1
        have e2 := ((cmdTopic_query_wp rfl).sat _ h2).emits.st
        have e3 := (cmdNames_emits hr).st
        have est : c'.st = c1.st := by rw [e3, e2]; rfl
        refine key (by rw [est, e1.2.1]; rfl) ?_
        unfold CreatesBelowLimit
        rw [est, e1.1]
        exact chanLim_putChan_checked c _ _ hlim

theorem ChanLe.special {st0 : St} {fname : String} {c : Ctx} {sid : Id} {m : IrcMsg} (h1 : fname ≠ "cmdJoin")
    (h2 : fname ≠ "cmdServerJoin") (h3 : fname ≠ "cmdServerSvsjoin") (h : ChanLe st0 c.st) :
    Special (ChanLe st0) fname c sid m :=
  .of_keeps (ChanLe.stable st0) (ChanLe.chanAny st0) (fun tid f _ => ChanLe.upd tid f) (fun _ => fun _ h => h.congr rfl (Nat.le_refl _))
    (fun e => e.elim (absurd · h1) fun e => e.elim (absurd · h2) (absurd · h3))
    fun _ => fun _ _ hcs hm => by
      have n1 := modS_frame hm
      rw [createSession_eq hcs] at n1
      exact h.same n1.2.1 n1.1

theorem handler_chanLe {fname : String} {h : Handler} (hh : handlerByName fname = some h)
    (h1 : fname ≠ "cmdJoin") (h2 : fname ≠ "cmdServerJoin") (h3 : fname ≠ "cmdServerSvsjoin")
    {st0 : St} {c c' : Ctx} {sid : Id} {m : IrcMsg} (hu : ChanLe st0 c.st) (hr : h c sid m = .ok c') :
    ChanLe st0 c'.st :=
  (handler_stable (ChanLe.stable st0) hh (ChanLe.special h1 h2 h3 hu) hu).apply hr

theorem ChanLim.same {st0 st st' : St} (h : ChanLim st0 st)
    (hc : st'.config.maxChannels = st.config.maxChannels) (hch : st'.channels = st.channels) : ChanLim st0 st' :=
  ⟨by rw [hc]; exact h.maxChannels, fun hpos => by rw [hch]; exact h.le hpos⟩

/-- `ChanLim` reads the limit and the number of channels only, and survives the creation of a channel below the
limit: no handler is an exception -/
theorem ChanLim.special {st0 : St} {fname : String} {c : Ctx} {sid : Id} {m : IrcMsg} (h : ChanLim st0 c.st) :
    Special (ChanLim st0) fname c sid m :=
  .of_keeps (ChanLim.stable st0) (ChanLim.chanAny st0)
    (fun tid f _ _ h => (modS_sat _ tid f).mono fun _ ⟨_, _, e⟩ => e ▸ h.same rfl rfl) (fun _ => fun _ h => h.same rfl rfl)
    (fun _ => ChanLim.newChan st0)
    fun _ => fun _ _ hcs hm => by
      have n1 := modS_frame hm
      rw [createSession_eq hcs] at n1
      exact h.same (by rw [n1.2.1]) n1.1

/-- **every handler of the table** (client and services) respects the channel limit: the limit is untouched,
and with a limit the number of channels stays at most the larger of the base number and the limit -/
theorem handler_chanLim {fname : String} {h : Handler} (hh : handlerByName fname = some h)
    {st0 : St} {c c' : Ctx} {sid : Id} {m : IrcMsg} (hu : ChanLim st0 c.st) (hr : h c sid m = .ok c') :
    ChanLim st0 c'.st :=
  (handler_stable (ChanLim.stable st0) hh (ChanLim.special hu) hu).apply hr

end Robust.Irc
