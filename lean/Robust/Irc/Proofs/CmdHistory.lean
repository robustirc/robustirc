import Robust.Irc.Proofs.CmdEntry
import Robust.Irc.Proofs.CleanEntry
/-!
C15, "has a command": histories (`runLines`, the run that collects the output batches, is defined in
`CleanEntry.lean`).
-/
namespace Robust.Irc
open Robust AMap

def ArgsHistory (st : St) : List Entry → Prop
  | [] => True
  | e :: es => SvcEntryOK st e ∧ EntryNamesOK e ∧ ∀ st' out, applyEntry st e = .ok (st', out) → ArgsHistory st' es

/-- **histories**: every line of every output batch produced along a well-formed history has a command -/
theorem runLines_hc {st st' : St} {es : List Entry} {outs : List Out} (h : GInv st) (hk : KInv st)
    (hw : WfHistory st es) (ha : ArgsHistory st es) (hr : runLines st es = .ok (st', outs)) :
    KInv st' ∧ ∀ o ∈ outs, HasCommand o.data := by
  induction es generalizing st outs with
  | nil => unfold runLines at hr; cases hr; exact ⟨hk, fun _ ho => nomatch ho⟩
  | cons e es ih =>
    obtain ⟨he, _, hnext⟩ := hw
    obtain ⟨hs, hn, hanext⟩ := ha
    obtain ⟨st1, out, outs1, hap, hro, rfl⟩ := runLines_cons hr
    obtain ⟨o1, k1⟩ := applyEntry_kinv st st1 e out h hk he hs hap
    obtain ⟨k2, o2⟩ := ih (applyEntry_preserves st st1 e out h he hap) (k1 hn) (hnext st1 out hap)
      (hanext st1 out hap) hro
    exact ⟨k2, fun o ho => (List.mem_append.1 ho).elim (o1 o) (o2 o)⟩

theorem argsHistory_iff {st : St} {es : List Entry} :
    ArgsHistory st es ↔ Along (fun st e => SvcEntryOK st e ∧ EntryNamesOK e) st es :=
  along_iff (fun _ => trivial) and_assoc.symm

theorem ArgsHistory.of_all {es : List Entry} (h : ∀ e ∈ es, EntryLineOK e) (st : St) : ArgsHistory st es :=
  argsHistory_iff.2 <| Along.of_all (fun e he _ =>
    ⟨fun ht m _ hm _ _ => ((h e he).line ht m hm).2, (h e he).create, fun ht m hm => ((h e he).line ht m hm).1⟩) st

end Robust.Irc
