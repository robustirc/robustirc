import Robust.Irc.Proofs.UlenInv
import Robust.Irc.Proofs.RcptPfx
/-!
C15, clause "every delivered line starts with a prefix and a command": prefixes and commands that fit into a
line.

With a valid nickname (a letter or special character followed by at most 30 letters, digits, specials or `-`,
all ASCII), a user name of at most 30 characters — at most 120 bytes — without space, `reply = 0` and a numeric
id below `2^64` (Raft indexes are `uint64`), the derived prefix `nick!user@robust/0x<hex id>` of a session has
at most `31 + 1 + 120 + 1 + (9 + 16) = 178` bytes (179 with the leading `:`) and contains no space
(`sessPrefix_bounds`).  A command without space of at most 330 bytes (`GoodCmd`) then survives the 510-byte cut
behind such a prefix, behind the server prefix (`srv_cmdToken`) and without prefix (`plain_cmdToken`).
-/
namespace Robust.Irc
open Robust AMap

/-- the character class of `validNickRe` (first or later position): ASCII, not a space -/
theorem nickChar_ok {c : Char}
    (h : ((((decide ('A' ≤ c ∧ c ≤ 'Z') || decide ('a' ≤ c ∧ c ≤ 'z')) || decide ('0' ≤ c ∧ c ≤ '9')) ||
      (decide (0x5B ≤ c.toNat ∧ c.toNat ≤ 0x60) || decide (0x7B ≤ c.toNat ∧ c.toNat ≤ 0x7D))) || c == '-') = true) :
    c.toNat < 128 ∧ c ≠ ' ' := by
  simp only [Bool.or_eq_true, decide_eq_true_eq, char_le_iff, beq_iff_eq] at h
  have e1 : 'A'.toNat = 65 := rfl
  have e2 : 'Z'.toNat = 90 := rfl
  have e3 : 'a'.toNat = 97 := rfl
  have e4 : 'z'.toNat = 122 := rfl
  have e5 : '0'.toNat = 48 := rfl
  have e6 : '9'.toNat = 57 := rfl
  rw [e1, e2, e3, e4, e5, e6] at h
  have hd : c = '-' → c.toNat = 45 := fun he => by rw [he]; rfl
  have hlt : c.toNat < 128 ∧ c.toNat ≠ 32 := by
    rcases h with ((h | h) | h) | h
    · omega
    · omega
    · omega
    · have := hd h; omega
  refine ⟨hlt.1, ?_⟩
  intro he
  have : c.toNat = 32 := by rw [he]; rfl
  exact hlt.2 this

theorem validNick_bounds {x : String} (h : isValidNickname x = true) :
    x.toList.length ≤ 31 ∧ Ascii x ∧ Spaceless x := by
  unfold isValidNickname at h
  simp only [] at h
  unfold Ascii Spaceless
  cases hx : x.toList with
  | nil => rw [hx] at h; cases h
  | cons c rest =>
    rw [hx] at h
    simp only [Bool.and_eq_true, decide_eq_true_eq, List.all_eq_true] at h
    obtain ⟨⟨h1, h2⟩, h3⟩ := h
    have hc : c.toNat < 128 ∧ c ≠ ' ' := by
      apply nickChar_ok
      simp only [Bool.or_eq_true, decide_eq_true_eq] at h1 ⊢
      rcases h1 with h1 | h1
      · exact Or.inl (Or.inl (Or.inl h1))
      · exact Or.inl (Or.inr h1)
    have hr : ∀ d ∈ rest, d.toNat < 128 ∧ d ≠ ' ' := fun d hd => nickChar_ok (h3 d hd)
    refine ⟨by simp only [List.length_cons]; omega, ?_, ?_⟩
    · intro d hd
      rcases List.mem_cons.1 hd with rfl | hd
      · exact hc.1
      · exact (hr d hd).1
    · intro d hd
      rcases List.mem_cons.1 hd with rfl | hd
      · exact hc.2
      · exact (hr d hd).2

theorem hexDigitLower_ok : ∀ n, n < 16 → (hexDigitLower n).toNat < 128 ∧ hexDigitLower n ≠ ' ' := by decide

theorem hexNat_go_length : ∀ (fuel n : Nat) (acc : List Char) (k : Nat), n < 16 ^ (k + 1) → k + 1 ≤ fuel →
    (hexNat.go n acc fuel).length ≤ acc.length + (k + 1)
  | 0, _, _, _, _, hk => by omega
  | fuel + 1, n, acc, k, hn, hk => by
    unfold hexNat.go
    split
    · simp only [List.length_cons]; omega
    · rename_i hge
      cases k with
      | zero => simp only [Nat.zero_add, Nat.pow_one] at hn; omega
      | succ j =>
        have hdiv : n / 16 < 16 ^ (j + 1) := by
          apply Nat.div_lt_of_lt_mul
          rw [Nat.pow_succ, Nat.mul_comm] at hn
          exact hn
        have b := hexNat_go_length fuel (n / 16) (hexDigitLower (n % 16) :: acc) j hdiv (by omega)
        simp only [List.length_cons] at b
        omega

/-- `fmt.Sprintf("%x", n)` of a `uint64` has at most 16 digits -/
theorem hexNat_length {n : Nat} (h : n < 2 ^ 64) : (hexNat n).toList.length ≤ 16 := by
  unfold hexNat
  rw [String.toList_ofList]
  simpa using hexNat_go_length 64 n [] 15 (by simpa using h) (by decide)

theorem hexNat_ascii (n : Nat) : Ascii (hexNat n) := hexNat_all (fun n h => (hexDigitLower_ok n h).1) n

theorem hexNat_spaceless (n : Nat) : Spaceless (hexNat n) := hexNat_all (fun n h => (hexDigitLower_ok n h).2) n

/-- `robust/0x<hex id>`: at most `9 + 16` bytes, no space -/
theorem robustHost_bounds {n : Nat} (h : n < 2 ^ 64) :
    ("robust/0x" ++ hexNat n).utf8ByteSize ≤ 25 ∧ Spaceless ("robust/0x" ++ hexNat n) := by
  refine ⟨?_, spaceless_append (by decide) (hexNat_spaceless n)⟩
  rw [utf8ByteSize_append, utf8ByteSize_ascii (hexNat_ascii n)]
  have := hexNat_length h
  have e : ("robust/0x" : String).utf8ByteSize = 9 := by decide
  omega

theorem prefix_str_bounds (p : Prefix) {a b d : Nat} (hn : p.name.utf8ByteSize ≤ a) (hu : p.user.utf8ByteSize ≤ b)
    (hh : p.host.utf8ByteSize ≤ d) (sn : Spaceless p.name) (su : Spaceless p.user) (sh : Spaceless p.host) :
    p.str.utf8ByteSize ≤ a + 1 + b + 1 + d ∧ Spaceless p.str := by
  unfold Prefix.str
  constructor
  · rw [utf8ByteSize_append, utf8ByteSize_append]
    have e0 : ("" : String).utf8ByteSize = 0 := by decide
    have e1 : ("!" : String).utf8ByteSize = 1 := by decide
    have e2 : ("@" : String).utf8ByteSize = 1 := by decide
    have h1 : (if p.user.isEmpty = true then "" else "!" ++ p.user).utf8ByteSize ≤ 1 + b := by
      split
      · rw [e0]; omega
      · rw [utf8ByteSize_append, e1]; omega
    have h2 : (if p.host.isEmpty = true then "" else "@" ++ p.host).utf8ByteSize ≤ 1 + d := by
      split
      · rw [e0]; omega
      · rw [utf8ByteSize_append, e2]; omega
    omega
  · refine spaceless_append (spaceless_append sn ?_) ?_
    · split
      · exact spaceless_empty
      · exact spaceless_append (by decide) su
    · split
      · exact spaceless_empty
      · exact spaceless_append (by decide) sh

/-- the longest prefix of a client session, in bytes: `nick!user@robust/0x<hex id>` -/
def maxPrefixBytes : Nat := 31 + 1 + 120 + 1 + (9 + 16)

theorem nick_bounds {n : String} (h : n ≠ "" → isValidNickname n = true) : n.utf8ByteSize ≤ 31 ∧ Spaceless n := by
  by_cases he : n = ""
  · rw [he]; exact ⟨by decide, spaceless_empty⟩
  · obtain ⟨a, b, c⟩ := validNick_bounds (h he)
    rw [utf8ByteSize_ascii b]; exact ⟨a, c⟩

theorem sessPrefix_bounds {s : Session} (hnl : s.nick.utf8ByteSize ≤ 31) (hns : Spaceless s.nick)
    (hul : s.username.toList.length ≤ 30) (hus : Spaceless s.username) (hid : s.id.id < 2 ^ 64) :
    (sessPrefix s).str.utf8ByteSize ≤ maxPrefixBytes ∧ Spaceless (sessPrefix s).str := by
  have hub : s.username.utf8ByteSize ≤ 120 := by
    have := utf8ByteSize_le s.username
    omega
  obtain ⟨hh, sh⟩ := robustHost_bounds hid
  exact prefix_str_bounds (sessPrefix s) (a := 31) (b := 120) (d := 25) hnl hub hh hns hus sh

/-- a command that survives under any client prefix: not empty, no space, at most `510 - 2 - 178 = 330` bytes -/
structure GoodCmd (cmd : String) : Prop where
  ne : cmd ≠ ""
  spaceless : Spaceless cmd
  short : cmd.utf8ByteSize ≤ 330

instance (cmd : String) : Decidable (GoodCmd cmd) :=
  decidable_of_iff (cmd ≠ "" ∧ Spaceless cmd ∧ cmd.utf8ByteSize ≤ 330)
    ⟨fun ⟨a, b, c⟩ => ⟨a, b, c⟩, fun ⟨a, b, c⟩ => ⟨a, b, c⟩⟩

theorem upperChar_space_of {c : Char} (h : upperChar c = ' ') : c = ' ' := by
  unfold upperChar at h
  split at h
  · split at h
    · rename_i h1 h2
      rw [char_le_iff, char_le_iff] at h2
      have e1 : 'a'.toNat = 97 := rfl
      have e2 : 'z'.toNat = 122 := rfl
      rw [e1, e2] at h2
      have := congrArg Char.toNat h
      rw [toNat_ofNat_valid _ (by omega)] at this
      have h32 : (' ' : Char).toNat = 32 := rfl
      omega
    · exact h
  · rename_i hge
    split at h
    · rename_i v hv
      obtain ⟨k, hm⟩ := lookupTable_mem _ _ _ hv
      have hall : Gen.Unicode.toUpperTable.toList.all (fun p => p.2 != 32) = true := by
        decide +kernel
      have hne := List.all_eq_true.1 hall _ hm
      have hok := List.all_eq_true.mp upperTable_ok (k, v) hm
      simp only [Bool.and_eq_true, Bool.or_eq_true, bne_iff_ne, ne_eq, decide_eq_true_eq] at hne hok
      have h2 := congrArg Char.toNat h
      rw [toNat_ofNat_valid _ hok.2] at h2
      have h32 : (' ' : Char).toNat = 32 := rfl
      omega
    · exact h

/-- a command whose upper-case form is a short word without space (as the command table demands) is good -/
theorem goodCmd_of_toUpper {x K : String} (h : toUpper x = K) (hne : K ≠ "") (hsp : Spaceless K)
    (hlen : K.toList.length ≤ 82) : GoodCmd x := by
  have hl : K.toList = x.toList.map upperChar := by rw [← h]; unfold toUpper; rw [String.toList_ofList]
  refine ⟨?_, ?_, ?_⟩
  · intro he; subst he
    apply hne; rw [← h]; decide
  · intro c hc he
    subst he
    have : upperChar ' ' ∈ K.toList := by rw [hl]; exact List.mem_map_of_mem hc
    exact hsp _ this (by decide)
  · have := utf8ByteSize_le x
    have e : K.toList.length = x.toList.length := by rw [hl, List.length_map]
    omega

structure SrvNameOK (st : St) : Prop where
  spaceless : Spaceless st.serverName
  short : st.serverName.utf8ByteSize ≤ 63

theorem srv_cmdToken {c : Ctx} (hs : SrvNameOK c.st) {cmd : String} (hg : GoodCmd cmd) (params : List String) :
    cmdToken (srv c cmd params).render = utf8 cmd := by
  refine render_cmdToken _ hg.ne hg.spaceless ?_ (fun hn => by cases hn)
  intro p hp
  cases hp
  have e0 : ("" : String).utf8ByteSize ≤ 0 := by decide
  have hb := prefix_str_bounds (serverPrefix c.st) (a := 63) (b := 0) (d := 0) hs.short e0 e0
    hs.spaceless spaceless_empty spaceless_empty
  have := hg.short
  have := hb.1
  exact ⟨hb.2, by show _ + cmd.utf8ByteSize + 2 ≤ 510; omega⟩

theorem plain_cmdToken {cmd : String} (hg : GoodCmd cmd) (hcol : cmd.toList.head? ≠ some ':') (params : List String) :
    cmdToken (IrcMsg.mk none cmd params).render = utf8 cmd := by
  refine render_cmdToken _ hg.ne hg.spaceless (fun p hp => by cases hp) (fun _ => ⟨hcol, ?_⟩)
  have := hg.short
  simp only; omega

theorem hasCommand_of_token {b : Bytes} {cmd : String} (h : cmdToken b = utf8 cmd) (hne : cmd ≠ "") :
    HasCommand b := by
  unfold HasCommand; rw [h]; exact utf8_ne_nil hne

end Robust.Irc
