import Robust.Irc.Proofs.KeepsTable
import Robust.Irc.Proofs.Along
import Robust.Irc.Proofs.KeepsEntry
/-!
C15, from the handlers to histories: every handler of the command table keeps `CCtx` on clean messages
(`handler_cpres`: the table `handler_keeps` of `KeepsTable.lean` at `HLogic.clean`, with `clean_special`), hence so does
`processMessage`, one committed entry (`applyEntry_clean`) and every history of clean entries (`run_clean`,
`runLines_clean`).

`CCtx` survives every step that the walks take as a hypothesis, because such a step stores no text (the operator
flag) or text that comes from a clean message: a user name, a nick (which also re-keys the member lists, where no text is), a
pseudo-client, the name a services link announces, a ban.

Unlike the structural invariants of `Entry.lean`, `CInv` needs no well-formedness side condition:
the only hypothesis on an entry is that the text it carries is clean (`CleanEntry`).
-/
namespace Robust.Irc
open Robust AMap

variable {c : Ctx} {sid : Id} {m : IrcMsg}

theorem CInv.createSession {st st' : St} {id : Id} {auth : String} {ts : Int} (h : CInv st)
    (hr : createSession st id auth ts = some st') : CInv st' := by
  rw [createSession_eq hr]
  have e := clean_empty
  exact { h with sessions := all_set h.sessions ⟨e, e, e, e, clean_lit, e, e, e, e⟩ }

theorem CCtx.oper (hc : CCtx c) : (Robust.Irc.modS c sid operSession).Sat CCtx := hc.modS fun _ hs => { hs with }

/-- the user name is the first word of a parameter, cut to 30 characters -/
theorem CleanSess.setUser {s : Session} (h : CleanSess s) {u r : String} (hu : Clean u) (hr : Clean r) :
    CleanSess (Robust.Irc.updateIrcPrefix { s with username := truncateUsername u, realname := r }) :=
  CleanSess.updateIrcPrefix { h with username := clean_takeChars (clean_firstWord hu) _, realname := hr }

theorem clean_special {fname : String} {c : Ctx} {sid : Id} {m : IrcMsg} (hc : CCtx c) (hm : CleanMsg m) :
    HLogic.clean.Special fname c sid m where
  «alias» _ := nofun
  privmsg _ := nofun
  pfx _ := nofun
  svcCmd _ := nofun
  gline _ := fun h hr => h.setSt { h.inv with banned := all_set h.inv.banned (hr True.intro) }
  members _ := CCtx.setsMembers
  addsChan _ := CCtx.addsChan
  nick _ _ _ _ := CCtx.nickUpd ..
  svsnick _ tid n := CCtx.nickUpd tid n c
  login _ _ _ h := h.oper
  oper _ _ _ h := h.oper
  pass _ _ h := h.oper
  user _ u hu _ h := h.modS fun _ hs => hs.setUser (hm.params u (List.mem_of_getElem? hu)) hm.trailing
  server _ := fun _ _ _ hp0 => hc.modS fun _ hs =>
    { hs with pname := hp0 True.intro, puser := clean_empty, phost := clean_empty }
  -- the pseudo-client of the services' NICK: the nick and the user name are parameters, the real name is the trailing one
  serverNick _ := fun {_ _ p3 _ _} _ _ hp0 hp3 _ hcs h2 => by
    have ht := hm.trailing
    generalize m.trailing = real at ht h2
    exact Res.Sat.of_ok h2 <| (hc.setSt (hc.inv.createSession hcs)).modS fun s hs =>
      CleanSess.setUser (s := { s with nick := _ }) { hs with nick := hp0 True.intro } (hp3 True.intro) ht

theorem handler_cpres {fname : String} {h : Handler} (hh : handlerByName fname = some h) {c : Ctx} {sid : Id}
    {m : IrcMsg} (hc : CCtx c) (hm : CleanMsg m) : (h c sid m).Sat CCtx :=
  handler_keeps .clean hh (clean_special hc hm) hc (.of_clean hm)

/-- `ProcessMessage` keeps `CCtx` when the parsed line (if any) is clean.  In the address stage `remoteAddr` is not a
field that reaches a line, and the GLINE reason is a stored string. -/
theorem processMessage_clean {c c' : Ctx} {e : Entry} {im : Option IrcMsg} (hc : CCtx c)
    (him : ∀ m, im = some m → CleanMsg m) (hr : processMessage c e im = .ok c') : CCtx c' :=
  processMessage_keeps .clean hc (fun m hm => .of_clean (him m hm)) (fun _ h => h)
    (fun hm k h1 => (handler_cpres k.handler h1 (him _ hm)).apply k.ret) hr

theorem CInv.updateLastClientMessageID {st st' : St} {e : Entry} (h : CInv st)
    (hr : updateLastClientMessageID st e = some st') : CInv st' := by
  obtain ⟨s, _, _, hg, rfl⟩ := updateLastClientMessageID_eq hr
  exact { h with sessions := all_set h.sessions { h.get hg with } }

theorem CInv.maybeDeleteSession {st : St} (h : CInv st) (sid : Id) : CInv (maybeDeleteSession st sid) := by
  obtain ⟨p, e⟩ := maybeDeleteSession_eq st sid
  rw [e]
  exact { h with sessions := all_filter h.sessions p }

/-- the text carried by an entry is clean: the line of an IRCFromClient entry (type 2), the quit
message of a DeleteSession entry (type 1) — both are produced by `firstLine` in the HTTP handlers —
and the GLINE reasons of a Config entry (type 6).  Nothing is required of CreateSession entries
(the auth string never reaches a line) nor of `remoteAddr`. -/
structure CleanEntry (e : Entry) : Prop where
  data : e.type = 1 ∨ e.type = 2 → Clean e.data
  cfg : e.type = 6 → ∀ cfg, e.cfg = some cfg → ∀ b ∈ cfg.banned, Clean b.2

theorem applyEntry_clean (st st' : St) (e : Entry) (out : List Out) (h : CInv st) (he : CleanEntry e)
    (hr : applyEntry st e = .ok (st', out)) : CInv st' ∧ COuts out := by
  have hnil : COuts [] := fun _ ho => nomatch ho
  -- what a DeleteSession / IRCFromClient entry does after `processMessage`
  have fin {c : Ctx} (pc : CCtx c) (n : Id) :
      CInv (maybeDeleteSession { c.st with lastProcessed := n } e.session) ∧ COuts c.out :=
    have hI : CInv { c.st with lastProcessed := n } := { pc.inv with }
    ⟨hI.maybeDeleteSession _, pc.out⟩
  cases applyEntry_run hr with
  | skip => exact ⟨h, hnil⟩
  | death _ hu => exact ⟨h.updateLastClientMessageID hu, hnil⟩
  | create _ hcs => exact ⟨h.createSession hcs, hnil⟩
  | delete ht1 _ hpm =>
    have hd : Clean ("QUIT :" ++ e.data) := Clean.append clean_lit (he.data (Or.inl ht1))
    exact fin (processMessage_clean (CCtx.start h e.id) (fun m hm => parseMessage_clean _ m hd hm) hpm) _
  | client ht2 hu hpm =>
    exact fin (processMessage_clean (CCtx.start (h.updateLastClientMessageID hu) e.id)
      (fun m hm => parseMessage_clean _ m (he.data (Or.inr ht2)) hm) hpm) _
  | @config cfg ht6 hc => exact ⟨{ h with banned := he.cfg ht6 cfg hc }, hnil⟩

def CleanHistory (es : List Entry) : Prop := ∀ e ∈ es, CleanEntry e

theorem run_clean {st st' : St} {es : List Entry} (h : CInv st) (hw : CleanHistory es)
    (hr : runEntries st es = .ok st') : CInv st' :=
  run_along (A := fun _ e => CleanEntry e) (fun h he hap => (applyEntry_clean _ _ _ _ h he hap).1) h
    (Along.of_all (fun e he _ => hw e he) st) hr

def runLines (st : St) : List Entry → Res (St × List Out)
  | [] => .ok (st, [])
  | e :: es =>
    match applyEntry st e with
    | .ok (st', out) =>
      match runLines st' es with
      | .ok (st'', outs) => .ok (st'', out ++ outs)
      | .panic site => .panic site
      | .declined why => .declined why
    | .panic site => .panic site
    | .declined why => .declined why

theorem runLines_cons {st st' : St} {e : Entry} {es : List Entry} {outs : List Out}
    (hr : runLines st (e :: es) = .ok (st', outs)) : ∃ st1 out outs1, applyEntry st e = .ok (st1, out) ∧
      runLines st1 es = .ok (st', outs1) ∧ outs = out ++ outs1 := by
  unfold runLines at hr
  cases hap : applyEntry st e with
  | panic site => rw [hap] at hr; cases hr
  | declined why => rw [hap] at hr; cases hr
  | ok r =>
    rw [hap] at hr
    dsimp only at hr
    cases hro : runLines r.1 es with
    | panic site => rw [hro] at hr; cases hr
    | declined why => rw [hro] at hr; cases hr
    | ok r1 =>
      rw [hro] at hr
      cases hr
      exact ⟨r.1, r.2, r1.2, rfl, hro, rfl⟩

theorem runLines_state {st st' : St} {es : List Entry} {outs : List Out} (hr : runLines st es = .ok (st', outs)) :
    runEntries st es = .ok st' := by
  induction es generalizing st outs with
  | nil => unfold runLines at hr; cases hr; rfl
  | cons e es ih =>
    obtain ⟨st1, out, outs1, hap, hro, _⟩ := runLines_cons hr
    rw [runEntries_cons es hap]
    exact ih hro

theorem runLines_clean {st st' : St} {es : List Entry} {outs : List Out} (h : CInv st) (hw : CleanHistory es)
    (hr : runLines st es = .ok (st', outs)) : CInv st' ∧ COuts outs := by
  induction es generalizing st outs with
  | nil => unfold runLines at hr; cases hr; exact ⟨h, fun _ ho => nomatch ho⟩
  | cons e es ih =>
    obtain ⟨st1, out, outs1, hap, hro, rfl⟩ := runLines_cons hr
    obtain ⟨h1, o1⟩ := applyEntry_clean st st1 e out h (hw e List.mem_cons_self) hap
    obtain ⟨h2, o2⟩ := ih h1 (fun x hx => hw x (List.mem_cons_of_mem _ hx)) hro
    exact ⟨h2, fun o ho => (List.mem_append.1 ho).elim (o1 o) (o2 o)⟩

end Robust.Irc
