import Robust.Irc.Apply
import Robust.Irc.Proofs.FrameBasic
/-!
`ProcessMessage` and `applyEntry` taken apart.

`processMessage` is cut into three stages (`addrStage`: remote address and GLINE bans, `gateStage`: registration
gate, `dispatchStage`: table lookup and handler call).  `AddrRun`, `GateRun`, `ProcRun` and `EntryRun` list the
ways the address stage, gate and dispatch, `processMessage` and `applyEntry` can go, each path with the exact
context it ends in: a statement about one of them is one `cases` with a line per path, and only the path
`GateRun.call` mentions a handler.  `dispatchStage_sat` reduces a statement about the dispatch alone to one about
the handlers the table can select.
-/
namespace Robust.Irc
open Robust AMap

/-- the update of the address stage.  It has a name so that a fact about it is stated of `withAddr a` and fixes
the function of `modS` by its type; `fun _ hs => { hs with }` or `fun _ => rfl` in that place is elaborated before
the function is known and settles for the identity. -/
def withAddr (a : String) (s : Session) : Session := { s with remoteAddr := a }

def addrStage (c : Ctx) (e : Entry) (s : Session) : Res (Ctx × Bool) :=
  if e.remoteAddr != "" && e.remoteAddr != s.remoteAddr then do
    let c ← modS c s.id fun s => { s with remoteAddr := e.remoteAddr }
    match AMap.get c.st.config.banned e.remoteAddr with
    | some reason =>
      if reason != "" then
        let c := sendUser c s.id ⟨none, "ERROR", ["Closing Link: You are banned (" ++ reason ++ ")"]⟩
        let c ← deleteSession c s.id
        pure (c, true)
      else pure (c, false)
    | none => pure (c, false)
  else pure (c, false)

def dispatchStage (c : Ctx) (s : Session) (m : IrcMsg) (command : String) : Res Ctx :=
  match lookupCommand ((if s.server then "server_" else "") ++ command) with
  | none => pure (sendUser c s.id (srv c "421" [s.nick, command, "Unknown command"]))
  | some (fname, minParams) =>
    if m.params.length < minParams then
      pure (sendUser c s.id (srv c "461" [s.nick, command, "Not enough parameters"]))
    else match handlerByName fname with
      | none => .declined ("handler not modelled: " ++ fname)
      | some h => h c s.id m

def gateStage (c : Ctx) (e : Entry) (m : IrcMsg) (command : String) : Res Ctx := do
  let s ← getS c e.session
  if !s.loggedIn && !s.server && command != "NICK" && command != "USER" && command != "PASS" && command != "QUIT" && command != "SERVER" then
    let c := sendUser c s.id (srv c "451" [command, "You have not registered"])
    if Robust.I64.tsub s.lastActivity s.created > 600000000000 then
      let c := sendUser c s.id ⟨none, "ERROR", ["Closing Link: You have not registered within 10 minutes"]⟩
      deleteSession c s.id
    else pure c
  else dispatchStage c s m command

theorem processMessage_eq (c : Ctx) (e : Entry) (im : Option IrcMsg) :
    processMessage c e im = (do
      let s ← getS c e.session
      match im with
      | none => pure (sendUser c s.id (srv c "421" [s.nick, "Unknown command"]))
      | some m => do
        let r ← addrStage c e s
        if r.2 then pure r.1 else gateStage r.1 e m (toUpper m.command)) := by
  unfold processMessage addrStage gateStage dispatchStage
  refine bind_congr fun s => ?_
  cases im with
  | none => rfl
  | some m =>
    dsimp only
    refine bind_congr fun r => ?_
    obtain ⟨c1, b⟩ := r
    cases b <;> rfl

theorem dispatchStage_sat {Q : Ctx → Prop} {c : Ctx} {s : Session} {m : IrcMsg} {command : String}
    (hreply : ∀ x, Q (sendUser c s.id x))
    (hcall : ∀ {fname : String} {mp : Nat} {h : Handler},
      lookupCommand ((if s.server then "server_" else "") ++ command) = some (fname, mp) → mp ≤ m.params.length →
      handlerByName fname = some h → (h c s.id m).Sat Q) :
    (dispatchStage c s m command).Sat Q := by
  unfold dispatchStage
  cases hl : lookupCommand ((if s.server then "server_" else "") ++ command) with
  | none => exact .pure (hreply _)
  | some r =>
    refine .ite (fun _ => .pure (hreply _)) fun hlen => ?_
    cases hh : handlerByName r.1 with
    | none => exact .declined _
    | some h => exact hcall hl (Nat.le_of_not_lt hlen) hh

inductive AddrRun (c : Ctx) (e : Entry) (s : Session) : Ctx → Bool → Prop
  | same (h : ¬(e.remoteAddr != "" && e.remoteAddr != s.remoteAddr) = true) : AddrRun c e s c false
  | stored {c0 : Ctx} (h : (e.remoteAddr != "" && e.remoteAddr != s.remoteAddr) = true)
      (hm : modS c s.id (withAddr e.remoteAddr) = .ok c0)
      (hb : ∀ reason, AMap.get c0.st.config.banned e.remoteAddr = some reason → reason = "") :
      AddrRun c e s c0 false
  | banned {c0 c1 : Ctx} {reason : String} (h : (e.remoteAddr != "" && e.remoteAddr != s.remoteAddr) = true)
      (hm : modS c s.id (withAddr e.remoteAddr) = .ok c0)
      (hb : AMap.get c0.st.config.banned e.remoteAddr = some reason) (hre : reason ≠ "")
      (hd : deleteSession (sendUser c0 s.id ⟨none, "ERROR", ["Closing Link: You are banned (" ++ reason ++ ")"]⟩) s.id =
        .ok c1) : AddrRun c e s c1 true

theorem addrStage_run {c c1 : Ctx} {e : Entry} {s : Session} {b : Bool} (hr : addrStage c e s = .ok (c1, b)) :
    AddrRun c e s c1 b := by
  refine Res.Sat.apply (P := fun r => AddrRun c e s r.1 r.2) ?_ hr
  unfold addrStage
  refine .ite (fun h => .bind fun c0 hm => ?_) fun h => .pure (.same h)
  cases hb : AMap.get c0.st.config.banned e.remoteAddr with
  | none => exact .pure (.stored h hm fun _ hr => by rw [hb] at hr; cases hr)
  | some reason =>
    refine .ite (fun hre => .bind fun c1 hd => .pure (.banned h hm hb (bne_iff_ne.1 hre) hd)) fun hre =>
      .pure (.stored h hm ?_)
    intro _ hr
    rw [hb] at hr; cases hr
    exact Decidable.not_not.1 fun hne => hre (bne_iff_ne.2 hne)

theorem AddrRun.actor {c c1 : Ctx} {e : Entry} {s : Session} (ha : AddrRun c e s c1 false)
    (hs : AMap.get c.st.sessions e.session = some s) (hid : s.id = e.session) :
    ∃ a, AMap.get c1.st.sessions e.session = some { s with remoteAddr := a } ∧
      c1.st.nicks = c.st.nicks ∧ c1.st.channels = c.st.channels ∧ c1.st.config = c.st.config := by
  cases ha with
  | same => exact ⟨s.remoteAddr, hs, rfl, rfl, rfl⟩
  | stored _ hm =>
    rw [hid] at hm
    have hs1 := modS_get_self hs hid hm
    obtain ⟨t, _, rfl⟩ := modS_eq_ok.1 hm
    exact ⟨_, hs1, rfl, rfl, rfl⟩

/-- the registration gate lets the command through: the session is a services link or is registered, or the
command is one of those that register -/
def GateOK (s : Session) (command : String) : Prop :=
  s.server = true ∨ s.loggedIn = true ∨ command = "NICK" ∨ command = "USER" ∨ command = "PASS" ∨
    command = "QUIT" ∨ command = "SERVER"

/-- the test `gateStage` makes is the negation of `GateOK` -/
theorem gateOK_iff_not_test {s : Session} {command : String} :
    GateOK s command ↔ ¬ (!s.loggedIn && !s.server && command != "NICK" && command != "USER" && command != "PASS" &&
      command != "QUIT" && command != "SERVER") = true := by
  unfold GateOK
  refine ⟨fun h => ?_, fun hg => Decidable.by_contra fun hn => hg ?_⟩
  · rcases h with h | h | h | h | h | h | h <;> simp [h]
  · simp only [not_or] at hn
    simp [hn]

inductive GateRun (c : Ctx) (e : Entry) (m : IrcMsg) : Ctx → Prop
  | refused {s : Session} (hs : AMap.get c.st.sessions e.session = some s) (hg : ¬GateOK s (toUpper m.command))
      (hl : ¬Robust.I64.tsub s.lastActivity s.created > 600000000000) :
      GateRun c e m (sendUser c s.id (srv c "451" [toUpper m.command, "You have not registered"]))
  | expired {s : Session} {c' : Ctx} (hs : AMap.get c.st.sessions e.session = some s)
      (hg : ¬GateOK s (toUpper m.command))
      (hd : deleteSession (sendUser (sendUser c s.id (srv c "451" [toUpper m.command, "You have not registered"])) s.id
        ⟨none, "ERROR", ["Closing Link: You have not registered within 10 minutes"]⟩) s.id = .ok c') :
      GateRun c e m c'
  | unknown {s : Session} (hs : AMap.get c.st.sessions e.session = some s) (hg : GateOK s (toUpper m.command))
      (hl : lookupCommand ((if s.server then "server_" else "") ++ toUpper m.command) = none) :
      GateRun c e m (sendUser c s.id (srv c "421" [s.nick, toUpper m.command, "Unknown command"]))
  | fewParams {s : Session} {fname : String} {mp : Nat} (hs : AMap.get c.st.sessions e.session = some s)
      (hg : GateOK s (toUpper m.command))
      (hl : lookupCommand ((if s.server then "server_" else "") ++ toUpper m.command) = some (fname, mp))
      (hlen : m.params.length < mp) :
      GateRun c e m (sendUser c s.id (srv c "461" [s.nick, toUpper m.command, "Not enough parameters"]))
  | call {s : Session} {fname : String} {mp : Nat} {h : Handler} {c' : Ctx}
      (hs : AMap.get c.st.sessions e.session = some s) (hg : GateOK s (toUpper m.command))
      (hl : lookupCommand ((if s.server then "server_" else "") ++ toUpper m.command) = some (fname, mp))
      (hlen : mp ≤ m.params.length) (hh : handlerByName fname = some h) (hr : h c s.id m = .ok c') :
      GateRun c e m c'

theorem gateStage_run {c c' : Ctx} {e : Entry} {m : IrcMsg} (hr : gateStage c e m (toUpper m.command) = .ok c') :
    GateRun c e m c' := by
  refine Res.Sat.apply (P := GateRun c e m) ?_ hr
  unfold gateStage
  refine .andThen (getS_sat c e.session) fun s hs => .ite (fun hg => ?_) fun hg => ?_
  · have hg := fun h => gateOK_iff_not_test.1 h hg
    exact .ite (fun _ _ hd => .expired hs hg hd) fun hl => .pure (.refused hs hg hl)
  · have hg := gateOK_iff_not_test.2 hg
    unfold dispatchStage
    cases hl : lookupCommand ((if s.server then "server_" else "") ++ toUpper m.command) with
    | none => exact .pure (.unknown hs hg hl)
    | some r =>
      refine .ite (fun hlen => .pure (.fewParams hs hg hl hlen)) fun hlen => ?_
      cases hh : handlerByName r.1 with
      | none => exact .declined _
      | some h => exact fun _ hr => .call hs hg hl (Nat.le_of_not_lt hlen) hh hr

inductive ProcRun (c : Ctx) (e : Entry) : Option IrcMsg → Ctx → Prop
  | unparsed {s : Session} (hs : AMap.get c.st.sessions e.session = some s) :
      ProcRun c e none (sendUser c s.id (srv c "421" [s.nick, "Unknown command"]))
  | banned {s : Session} {m : IrcMsg} {c1 : Ctx} (hs : AMap.get c.st.sessions e.session = some s)
      (ha : AddrRun c e s c1 true) : ProcRun c e (some m) c1
  | gate {s : Session} {m : IrcMsg} {c1 c' : Ctx} (hs : AMap.get c.st.sessions e.session = some s)
      (ha : AddrRun c e s c1 false) (hg : GateRun c1 e m c') : ProcRun c e (some m) c'

theorem processMessage_run {c c' : Ctx} {e : Entry} {im : Option IrcMsg} (hr : processMessage c e im = .ok c') :
    ProcRun c e im c' := by
  refine Res.Sat.apply (P := ProcRun c e im) ?_ hr
  rw [processMessage_eq]
  refine .andThen (getS_sat c e.session) fun s hs => ?_
  cases im with
  | none => exact .pure (.unparsed hs)
  | some m =>
    refine .bind fun r h1 => ?_
    obtain ⟨c1, b⟩ := r
    have ha := addrStage_run h1
    cases b with
    | true => exact .pure (.banned hs ha)
    | false => exact fun _ hg => .gate hs ha (gateStage_run hg)

/-- `ProcessMessage c e (some m)` calls a handler: the address stage left `c1` without closing the session of the actor
`s`, who is stored there as `s1` and passes the gate; the key selects the row `(fname, mp)` of the command
table, the line has enough parameters, and the handler `h` of that row returns `c'` -/
structure Called (c : Ctx) (e : Entry) (m : IrcMsg) (s : Session) (c1 : Ctx) (s1 : Session) (fname : String) (mp : Nat)
    (h : Handler) (c' : Ctx) : Prop where
  stored : AMap.get c.st.sessions e.session = some s
  addr : AddrRun c e s c1 false
  actor : AMap.get c1.st.sessions e.session = some s1
  gate : GateOK s1 (toUpper m.command)
  row : lookupCommand ((if s1.server then "server_" else "") ++ toUpper m.command) = some (fname, mp)
  params : mp ≤ m.params.length
  handler : handlerByName fname = some h
  ret : h c1 s1.id m = .ok c'

/-- the actor the handler is called for is the actor as stored before, but for the remote address; index, channels
and configuration are as before -/
theorem Called.actor_eq {c c1 c' : Ctx} {e : Entry} {m : IrcMsg} {s s1 : Session} {fname : String} {mp : Nat}
    {h : Handler} (k : Called c e m s c1 s1 fname mp h c') (hid : s.id = e.session) :
    ∃ a, s1 = { s with remoteAddr := a } ∧ c1.st.nicks = c.st.nicks ∧ c1.st.channels = c.st.channels ∧
      c1.st.config = c.st.config := by
  obtain ⟨a, ha, r⟩ := k.addr.actor k.stored hid
  exact ⟨a, Option.some.inj (k.actor.symm.trans ha), r⟩

theorem updateLast_none {st : St} {e : Entry} (hu : updateLastClientMessageID st e = none) :
    AMap.get st.sessions e.session = none := by
  unfold updateLastClientMessageID at hu
  cases hg : AMap.get st.sessions e.session with
  | none => rfl
  | some s => simp [hg] at hu

theorem applyEntry_death {st st' : St} {e : Entry} {out : List Out} (ht : e.type = 5)
    (hr : applyEntry st e = .ok (st', out)) : st' = (updateLastClientMessageID st e).getD st ∧ out = [] := by
  unfold applyEntry at hr
  rw [if_pos ht] at hr
  cases hr; exact ⟨rfl, rfl⟩

theorem applyEntry_create {st st' : St} {e : Entry} {out : List Out} (ht : e.type = 0)
    (hr : applyEntry st e = .ok (st', out)) :
    st' = (createSession st ⟨e.id, 0⟩ e.data e.timestamp).getD st ∧ out = [] := by
  unfold applyEntry at hr
  rw [if_neg (by rw [ht]; decide), if_pos ht] at hr
  cases hr; exact ⟨rfl, rfl⟩

theorem applyEntry_delete {st st' : St} {e : Entry} {out : List Out} (ht : e.type = 1)
    (hr : applyEntry st e = .ok (st', out)) :
    (AMap.get st.sessions e.session = none ∧ st' = st ∧ out = []) ∨
    ∃ s c, AMap.get st.sessions e.session = some s ∧
      processMessage { st := st, msgid := e.id } e (parseMessage ("QUIT :" ++ e.data)) = .ok c ∧
      st' = maybeDeleteSession { c.st with lastProcessed := ⟨e.id, 0⟩ } e.session ∧ out = c.out := by
  unfold applyEntry at hr
  rw [if_neg (by rw [ht]; decide), if_neg (by rw [ht]; decide), if_pos ht] at hr
  split at hr
  · rename_i hn
    cases hr; exact Or.inl ⟨hn, rfl, rfl⟩
  · rename_i s hs
    obtain ⟨c, hpm, hr⟩ := Res.bind_eq_ok.1 hr
    cases hr
    exact Or.inr ⟨s, c, hs, hpm, rfl, rfl⟩

theorem applyEntry_client {st st' : St} {e : Entry} {out : List Out} (ht : e.type = 2)
    (hr : applyEntry st e = .ok (st', out)) :
    (AMap.get st.sessions e.session = none ∧ st' = st ∧ out = []) ∨
    ∃ st1 c, updateLastClientMessageID st e = some st1 ∧
      processMessage { st := st1, msgid := e.id } e (parseMessage e.data) = .ok c ∧
      st' = maybeDeleteSession { c.st with lastProcessed := ⟨e.session.id, 0⟩ } e.session ∧ out = c.out := by
  unfold applyEntry at hr
  rw [if_neg (by rw [ht]; decide), if_neg (by rw [ht]; decide), if_neg (by rw [ht]; decide), if_pos ht] at hr
  split at hr
  · rename_i hn
    cases hr; exact Or.inl ⟨updateLast_none hn, rfl, rfl⟩
  · rename_i st1 hu
    obtain ⟨c, hpm, hr⟩ := Res.bind_eq_ok.1 hr
    cases hr
    exact Or.inr ⟨st1, c, hu, hpm, rfl, rfl⟩

theorem applyEntry_config {st st' : St} {e : Entry} {out : List Out} (ht : e.type = 6)
    (hr : applyEntry st e = .ok (st', out)) :
    st' = (match e.cfg with
      | none => st
      | some cfg => { st with config := { cfg with revision := e.rev } }) ∧ out = [] := by
  unfold applyEntry at hr
  rw [if_neg (by rw [ht]; decide), if_neg (by rw [ht]; decide), if_neg (by rw [ht]; decide), if_neg (by rw [ht]; decide), if_pos ht] at hr
  cases hc : e.cfg with
  | none => rw [hc] at hr; cases hr; exact ⟨rfl, rfl⟩
  | some cfg => rw [hc] at hr; cases hr; exact ⟨rfl, rfl⟩

theorem applyEntry_other {st st' : St} {e : Entry} {out : List Out}
    (ht : e.type ≠ 0 ∧ e.type ≠ 1 ∧ e.type ≠ 2 ∧ e.type ≠ 5 ∧ e.type ≠ 6)
    (hr : applyEntry st e = .ok (st', out)) : st' = st ∧ out = [] := by
  unfold applyEntry at hr
  rw [if_neg ht.2.2.2.1, if_neg ht.1, if_neg ht.2.1, if_neg ht.2.2.1, if_neg ht.2.2.2.2] at hr
  cases hr; exact ⟨rfl, rfl⟩

/-- the ways one committed entry can go: nothing happens (a type that is not modelled, a session that is not
stored, a refused CreateSession, a Config entry whose configuration does not parse); a message of death;
a CreateSession; a DeleteSession, which runs `QUIT` for the session; a client line; a Config entry -/
inductive EntryRun (st : St) (e : Entry) : St → List Out → Prop
  | skip (hs : e.type = 1 ∨ e.type = 2 ∨ e.type = 5 → AMap.get st.sessions e.session = none) : EntryRun st e st []
  | death {st1 : St} (ht : e.type = 5) (hu : updateLastClientMessageID st e = some st1) : EntryRun st e st1 []
  | create {st1 : St} (ht : e.type = 0) (hcs : createSession st ⟨e.id, 0⟩ e.data e.timestamp = some st1) :
      EntryRun st e st1 []
  | delete {s : Session} {c : Ctx} (ht : e.type = 1) (hs : AMap.get st.sessions e.session = some s)
      (hpm : processMessage { st := st, msgid := e.id } e (parseMessage ("QUIT :" ++ e.data)) = .ok c) :
      EntryRun st e (maybeDeleteSession { c.st with lastProcessed := ⟨e.id, 0⟩ } e.session) c.out
  | client {st1 : St} {c : Ctx} (ht : e.type = 2) (hu : updateLastClientMessageID st e = some st1)
      (hpm : processMessage { st := st1, msgid := e.id } e (parseMessage e.data) = .ok c) :
      EntryRun st e (maybeDeleteSession { c.st with lastProcessed := ⟨e.session.id, 0⟩ } e.session) c.out
  | config {cfg : Config} (ht : e.type = 6) (hc : e.cfg = some cfg) :
      EntryRun st e { st with config := { cfg with revision := e.rev } } []

theorem applyEntry_run {st st' : St} {e : Entry} {out : List Out} (hr : applyEntry st e = .ok (st', out)) :
    EntryRun st e st' out := by
  by_cases h5 : e.type = 5
  · obtain ⟨rfl, rfl⟩ := applyEntry_death h5 hr
    cases hu : updateLastClientMessageID st e with
    | none => exact .skip fun _ => updateLast_none hu
    | some st1 => exact .death h5 hu
  by_cases h0 : e.type = 0
  · obtain ⟨rfl, rfl⟩ := applyEntry_create h0 hr
    cases hcs : createSession st ⟨e.id, 0⟩ e.data e.timestamp with
    | none => exact .skip fun h => by rw [h0] at h; exact absurd h (by decide)
    | some st1 => exact .create h0 hcs
  by_cases h1 : e.type = 1
  · rcases applyEntry_delete h1 hr with ⟨hn, rfl, rfl⟩ | ⟨s, c, hs, hpm, rfl, rfl⟩
    · exact .skip fun _ => hn
    · exact .delete h1 hs hpm
  by_cases h2 : e.type = 2
  · rcases applyEntry_client h2 hr with ⟨hn, rfl, rfl⟩ | ⟨st1, c, hu, hpm, rfl, rfl⟩
    · exact .skip fun _ => hn
    · exact .client h2 hu hpm
  have hs : e.type = 1 ∨ e.type = 2 ∨ e.type = 5 → AMap.get st.sessions e.session = none :=
    fun h => absurd h (not_or.2 ⟨h1, not_or.2 ⟨h2, h5⟩⟩)
  by_cases h6 : e.type = 6
  · obtain ⟨rfl, rfl⟩ := applyEntry_config h6 hr
    cases hc : e.cfg with
    | none => exact .skip hs
    | some cfg => exact .config h6 hc
  · obtain ⟨rfl, rfl⟩ := applyEntry_other ⟨h0, h1, h2, h5, h6⟩ hr
    exact .skip hs

end Robust.Irc
