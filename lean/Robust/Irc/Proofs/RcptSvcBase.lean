import Robust.Irc.Proofs.RcptSrv
import Robust.Irc.Proofs.RcptLeave
import Robust.Irc.Proofs.RcptJoin
import Robust.Irc.Proofs.RcptQuit
import Robust.Irc.Proofs.RcptNick
/-!
C12 for the services handlers (`SCmds.lean`): `NewOut.sendSvc`, and that `leaveChannel` keeps `Inv`.

Convention of the `Srv…Line` types (one per handler, files `RcptSvcA/B/C.lean`): `st` is the state in which
the handler starts, `m` the parsed line; the constructor `reply` is a numeric reply that goes to the services
links only (`o.rcpt = st.serverSessions`); every other constructor fixes the exact recipient set with `RcptIs`
/ `ToOnly`, relative to `st`.
-/
namespace Robust.Irc
open Robust AMap

theorem NewOut.sendSvc {P : Out → Prop} {a c : Ctx} (h : NewOut P a c) {m : IrcMsg}
    (hp : ∀ i k, P ⟨i, k, m.render, c.st.serverSessions⟩) : NewOut P a (Robust.Irc.sendSvc c m) :=
  h.emit hp

theorem LeaveSpec.noDeleted {c c' : Ctx} {lc lcn : String} {tid : Id} (sp : LeaveSpec c c' lc lcn tid)
    (hd : ∀ id s, AMap.get c.st.sessions id = some s → s.deleted = false) :
    ∀ id s, AMap.get c'.st.sessions id = some s → s.deleted = false := fun id s' hs' => by
  obtain ⟨s, hs, e⟩ := sp.stored hs'
  rw [e]
  exact hd id s hs

theorem leaveChannel_inv {c c' : Ctx} {lc lcn : String} {tid : Id} (hi : Inv c.st)
    (hidx : AMap.get c.st.nicks lcn = some tid) (hr : leaveChannel c lc lcn tid = .ok c') : Inv c'.st :=
  ⟨leaveChannel_HInv hi.toHInv hidx hr, (leaveChannel_spec hi.toWInv hidx hr).noDeleted hi.noDeleted⟩

end Robust.Irc
