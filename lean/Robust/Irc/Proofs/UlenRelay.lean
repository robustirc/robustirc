import Robust.Irc.Proofs.CmdHandlers
import Robust.Irc.Proofs.UlenEntry
import Robust.Irc.Proofs.RcptApply
/-!
C15, clause "every delivered line starts with a prefix and a command": the lines relayed under the prefix of a
client session, from `GInv`, `PInv` (C12) and `UInv` (C15 (a)) alone.

* `ClientSess.prefix`: under `NI`, `PInv` and `UInv` the stored prefix of a client session is the derived one, hence
  has at most 178 bytes and no space (`sessPrefix_bounds`, `UlenPrefix.lean`);
* `relayed_cmdToken`: a line `⟨some s.ircPrefix, cmd, params⟩` under that prefix keeps its command;
* `cmdPrivmsg_hasCommand`: *every* line `cmdPrivmsg` produces (relayed PRIVMSG / NOTICE and numeric replies);
* `ClientLine.shape`: for every client command, the lines that the recipient classification of C12
  (`RcptAll.lean`) characterises by their text — JOIN, PART, NICK, QUIT, KICK, TOPIC, MODE, INVITE, PRIVMSG /
  NOTICE under the sender's prefix, the victim's QUIT of KILL, the closing ERROR — keep their command.
  The text of the remaining lines (numeric replies, server notices) is not characterised there: `other`.
-/
namespace Robust.Irc
open Robust AMap

structure PfxCtx (st : St) : Prop where
  ni : NI st
  pinv : PInv st
  uinv : UInv st
  sessId : ∀ id s, AMap.get st.sessions id = some s → s.id = id

theorem PfxCtx.of_gpu {st : St} (h : GPUInv st) : PfxCtx st :=
  ⟨h.ginv.ni, h.pinv, h.uinv, fun id s hg => (h.ginv.inv.sessId id s hg).1⟩

structure ClientSess (st : St) (sid : Id) (s : Session) : Prop where
  stored : AMap.get st.sessions sid = some s
  notServer : s.server = false
  reply0 : sid.reply = 0
  id64 : sid.id < 2 ^ 64

/-- **prefix bound**: the prefix under which the lines of a stored session are relayed — for a session that
is not a services link, with `reply = 0` and a numeric id below `2^64` — has at most 178 bytes and contains
no space -/
theorem ClientSess.prefix {st : St} (hc : PfxCtx st) {sid : Id} {s : Session} (h : ClientSess st sid s) :
    s.ircPrefix.str.utf8ByteSize ≤ maxPrefixBytes ∧ Spaceless s.ircPrefix.str := by
  have e := hc.sessId sid s h.stored
  have hu := hc.uinv sid s h.stored
  rcases hc.pinv sid s h.stored h.notServer with hp | ⟨_, _, hp⟩
  · rw [hp]
    obtain ⟨nl, ns⟩ := nick_bounds (hc.ni.sess sid s h.stored).2
    exact sessPrefix_bounds nl ns hu.1 (hu.2 (e ▸ h.reply0)) (e ▸ h.id64)
  · rw [hp]
    exact ⟨by decide, by decide⟩

theorem relayed_cmdToken {st : St} (hc : PfxCtx st) {sid : Id} {s : Session} (h : ClientSess st sid s)
    {cmd : String} (hg : GoodCmd cmd) (params : List String) :
    cmdToken (IrcMsg.mk (some s.ircPrefix) cmd params).render = utf8 cmd := by
  obtain ⟨hb, hsp⟩ := h.prefix hc
  refine render_cmdToken _ hg.ne hg.spaceless ?_ (fun hn => by cases hn)
  intro p hp
  cases hp
  have := hg.short
  have e : maxPrefixBytes = 178 := by decide
  exact ⟨hsp, by simp only; omega⟩

/-- **PRIVMSG / NOTICE**: every line `cmdPrivmsg` produces — the message relayed under the sender's prefix and
the numeric replies 411, 412, 403, 404, 481, 401, 301 — has a command. -/
theorem cmdPrivmsg_hasCommand {c c' : Ctx} {sid : Id} {m : IrcMsg} {s : Session} (hc : PfxCtx c.st)
    (hs : ClientSess c.st sid s) (hn : SrvNameOK c.st) (hm : GoodCmd m.command)
    (hr : cmdPrivmsg c sid m = .ok c') : NewOut (fun o => HasCommand o.data) c c' :=
  ((cmdPrivmsg_nstep ⟨hn, NewOut.refl _ _⟩ fun s' hs' params => by
    rw [getS_of_get hs.stored] at hs'
    cases hs'
    exact hasCommand_of_token (relayed_cmdToken hc hs hm params) hm.ne).apply hr).out

inductive LineShape (st : St) (s : Session) (o : Out) : Prop
  /-- relayed under the prefix of the acting session: if the command is good (decidable; `by decide` for the
  literals JOIN, PART, …), the command token is the command -/
  | relayed (cmd : String) (params : List String)
      (hd : o.data = (IrcMsg.mk (some s.ircPrefix) cmd params).render)
      (hc : GoodCmd cmd → cmdToken o.data = utf8 cmd ∧ HasCommand o.data)
  /-- the QUIT of the victim of a KILL, under the victim's prefix (if the victim is a client session) -/
  | victim (tid : Id) (t : Session) (params : List String) (ht : AMap.get st.sessions tid = some t)
      (hd : o.data = (IrcMsg.mk (some t.ircPrefix) "QUIT" params).render)
      (hc : ClientSess st tid t → cmdToken o.data = utf8 "QUIT" ∧ HasCommand o.data)
  /-- the closing ERROR, without prefix -/
  | error (txt : String) (hd : o.data = (IrcMsg.mk none "ERROR" [txt]).render)
      (htok : cmdToken o.data = utf8 "ERROR") (hc : HasCommand o.data)
  /-- numeric replies, server notices, lines for the services links: the text is not characterised by the
  recipient classification (they are server-prefixed, `srv_cmdToken` applies to each of them) -/
  | other

def LineShape.Relayed (s : Session) (cmd : String) (o : Out) : Prop :=
  ∃ params, o.data = (IrcMsg.mk (some s.ircPrefix) cmd params).render

theorem LineShape.of_relay {st : St} (hc : PfxCtx st) {sid : Id} {s : Session} (hs : ClientSess st sid s)
    {o : Out} {cmd : String} {params : List String}
    (hd : o.data = (IrcMsg.mk (some s.ircPrefix) cmd params).render) : LineShape st s o := by
  refine .relayed cmd params hd fun hg => ?_
  have ht := relayed_cmdToken hc hs hg params
  rw [← hd] at ht
  exact ⟨ht, hasCommand_of_token ht hg.ne⟩

theorem PrivmsgLine.shape {st : St} (hc : PfxCtx st) {sid : Id} {s : Session} (hs : ClientSess st sid s)
    {pm : IrcMsg} {o : Out} (h : PrivmsgLine st sid s pm o) : LineShape st s o := by
  cases h with
  | reply => exact .other
  | chan _ _ _ _ _ _ hd | wall _ _ _ _ _ hd | user _ _ _ _ _ _ _ _ _ _ hd => exact .of_relay hc hs hd

/-- **all client commands, partial**: for every line a client command produces, if the recipient classification
characterises its text — i.e. for every line relayed under a client's prefix: JOIN, PART, NICK, QUIT, KICK,
TOPIC, MODE, INVITE, PRIVMSG, NOTICE (and the service aliases), the victim's QUIT of a KILL, the closing
ERROR — the 510-byte cut leaves the command intact. -/
theorem ClientLine.shape {st : St} (hc : PfxCtx st) {sid : Id} {s : Session} (hs : ClientSess st sid s)
    {m : IrcMsg} {o : Out} (h : ClientLine st sid s m o) : LineShape st s o := by
  cases h with
  | self | knock | login | server => exact .other
  | privmsg pm h => exact h.shape hc hs
  | topic h =>
    cases h with
    | reply | svc => exact .other
    | relay _ _ _ hd => exact .of_relay hc hs hd
  | mode h =>
    cases h with
    | reply | userQuery | userSet => exact .other
    | chan _ _ _ hd => exact .of_relay hc hs hd
  | kick h =>
    cases h with
    | reply => exact .other
    | relay _ _ _ _ _ _ _ _ _ _ _ _ hd => exact .of_relay hc hs hd
  | part _ _ h =>
    cases h with
    | reply => exact .other
    | relay _ _ _ hd => exact .of_relay hc hs hd
  | join _ _ h =>
    cases h with
    | reply | svc | mode => exact .other
    | join _ _ _ hd => exact .of_relay hc hs hd
  | invite h =>
    cases h with
    | reply | notice => exact .other
    | invite _ _ _ _ _ _ _ _ _ _ _ hd => exact .of_relay hc hs hd
  | nick h =>
    cases h with
    | reply | svc | oper => exact .other
    | nick _ _ _ hd => exact .of_relay hc hs hd
  | quit h =>
    cases h with
    | quit _ hd => exact .of_relay hc hs hd
    | error _ hd =>
      obtain ⟨txt, hd⟩ := hd
      have ht := plain_cmdToken (cmd := "ERROR") (by decide) (by decide) [txt]
      rw [← hd] at ht
      exact .error txt hd ht (hasCommand_of_token ht (by decide))
  | kill h =>
    cases h with
    | reply | victim => exact .other
    | quit _ tid t _ _ _ ht hd =>
      refine .victim tid t _ ht hd fun hct => ?_
      have htk := relayed_cmdToken hc hct (cmd := "QUIT") (by decide)
        ["Killed by " ++ s.nick ++ ": " ++ m.trailing]
      rw [← hd] at htk
      exact ⟨htk, hasCommand_of_token htk (by decide)⟩

/-- bookkeeping (`lastActivity`, `remoteAddr`, … of the acting session) keeps the length invariant -/
theorem UInv.of_stBk {st stH : St} {sid : Id} (h : UInv st) (hb : StBk st stH sid)
    (hk : ∀ s', AMap.get stH.sessions sid = some s' → ∃ s, AMap.get st.sessions sid = some s) : UInv stH := by
  refine h.of_sessions fun id s' hg => ?_
  by_cases he : id = sid
  · subst he
    obtain ⟨s, hs⟩ := hk s' hg
    obtain ⟨s'', hs'', hbk⟩ := hb.self s hs
    rw [hg] at hs''; cases hs''
    refine ⟨s, hs, ?_, ?_⟩ <;> (unfold Session.Bk at hbk; rw [hbk])
  · rw [hb.others id he] at hg
    exact ⟨s', hg, rfl, rfl⟩

/-- the lines of an entry of a client session, classified relative to the handler state `stH` (the state before
the entry up to bookkeeping fields of the acting session), keep their command -/
theorem EntryLines.shapes {st stH : St} {e : Entry} {s sH : Session} {im : Option IrcMsg} {out : List Out}
    (hl : EntryLines ClientLine stH e sH im out) (h : GPUInv st) (hs : AMap.get st.sessions e.session = some s)
    (hsrv : s.server = false) (h0 : e.session.reply = 0) (hid : e.session.id < 2 ^ 64)
    (hbk : StBk st stH e.session) (hsH : AMap.get stH.sessions e.session = some sH) (hb : Session.Bk s sH)
    (hg : GPInv stH) : ∀ o ∈ out, LineShape stH sH o := by
  have hu : UInv stH := h.uinv.of_stBk hbk fun _ _ => ⟨s, hs⟩
  have hc : PfxCtx stH := ⟨hg.ginv.ni, hg.pinv, hu, fun id t hgt => (hg.ginv.inv.sessId id t hgt).1⟩
  have hcs : ClientSess stH e.session sH := ⟨hsH, by unfold Session.Bk at hb; rw [hb]; exact hsrv, h0, hid⟩
  intro o ho
  rcases hl o ho with _ | ⟨m, _, hcl⟩
  · exact .other
  · exact hcl.shape hc hcs

/-- **one `IRCFromClient` entry of a client session**: every output line of the entry is classified by
`LineShape` relative to the handler state `stH` -/
theorem applyEntry_client_shapes {st st' : St} {e : Entry} {out : List Out} {s : Session}
    (h : GPUInv st) (he : EntryOk st e) (ht : e.type = 2)
    (hs : AMap.get st.sessions e.session = some s) (hsrv : s.server = false) (hid : e.session.id < 2 ^ 64)
    (hr : applyEntry st e = .ok (st', out)) :
    ∃ stH sH, StBk st stH e.session ∧ AMap.get stH.sessions e.session = some sH ∧ Session.Bk s sH ∧
      ∀ o ∈ out, LineShape stH sH o := by
  obtain ⟨stH, sH, hbk, hsH, hb, hg, hl⟩ := applyEntry_lines classifies_client h.gp he ht hs hsrv hr
  exact ⟨stH, sH, hbk, hsH, hb, hl.shapes h hs hsrv (he.1 (Or.inr ht)) hid hbk hsH hb hg⟩

/-- the same for a `DeleteSession` entry (the server generates `QUIT :<reason>` for the session) -/
theorem applyEntry_delete_shapes {st st' : St} {e : Entry} {out : List Out} {s : Session}
    (h : GPUInv st) (he : EntryOk st e) (ht : e.type = 1)
    (hs : AMap.get st.sessions e.session = some s) (hsrv : s.server = false) (hid : e.session.id < 2 ^ 64)
    (hr : applyEntry st e = .ok (st', out)) :
    ∃ stH sH, StBk st stH e.session ∧ AMap.get stH.sessions e.session = some sH ∧ Session.Bk s sH ∧
      ∀ o ∈ out, LineShape stH sH o := by
  obtain ⟨stH, sH, hbk, hsH, hb, hg, hl⟩ := applyEntry_delete_lines classifies_client h.gp he ht hs hsrv hr
  exact ⟨stH, sH, hbk, hsH, hb, hl.shapes h hs hsrv (he.1 (Or.inl ht)) hid hbk hsH hb hg⟩

end Robust.Irc
