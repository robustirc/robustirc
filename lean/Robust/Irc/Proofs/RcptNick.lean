import Robust.Irc.Proofs.RcptMem
/-!
C12, part 2c: NICK — who receives what; and the login sequence that the first NICK, USER and PASS may start and
that OPER is part of (`LoginLine`).
-/
namespace Robust.Irc
open Robust AMap

/-- the lines `cmdNick` can produce (`s` = the stored session *before* the command) -/
inductive NickLine (st : St) (sid : Id) (s : Session) (m : IrcMsg) (o : Out) : Prop
  /-- numeric reply (431, 432, 433) or a line of the welcome burst / MOTD of the implied login: to the sender only -/
  | reply (h : ToOnly sid o)
  /-- login burst for the services links only (`NICK …`, `PRIVMSG NickServ :IDENTIFY …`) -/
  | svc (h : o.rcpt = st.serverSessions)
  /-- `MODE nick +o` of an implied OPER: to the sender and the services links -/
  | oper (hr : RcptIs o (fun id => id = sid) st.serverSessions)
  /-- the nick change, under the *old* prefix: to exactly the sender, the sessions that share a channel with
  it, and the services links -/
  | nick (nick : String) (hp : m.params.head? = some nick) (hold : s.nick ≠ "")
      (hd : o.data = (IrcMsg.mk (some s.ircPrefix) "NICK" [nick]).render)
      (hr : RcptIs o (fun id => id = sid ∨ ∃ lc ∈ s.channels, Lists st lc id) st.serverSessions)

/-- every session is stored under its own id (the part of `Inv` that `modS` needs) -/
def IdOK (st : St) : Prop := ∀ id s, AMap.get st.sessions id = some s → s.id = id

theorem WInvCore.idOK {st : St} (h : WInvCore st) : IdOK st := fun id s hs => (h.sessId id s hs).1

/-- from `c` to `c'` nothing that a recipient set is read from has changed: every stored session lists the same
channels, the services links are the same (and `c'` still stores sessions under their ids, which `modS` needs) -/
structure ListsKept (c c' : Ctx) : Prop where
  lists : SameLists c.st c'.st
  svc : c'.st.serverSessions = c.st.serverSessions
  idok : IdOK c'.st

namespace ListsKept

theorem refl {c : Ctx} (h : IdOK c.st) : ListsKept c c := ⟨.refl _, rfl, h⟩

theorem trans {a b c : Ctx} (h1 : ListsKept a b) (h2 : ListsKept b c) : ListsKept a c :=
  ⟨h1.lists.trans h2.lists, h2.svc.trans h1.svc, h2.idok⟩

theorem of_st {a c c' : Ctx} (h : ListsKept a c) (e : c'.st = c.st) : ListsKept a c' :=
  ⟨by rw [e]; exact h.lists, by rw [e]; exact h.svc, by rw [e]; exact h.idok⟩

theorem of_fields {a c c' : Ctx} (h : ListsKept a c) (e1 : c'.st.sessions = c.st.sessions)
    (e2 : c'.st.serverSessions = c.st.serverSessions) : ListsKept a c' :=
  ⟨h.lists.trans (.of_eq e1), e2.trans h.svc, by unfold IdOK; rw [e1]; exact h.idok⟩

theorem modS {a c c' : Ctx} {tid : Id} {f : Session → Session} (h : ListsKept a c)
    (hr : Robust.Irc.modS c tid f = .ok c') (hid : ∀ s, (f s).id = s.id)
    (hf : ∀ s, (f s).channels = s.channels) : ListsKept a c' := by
  have hl : SameLists c.st c'.st :=
    SameLists.modS (fun s hs => by rw [hid]; exact h.idok tid s hs) hf hr
  obtain ⟨s, hs, rfl⟩ := modS_eq_ok.1 hr
  refine ⟨h.lists.trans hl, h.svc, ?_⟩
  intro id x hx
  rw [putS_sessions, AMap.get_set] at hx
  split at hx
  · rename_i he
    cases hx
    exact he.symm
  · exact h.idok id x hx

/-- the recipients of a nick change computed after the renaming, read in the state before it: the renamed session,
the sessions sharing a channel with it, the services links -/
theorem nickRcpt {c c2 : Ctx} (k : ListsKept c c2) (hi : Inv c2.st) (hn : NI c2.st) {tid : Id} {t t2 : Session}
    (hch : t2.channels = t.channels) {rc : List Nat} (hrc : rcCommonChannels c2.st t2 = .ok rc) (i j : Nat)
    (d : Bytes) :
    RcptIs ⟨i, j, d, rcUser tid ++ rc ++ rcServices c2.st⟩
      (fun id => id = tid ∨ ∃ lc ∈ t.channels, Lists c.st lc id) c.st.serverSessions := by
  show RcptIs ⟨i, j, d, rcUser tid ++ rc ++ c2.st.serverSessions⟩ _ _
  rw [k.svc]
  refine ((IdsOf.user tid).append ((rcCommonChannels_lists hi hn hrc).congr fun id => ?_)).rcptIs
  rw [hch]
  exact exists_congr fun _ => and_congr_right fun _ => k.lists.lists

end ListsKept

/-- the common middle of NICK and SVSNICK — store the new nick, re-key the index and the member maps, refresh the
prefix — from a state between entries (`a` = the context in which the command started): the result is again such a
state, no line was added, and nobody's channel list changed, so the announcement that follows can be read in `a` -/
theorem renameSteps_listsKept {a c c1 c2 : Ctx} {tid : Id} {t : Session} {nick old : String} {b : Bool}
    (hi : Inv c.st) (hn : NI c.st) (k : ListsKept a c) (ht : AMap.get c.st.sessions tid = some t)
    (hvalid : isValidNickname nick = true)
    (hcase : RenameCase c.st.nicks tid t (nickToLower nick) old b)
    (hm1 : modS c tid (fun s => { s with nick := nick }) = .ok c1)
    (hm2 : modS (renameCtx c1 tid (nickToLower nick) old b) tid updateIrcPrefix = .ok c2) :
    Inv c2.st ∧ NI c2.st ∧ ListsKept a c2 ∧ c2.out = c.out ∧
    ∃ t2, AMap.get c2.st.sessions tid = some t2 ∧ t2.channels = t.channels ∧ t2.nick = nick := by
  have hid : t.id = tid := (hi.sessId tid t ht).1
  have hlc : nickToLower nick ≠ "" := fun he => isValidNickname_ne_empty hvalid (nickToLower_eq_empty.1 he)
  have hss := renameCtx_sessions c1 tid (nickToLower nick) old b
  have hH := rename_HInv hi.toHInv ht hm1 (fun _ => ⟨rfl, rfl, rfl, rfl⟩) hcase
  have hd1 := modS_noDeleted (f := fun s => { s with nick := nick }) hi.noDeleted (fun _ => rfl) hm1
  have hg1 := modS_get_self (f := fun s => { s with nick := nick }) ht hid hm1
  have n1 := (hn.modS_nick hm1 fun _ => hvalid).renameCtx tid old b hlc
  have k1 := (k.modS hm1 (fun _ => rfl) fun _ => rfl).of_fields hss (renameCtx_frame _ _ _ _ _).serverSessions
  have o1 : (renameCtx c1 tid (nickToLower nick) old b).out = c.out := by
    rw [(renameCtx_frame _ _ _ _ _).out]
    obtain ⟨_, _, rfl⟩ := modS_eq_ok.1 hm1
    rfl
  rw [← hss] at hd1 hg1
  generalize renameCtx c1 tid (nickToLower nick) old b = cr at hH hd1 hg1 n1 k1 o1 hm2
  refine ⟨⟨HInv_modS_inert _ updateIrcPrefix_inert hH hm2, modS_noDeleted (f := updateIrcPrefix) hd1 (fun _ => rfl) hm2⟩,
    n1.modS_keep hm2 fun _ => ⟨rfl, rfl⟩, k1.modS hm2 (fun _ => rfl) fun _ => rfl, ?_,
    _, modS_get_self (f := updateIrcPrefix) hg1 hid hm2, rfl, rfl⟩
  obtain ⟨_, _, rfl⟩ := modS_eq_ok.1 hm2
  exact o1

/-! ### the login sequence: MOTD, OPER, welcome burst

It follows the first NICK (here) and USER / PASS, and OPER is part of it (`RcptRest.lean`).  The `…_loginLines` lemmas
classify its lines by `LoginLine st0 sid` relative to ANY start state `st0` with the same services links. -/

/-- lines of OPER and of the login sequence that USER / PASS (and the first NICK) may trigger -/
inductive LoginLine (st : St) (sid : Id) (o : Out) : Prop
  /-- welcome burst, MOTD, numeric replies: to the caller only -/
  | reply (h : ToOnly sid o)
  /-- `NICK …` / `PRIVMSG NickServ :IDENTIFY …` for the services links only -/
  | svc (h : o.rcpt = st.serverSessions)
  /-- `MODE nick +o` after a successful OPER: to the caller and the services links -/
  | oper (hr : RcptIs o (fun id => id = sid) st.serverSessions)

theorem NickLine.of_login {st : St} {sid : Id} {s : Session} {m : IrcMsg} {o : Out} (h : LoginLine st sid o) :
    NickLine st sid s m o := by
  cases h with
  | reply h => exact .reply h
  | svc h => exact .svc h
  | oper h => exact .oper h

section login
variable {st0 : St}

theorem cmdMotd_loginLines (c : Ctx) (sid : Id) (m : IrcMsg) :
    (cmdMotd c sid m).Sat fun c' => NewOut (LoginLine st0 sid) c c' ∧ c'.st = c.st :=
  (cmdMotd_refused c sid m).mono fun _ r => ⟨r.newOut.2.mono fun _ h => .reply h, r.st⟩

theorem cmdOper_loginLines {c : Ctx} {sid : Id} {m : IrcMsg} (hid : IdOK c.st)
    (hsv : c.st.serverSessions = st0.serverSessions) :
    (cmdOper c sid m).Sat fun c' => NewOut (LoginLine st0 sid) c c' ∧ ListsKept c c' := by
  unfold cmdOper
  refine .bind fun s _ => .bind fun p0 _ => .bind fun p1 _ => .ite (fun _ => .pure ?_) fun _ =>
    .bind fun c1 h1 => .bind fun s1 _ => .pure ?_
  · exact ⟨(NewOut.refl _ c).sendUser fun _ _ => .reply rfl, (ListsKept.refl hid).of_st rfl⟩
  · have k1 : ListsKept c c1 := (ListsKept.refl hid).modS h1 (fun _ => rfl) (fun _ => rfl)
    have o1 : NewOut (LoginLine st0 sid) c c1 := (NewOut.refl _ c).frame (.modS h1)
    refine ⟨(o1.sendUser fun _ _ => .reply rfl).emit fun i k => .oper ?_, k1.of_st rfl⟩
    show RcptIs ⟨i, k, _, rcUser sid ++ c1.st.serverSessions⟩ _ _
    rw [k1.svc.trans hsv]
    exact (IdsOf.user _).rcptIs

theorem loginOper_loginLines {c : Ctx} {sid : Id} {s : Session} (hid : IdOK c.st)
    (hsv : c.st.serverSessions = st0.serverSessions) :
    (loginOper c sid s).Sat fun c' => NewOut (LoginLine st0 sid) c c' ∧ ListsKept c c' :=
  loginOper_sat ⟨.refl _ _, .refl hid⟩ fun _ => cmdOper_loginLines hid hsv

theorem loginBanner_loginLines {c : Ctx} {sid : Id} (hsv : c.st.serverSessions = st0.serverSessions) (s : Session) :
    NewOut (LoginLine st0 sid) c (loginBanner c sid s) := by
  unfold loginBanner
  extract_lets sn c1 c2 c3 c4 c5 c6 pass
  have reply : ∀ {a : Ctx} (msg : IrcMsg), NewOut (LoginLine st0 sid) c a →
      NewOut (LoginLine st0 sid) c (sendUser a sid msg) := fun _ h => h.sendUser fun _ _ => .reply rfl
  have h5 : NewOut (LoginLine st0 sid) c c5 := reply _ (reply _ (reply _ (reply _ (reply _ (.refl _ c)))))
  have h6 : NewOut (LoginLine st0 sid) c c6 := h5.emit fun _ _ => .svc hsv
  exact NewOut.ite (h6.emit fun _ _ => .svc hsv) h6

theorem maybeLogin_loginLines {c : Ctx} {sid : Id} {m : IrcMsg} (hid : IdOK c.st)
    (hsv : c.st.serverSessions = st0.serverSessions) :
    (maybeLogin c sid m).Sat fun c' => NewOut (LoginLine st0 sid) c c' ∧ ListsKept c c' := by
  rw [maybeLogin_eq]
  have stay : NewOut (LoginLine st0 sid) c c ∧ ListsKept c c := ⟨.refl _ _, .refl hid⟩
  refine .bind fun s _ => .ite (fun _ => .pure stay) fun _ => .ite (fun _ => .pure stay) fun _ =>
    .ite (fun _ => .declined _) fun _ => .bind fun c1 h1 => ?_
  have k1 : ListsKept c c1 := (ListsKept.refl hid).modS h1 (fun _ => rfl) (fun _ => rfl)
  have kb : ListsKept c (loginBanner c1 sid s) := k1.of_st (loginBanner_st c1 sid s)
  have ob : NewOut (LoginLine st0 sid) c (loginBanner c1 sid s) :=
    ((NewOut.refl _ c).frame (.modS h1)).trans (loginBanner_loginLines (k1.svc.trans hsv) s)
  refine .andThen (loginOper_loginLines (st0 := st0) kb.idok (kb.svc.trans hsv)) fun c2 ⟨o2, k2⟩ =>
    .bind fun c3 h3 => (cmdMotd_loginLines (st0 := st0) c3 sid m).mono fun c4 ⟨o4, e4⟩ => ?_
  exact ⟨((ob.trans o2).frame (.modS h3)).trans o4, ((kb.trans k2).modS h3 (fun _ => rfl) (fun _ => rfl)).of_st e4⟩

end login

theorem cmdNickTail_out {c : Ctx} {sid : Id} {m : IrcMsg} {s : Session} {nick : String} {held : Option SvsHold}
    (hp : Pre c sid) (hn : NI c.st) (hs : AMap.get c.st.sessions sid = some s)
    (hvalid : isValidNickname nick = true) (hhead : m.params.head? = some nick)
    (hfree : AMap.contains c.st.nicks (nickToLower nick) = false ∨
      (s.loggedIn && nickToLower nick == nickToLower (if s.loggedIn then s.nick else "*")) = true) :
    (cmdNickTail c sid m s nick held).Sat fun c' => NewOut (NickLine c.st sid s m) c c' ∧ SameLists c.st c'.st := by
  have hnick : nick ≠ "" := isValidNickname_ne_empty hvalid
  have hfirst : s.nick = "" → (∀ x, AMap.get c.st.nicks x ≠ some sid) ∧ s.channels = [] := fun he =>
    let h := (hn.ninv hp.inv.toWInvCore).2 sid s hs he
    ⟨h.2, h.1⟩
  unfold cmdNickTail
  dsimp only
  have f0 := holdCtx_frame c (nickToLower nick) held
  have hp0 : Pre (holdCtx c (nickToLower nick) held) sid := hp.holdCtx _ _
  have n0 : NI (holdCtx c (nickToLower nick) held).st := hn.congr f0.sessions f0.nicks f0.channels
  have k0 : ListsKept c (holdCtx c (nickToLower nick) held) :=
    (ListsKept.refl hp.inv.toWInvCore.idOK).of_fields f0.sessions f0.serverSessions
  have o0 : NewOut (NickLine c.st sid s m) c (holdCtx c (nickToLower nick) held) :=
    NewOut.of_out f0.out
  generalize holdCtx c (nickToLower nick) held = c0 at f0 hp0 n0 k0 o0 ⊢
  refine .ite (fun _ => .pure ⟨o0, k0.lists⟩) fun _ => ?_
  generalize hb : (nickToLower s.nick != "" &&
      !(s.loggedIn && nickToLower nick == nickToLower (if s.loggedIn = true then s.nick else "*"))) = b
  refine .bind fun c1 hm1 => .bind fun c2 hm2 => ?_
  have hs' : AMap.get c0.st.sessions sid = some s := by rw [f0.sessions]; exact hs
  obtain ⟨hi2, n2, k2, ho2, _, _, _, _⟩ := renameSteps_listsKept hp0.inv n0 k0 hs' hvalid
    (cmdNick_renameCase hp0.inv.toWInvCore hs' (hp.live hs) hnick (by rw [f0.nicks]; exact hfirst)
      (by rw [f0.nicks]; exact hfree) hb) hm1 hm2
  have o2 : NewOut (NickLine c.st sid s m) c c2 := o0.step ho2
  refine .ite (fun hold => .andThen (getS_sat c2 sid) fun s2 hs2 => .bind fun rc hrc => .pure ?_) fun _ =>
    (maybeLogin_loginLines k2.idok k2.svc).mono fun c3 ⟨o3, k3⟩ =>
      ⟨o2.trans (o3.mono fun _ => .of_login), (k2.trans k3).lists⟩
  have hold' : s.nick ≠ "" := by
    intro he
    rw [he] at hold
    simp at hold
  have hch : s2.channels = s.channels := by
    have := k2.lists sid
    rw [hs2, hs] at this
    simpa using this
  exact ⟨o2.emit fun i k => .nick nick hhead hold' rfl (k2.nickRcpt hi2 n2 hch hrc i k _), k2.lists⟩

/-- **NICK**: every line produced is a numeric reply / a line of the implied login burst, or the nick change
under the old prefix, delivered to exactly the sender, the sessions sharing a channel with it and the
services links; no channel list changes. -/
theorem cmdNick_out {c c' : Ctx} {sid : Id} {m : IrcMsg} {s : Session} (hp : Pre c sid) (hn : NI c.st)
    (hs : AMap.get c.st.sessions sid = some s) (hr : cmdNick c sid m = .ok c') :
    NewOut (NickLine c.st sid s m) c c' ∧ SameLists c.st c'.st := by
  refine cmdNick_cases (Q := fun r => r.Sat fun c' => NewOut (NickLine c.st sid s m) c c' ∧ SameLists c.st c'.st) hs
    (fun _ => .ok ⟨(NewOut.refl _ c).sendUser fun _ _ => .reply rfl, .refl _⟩)
    (fun nick held hnk hvalid hfree _ => cmdNickTail_out hp hn hs hvalid ?_ (nick_free_of_not hfree)) c' hr
  cases hh : m.params.head? with
  | none => rw [hh] at hnk; exact absurd hnk (isValidNickname_ne_empty hvalid)
  | some x => rw [hh] at hnk; rw [hnk]; rfl

end Robust.Irc
