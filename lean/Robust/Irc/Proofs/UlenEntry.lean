import Robust.Irc.Proofs.Entry
import Robust.Irc.Proofs.RcptPfxEntry
import Robust.Irc.Proofs.UlenInv
import Robust.Irc.Proofs.StableEntry
/-!
Entry-level preservation of the length invariant `UInv` (C15): a companion to `RcptPfxEntry.lean`.

Every handler in the table keeps `UInv` (`handler_upres`); hence `processMessage` (`processMessage_uinv`) and one
committed entry (`applyEntry_uinv`) keep it, and every well-formed history keeps it together with `GInv` and `PInv`
(`GPUInv`, `run_preserves_gpu`).
-/
namespace Robust.Irc
open Robust AMap

theorem UInv.operAtLogin (sid : Id) (c : Ctx) : OperAtLogin UInv sid c :=
  fun _ _ _ _ => UInv.upd sid fun _ => ⟨rfl, rfl⟩


theorem UInv.special {fname : String} {c : Ctx} {sid : Id} {m : IrcMsg} (h : UInv c.st) :
    Special UInv fname c sid m where
  gline _ := fun _ h => h
  chanAny _ := SessAll.chanAny
  join _ := SessAll.newChan
  nick _ _ c0 _ := UInv.stable.nickUpd SessAll.chanAny (UInv.upd sid fun _ => ⟨rfl, rfl⟩) (UInv.upd sid fun _ => ⟨rfl, rfl⟩) c0
  svsnick _ tid _ := UInv.stable.nickUpd SessAll.chanAny (UInv.upd tid fun _ => ⟨rfl, rfl⟩) (UInv.upd tid fun _ => ⟨rfl, rfl⟩) c
  login _ := UInv.operAtLogin sid c
  oper _ _ := UInv.upd sid fun _ => ⟨rfl, rfl⟩
  pass _ := UInv.upd sid fun _ => ⟨rfl, rfl⟩
  user _ _ _ := UInv.upd_user
  server _ _ _ _ _ := UInv.upd sid fun _ => ⟨rfl, rfl⟩
  serverNick _ := fun _ _ hcs hm => UInv.serverNick h hcs hm

theorem handler_upres {fname : String} {h : Handler} (hh : handlerByName fname = some h) {c : Ctx} {sid : Id}
    {m : IrcMsg} (hu : UInv c.st) : (h c sid m).Sat fun c' => UInv c'.st :=
  handler_stable UInv.stable hh (UInv.special hu) hu

theorem cmdUser_uinv {c c' : Ctx} {sid : Id} {m : IrcMsg} (h : UInv c.st) (hr : cmdUser c sid m = .ok c') :
    UInv c'.st :=
  (cmdUser_stable UInv.stable (fun _ _ => UInv.upd_user) (UInv.operAtLogin sid c) h).apply hr


theorem processMessage_uinv {c c' : Ctx} {e : Entry} {im : Option IrcMsg} (hpi : UInv c.st)
    (hr : processMessage c e im = .ok c') : UInv c'.st :=
  processMessage_keeps (.stable UInv.stable) hpi (fun _ _ => .of_not id) (fun _ h => h)
    (fun _ k p1 => (handler_upres k.handler p1).apply k.ret) hr

theorem applyEntry_uinv (st st' : St) (e : Entry) (out : List Out) (h : GInv st) (hpi : UInv st)
    (he : EntryOk st e) (hr : applyEntry st e = .ok (st', out)) : UInv st' :=
  applyEntry_keeps (fun h hu => h.updateLastClientMessageID hu) (fun h hcs => h.createSession hcs)
    (fun sid x h hnd => UInv.maybeDeleteSession sid (h.withLastProcessed x) hnd) (fun _ h => h)
    (fun _ _ h hpm => processMessage_uinv h hpm) st st' e out h hpi he hr

structure GPUInv (st : St) : Prop where
  ginv : GInv st
  pinv : PInv st
  uinv : UInv st

theorem GPUInv_init : GPUInv ({} : St) := ⟨GInv_init, PInv_init, UInv_init⟩

theorem GPUInv.gp {st : St} (h : GPUInv st) : GPInv st := ⟨h.ginv, h.pinv⟩

theorem applyEntry_preserves_gpu (st st' : St) (e : Entry) (out : List Out) (h : GPUInv st) (he : EntryOk st e)
    (hr : applyEntry st e = .ok (st', out)) : GPUInv st' :=
  ⟨applyEntry_preserves st st' e out h.ginv he hr, applyEntry_pinv st st' e out h.ginv h.pinv he hr,
    applyEntry_uinv st st' e out h.ginv h.uinv he hr⟩

theorem run_preserves_gpu {st st' : St} {es : List Entry} (h : GPUInv st) (hw : WfHistory st es)
    (hr : runEntries st es = .ok st') : GPUInv st' :=
  run_keeps (applyEntry_preserves_gpu _ _ _ _) h hw hr

end Robust.Irc
