import Robust.Irc.Proofs.HandlerSpec
import Robust.Irc.Proofs.WpCore
/-!
What the theorems about the read-only / inert client handlers (group H2) are stated in.

* `Emits c c'`     – `c'` is `c` plus output: same `st`, `out` only grows, same `msgid`;
* `Inert c c'`     – `c'.st` is `StSim`-similar to `c.st`, `loggedIn`, `nick` and `server` of every stored session
                     are unchanged, `out` only grows, same `msgid`;
* `Refused c c' sid` – `Emits`, and every new line goes to `sid` alone (what a handler does that only answers, or
                     that refuses a privileged command: `Priv.lean`);
* `Inert.post`     – `Pre c sid → Inert c c' → Post c c' sid`;
* `RepliesWp h G`, `EmitsWp h G`, `InertWp h G` – the one theorem about a handler `h` (`WpCore.lean`): `Refused` /
                     `Emits` / `Inert` whatever the input, no panic under the gate `G`; each is an instance of the
                     next (`.emitsWp`, `.inertWp`); `Preserves h` and `ClientSafe h n l` are projections.
                     `Gated n` is the gate of the dispatcher, `Listed` what TOPIC and MODE need of their sender;
* `Rd.NoPanic r`   – `r` is not `.panic _`.
-/
namespace Robust.Irc
open AMap

namespace Rd
def NoPanic {α : Type} (r : Res α) : Prop := ∀ site, r ≠ Res.panic site

theorem NoPanic.declined {α : Type} (w : String) : NoPanic (Res.declined w : Res α) := fun _ h => by cases h

theorem NoPanic.bind' {α β : Type} {x : Res α} {f : α → Res β} (hx : NoPanic x)
    (hf : ∀ a, x = Res.ok a → NoPanic (f a)) : NoPanic (Res.bind x f) := by
  cases x with
  | ok a => exact hf a rfl
  | panic s => exact absurd rfl (hx s)
  | declined w => exact NoPanic.declined w

theorem NoPanic.ite {α : Type} {p : Prop} [Decidable p] {a b : Res α} (ha : p → NoPanic a) (hb : ¬p → NoPanic b) :
    NoPanic (if p then a else b) := by
  split
  · exact ha ‹_›
  · exact hb ‹_›

end Rd
open Rd

structure Emits (c c' : Ctx) : Prop where
  st : c'.st = c.st
  out : ∃ extra, c'.out = c.out ++ extra
  msgid : c'.msgid = c.msgid

theorem Emits.refl (c : Ctx) : Emits c c := ⟨rfl, ⟨[], by simp⟩, rfl⟩

theorem Emits.trans {a b c : Ctx} (h1 : Emits a b) (h2 : Emits b c) : Emits a c := by
  obtain ⟨e1, he1⟩ := h1.out
  obtain ⟨e2, he2⟩ := h2.out
  exact ⟨h2.st.trans h1.st, ⟨e1 ++ e2, by rw [he2, he1, List.append_assoc]⟩, h2.msgid.trans h1.msgid⟩

theorem Emits.emit {c c' : Ctx} (h : Emits c c') (m : IrcMsg) (r : List Nat) : Emits c (emit c' m r) := by
  obtain ⟨e1, he1⟩ := h.out
  refine ⟨h.st, ⟨e1 ++ [⟨c'.msgid, c'.replyid + 1, m.render, r⟩], ?_⟩, h.msgid⟩
  show c'.out ++ _ = _
  rw [he1, List.append_assoc]

theorem Emits.sendUser {c c' : Ctx} (h : Emits c c') (sid : Id) (m : IrcMsg) : Emits c (sendUser c' sid m) :=
  h.emit m _

theorem Emits.sendSvc {c c' : Ctx} (h : Emits c c') (m : IrcMsg) : Emits c (sendSvc c' m) :=
  h.emit m _

theorem Emits.ite {c : Ctx} {p : Prop} [Decidable p] {a b : Ctx} (ha : Emits c a) (hb : Emits c b) :
    Emits c (if p then a else b) := by
  split <;> assumption

/-- closes goals `Emits c (sendUser (emit (… c …) …) …)` -/
macro "emits_tac" : tactic =>
  `(tactic| repeat (first
      | assumption
      | exact Emits.refl _
      | apply Emits.sendUser
      | apply Emits.sendSvc
      | apply Emits.emit
      | apply Emits.ite))

structure Refused (c c' : Ctx) (sid : Id) : Prop where
  st : c'.st = c.st
  out : ∃ extra, c'.out = c.out ++ extra ∧ ∀ o ∈ extra, o.rcpt = [sid.id]
  msgid : c'.msgid = c.msgid

theorem Refused.refl (c : Ctx) (sid : Id) : Refused c c sid := ⟨rfl, ⟨[], by simp, by simp⟩, rfl⟩

theorem Refused.trans {a b c : Ctx} {sid : Id} (h1 : Refused a b sid) (h2 : Refused b c sid) : Refused a c sid := by
  obtain ⟨e1, he1, ha1⟩ := h1.out
  obtain ⟨e2, he2, ha2⟩ := h2.out
  refine ⟨h2.st.trans h1.st, ⟨e1 ++ e2, by rw [he2, he1, List.append_assoc], ?_⟩, h2.msgid.trans h1.msgid⟩
  intro o ho
  rcases List.mem_append.1 ho with h | h
  · exact ha1 o h
  · exact ha2 o h

theorem Refused.sendUser {c c' : Ctx} {sid : Id} (h : Refused c c' sid) (m : IrcMsg) :
    Refused c (sendUser c' sid m) sid := by
  obtain ⟨e1, he1, ha1⟩ := h.out
  refine ⟨h.st, ⟨e1 ++ [⟨c'.msgid, c'.replyid + 1, m.render, [sid.id]⟩], ?_, ?_⟩, h.msgid⟩
  · show c'.out ++ _ = _
    rw [he1, List.append_assoc]
    rfl
  · intro o ho
    rcases List.mem_append.1 ho with h | h
    · exact ha1 o h
    · rw [List.mem_singleton.1 h]

theorem Refused.reply (c : Ctx) (sid : Id) (m : IrcMsg) : Refused c (Robust.Irc.sendUser c sid m) sid :=
  (Refused.refl c sid).sendUser m

theorem Refused.ite {c : Ctx} {sid : Id} {p : Prop} [Decidable p] {a b : Ctx} (ha : Refused c a sid)
    (hb : Refused c b sid) : Refused c (if p then a else b) sid := by
  split <;> assumption

theorem Refused.emits {c c' : Ctx} {sid : Id} (h : Refused c c' sid) : Emits c c' :=
  ⟨h.st, by obtain ⟨e, he, _⟩ := h.out; exact ⟨e, he⟩, h.msgid⟩

theorem Refused.rcpt {c c' : Ctx} {sid : Id} (h : Refused c c' sid) {o : Out} (ho : o ∈ c'.out) (hn : o ∉ c.out) :
    o.rcpt = [sid.id] := by
  obtain ⟨e, he, ha⟩ := h.out
  rw [he] at ho
  rcases List.mem_append.1 ho with h | h
  · exact absurd h hn
  · exact ha o h

theorem Refused.sendUserIf {c c' : Ctx} {sid : Id} (h : Refused c c' sid) {p : Prop} {_ : Decidable p} {m : IrcMsg} :
    Refused c (if p then Irc.sendUser c' sid m else c') sid :=
  .ite (h.sendUser m) h

structure Inert (c c' : Ctx) : Prop where
  sim : StSim c.st c'.st
  logged : ∀ id s', AMap.get c'.st.sessions id = some s' →
    ∃ s, AMap.get c.st.sessions id = some s ∧ s'.loggedIn = s.loggedIn ∧ s'.nick = s.nick ∧ s'.server = s.server
  out : ∃ extra, c'.out = c.out ++ extra
  msgid : c'.msgid = c.msgid

theorem Inert.of_emits {c c' : Ctx} (hw : WInvCore c.st) (h : Emits c c') : Inert c c' := by
  refine ⟨by rw [h.st]; exact StSim.refl hw, fun id s' hg => ?_, h.out, h.msgid⟩
  rw [h.st] at hg
  exact ⟨s', hg, rfl, rfl, rfl⟩

theorem Inert.refl {c : Ctx} (hw : WInvCore c.st) : Inert c c := Inert.of_emits hw (Emits.refl c)

theorem Inert.trans {a b c : Ctx} (h1 : Inert a b) (h2 : Inert b c) : Inert a c := by
  obtain ⟨e1, he1⟩ := h1.out
  obtain ⟨e2, he2⟩ := h2.out
  refine ⟨h1.sim.trans h2.sim, fun id s'' hg => ?_, ⟨e1 ++ e2, by rw [he2, he1, List.append_assoc]⟩,
    h2.msgid.trans h1.msgid⟩
  obtain ⟨s', hg', e1, e2, e5⟩ := h2.logged id s'' hg
  obtain ⟨s, hg0, e3, e4, e6⟩ := h1.logged id s' hg'
  exact ⟨s, hg0, e1.trans e3, e2.trans e4, e5.trans e6⟩

theorem Inert.emits {a b c : Ctx} (h1 : Inert a b) (h2 : Emits b c) : Inert a c := by
  obtain ⟨e1, he1⟩ := h1.out
  obtain ⟨e2, he2⟩ := h2.out
  refine ⟨by rw [h2.st]; exact h1.sim, fun id s' hg => ?_, ⟨e1 ++ e2, by rw [he2, he1, List.append_assoc]⟩,
    h2.msgid.trans h1.msgid⟩
  rw [h2.st] at hg
  exact h1.logged id s' hg

theorem Inert.emit {c c' : Ctx} (h : Inert c c') (m : IrcMsg) (r : List Nat) : Inert c (emit c' m r) :=
  h.emits ((Emits.refl c').emit m r)

theorem Inert.sendUser {c c' : Ctx} (h : Inert c c') (sid : Id) (m : IrcMsg) : Inert c (sendUser c' sid m) :=
  h.emit m _

theorem Inert.ite {c : Ctx} {p : Prop} [Decidable p] {a b : Ctx} (ha : Inert c a) (hb : Inert c b) :
    Inert c (if p then a else b) := by
  split <;> assumption

theorem Inert.winvCore {c c' : Ctx} (h : Inert c c') (hw : WInvCore c.st) : WInvCore c'.st := hw.sim h.sim
theorem Inert.winv {c c' : Ctx} (h : Inert c c') (hw : WInv c.st) : WInv c'.st := hw.sim h.sim
theorem Inert.hinv {c c' : Ctx} (h : Inert c c') (hw : HInv c.st) : HInv c'.st := hw.sim h.sim
theorem Inert.inv {c c' : Ctx} (h : Inert c c') (hw : Inv c.st) : Inv c'.st := hw.sim h.sim
theorem Inert.linv {c c' : Ctx} (h : Inert c c') (hl : LInv c.st) : LInv c'.st :=
  hl.of_sessions fun id s' hg => by
    obtain ⟨s, h1, h2, h3, _⟩ := h.logged id s' hg
    exact ⟨s, h1, h2, h3⟩

theorem Inert.modS {c0 c c' : Ctx} (h : Inert c0 c) (hw : WInvCore c0.st) {sid : Id} {f : Session → Session}
    (hr : modS c sid f = Res.ok c') (hf : CoreKeep f)
    (hl : ∀ s, (f s).loggedIn = s.loggedIn ∧ (f s).server = s.server) : Inert c0 c' := by
  refine h.trans ⟨StSim.modS (h.winvCore hw) hf hr, fun id s' hg => ?_, ?_, ?_⟩
  · obtain ⟨s, hs, rfl⟩ := modS_eq_ok.1 hr
    rw [putS_sessions, AMap.get_set] at hg
    split at hg
    · rename_i he
      cases hg
      have hid : (f s).id = sid := by rw [(hf s).1]; exact ((h.winvCore hw).sessId sid s hs).1
      rw [he, hid]
      exact ⟨s, hs, (hl s).1, (hf s).2.2.1, (hl s).2⟩
    · exact ⟨s', hg, rfl, rfl, rfl⟩
  · obtain ⟨s, hs, rfl⟩ := modS_eq_ok.1 hr
    exact ⟨[], by simp⟩
  · obtain ⟨s, hs, rfl⟩ := modS_eq_ok.1 hr
    rfl

theorem Inert.putChan {c0 c : Ctx} (h : Inert c0 c) (hw : WInvCore c0.st) {lc : String} {ch ch' : Channel}
    (hg : AMap.get c.st.channels lc = some ch) (hname : ch'.name = ch.name)
    (hkeys : AMap.keys ch'.nicks = AMap.keys ch.nicks) : Inert c0 (putChan c lc ch') :=
  h.trans ⟨StSim.putChan (h.winvCore hw) hg hname hkeys, fun id s' hg' => ⟨s', hg', rfl, rfl, rfl⟩, ⟨[], by simp⟩, rfl⟩

theorem Inert.getChan {c c' : Ctx} (h : Inert c c') {lc : String} {ch : Channel}
    (hg : AMap.get c.st.channels lc = some ch) : ∃ ch', AMap.get c'.st.channels lc = some ch' :=
  (h.sim.chans.fwd hg).imp fun _ h => h.1

theorem Inert.stored {c c' : Ctx} {id : Id} (h : Inert c c') (hs : ∃ s, AMap.get c.st.sessions id = some s) :
    ∃ s, AMap.get c'.st.sessions id = some s := by
  obtain ⟨s, hs⟩ := hs
  obtain ⟨s', hs', _⟩ := h.sim.getS hs
  exact ⟨s', hs'⟩

theorem Inert.post {c c' : Ctx} {sid : Id} (hp : Pre c sid) (h : Inert c c') : Post c c' sid where
  hinv := h.hinv hp.inv.toHInv
  linv := h.linv hp.linv
  actorKept := h.stored hp.actor
  flagged := fun id s hg hd => by
    have := (h.inv hp.inv).noDeleted id s hg
    rw [this] at hd
    cases hd
  outGrows := h.out
  msgid := h.msgid

theorem Emits.post {c c' : Ctx} {sid : Id} (hp : Pre c sid) (h : Emits c c') : Post c c' sid :=
  (Inert.of_emits hp.inv.toWInvCore h).post hp

theorem Preserves.of_inert {h : Ctx → Id → IrcMsg → Res Ctx}
    (hi : ∀ c sid m c', WInvCore c.st → h c sid m = Res.ok c' → Inert c c') : Preserves h :=
  fun c sid m c' hp hr => (hi c sid m c' hp.inv.toWInvCore hr).post hp

def Gated (n : Nat) (c : Ctx) (sid : Id) (m : IrcMsg) : Prop := Pre c sid ∧ n ≤ m.params.length

def EmitsWp (h : Ctx → Id → IrcMsg → Res Ctx) (G : Ctx → Id → IrcMsg → Prop) : Prop :=
  ∀ c sid m, (h c sid m).Wp (G c sid m) (Emits c)

def InertWp (h : Ctx → Id → IrcMsg → Res Ctx) (G : Ctx → Id → IrcMsg → Prop) : Prop :=
  ∀ c sid m, WInvCore c.st → (h c sid m).Wp (G c sid m) (Inert c)

section
variable {h : Ctx → Id → IrcMsg → Res Ctx} {G : Ctx → Id → IrcMsg → Prop} {n : Nat}

theorem EmitsWp.emits (H : EmitsWp h G) {c c' : Ctx} {sid : Id} {m : IrcMsg} (hr : h c sid m = .ok c') : Emits c c' :=
  (H c sid m).sat c' hr

theorem EmitsWp.inertWp (H : EmitsWp h G) : InertWp h G :=
  fun c sid m hw => (H c sid m).mono fun _ => Inert.of_emits hw

theorem InertWp.inert (H : InertWp h G) {c c' : Ctx} {sid : Id} {m : IrcMsg} (hw : WInvCore c.st)
    (hr : h c sid m = .ok c') : Inert c c' :=
  (H c sid m hw).sat c' hr

theorem InertWp.preserves (H : InertWp h G) : Preserves h := .of_inert fun _ _ _ _ => H.inert

theorem InertWp.safe (H : InertWp h (Gated n)) (l : Bool) : ClientSafe h n l :=
  fun c sid m _ hp _ _ _ hn => (H c sid m hp.inv.toWInvCore).safe ⟨hp, hn⟩

end

def RepliesWp (h : Ctx → Id → IrcMsg → Res Ctx) (G : Ctx → Id → IrcMsg → Prop) : Prop :=
  ∀ c sid m, (h c sid m).Wp (G c sid m) fun c' => Refused c c' sid

theorem RepliesWp.emitsWp {h : Ctx → Id → IrcMsg → Res Ctx} {G : Ctx → Id → IrcMsg → Prop} (H : RepliesWp h G) :
    EmitsWp h G :=
  fun c sid m => (H c sid m).mono fun _ => Refused.emits

theorem RepliesWp.inertWp {h : Ctx → Id → IrcMsg → Res Ctx} {G : Ctx → Id → IrcMsg → Prop} (H : RepliesWp h G) :
    InertWp h G := H.emitsWp.inertWp

/-- what TOPIC and MODE need of their sender to find it in the channels it lists.  JOIN calls MODE for the session
that has just joined (the one-parameter TOPIC that JOIN and SVSJOIN call does not ask this); for a registered
sender the dispatch gate gives it, with `LInv` -/
def Listed (c : Ctx) (sid : Id) : Prop :=
  WInv c.st ∧ ∃ s, AMap.get c.st.sessions sid = some s ∧ s.deleted = false ∧ s.nick ≠ ""

theorem Listed.of_pre {c : Ctx} {sid : Id} {s : Session} (hp : Pre c sid) (hs : AMap.get c.st.sessions sid = some s)
    (hl : s.loggedIn = true) : Listed c sid :=
  ⟨hp.inv.toWInv, s, hs, hp.inv.noDeleted sid s hs, hp.linv sid s hs hl⟩

theorem Listed.member {c : Ctx} {sid : Id} {s : Session} {lc : String} (h : Listed c sid)
    (hs : AMap.get c.st.sessions sid = some s) (hc : lc ∈ s.channels) :
    ∃ ch mem, AMap.get c.st.channels lc = some ch ∧ AMap.get ch.nicks (nickToLower s.nick) = some mem := by
  obtain ⟨hw, s', hs', hl, hn⟩ := h
  rw [hs] at hs'; cases hs'
  exact hw.listed_member hs hl hn hc

namespace Rd
theorem Pre.live {c : Ctx} {sid : Id} (hp : Pre c sid) {s : Session} (hs : AMap.get c.st.sessions sid = some s) :
    s.deleted = false := hp.inv.noDeleted sid s hs
end Rd
open Rd

theorem getS_indexed_wp {G : Prop} {c : Ctx} {lc : String} {tid : Id} (hi : AMap.get c.st.nicks lc = some tid)
    (hw : G → WInvCore c.st) : (getS c tid).Wp G fun t => AMap.get c.st.sessions tid = some t :=
  getS_wp fun g => ((hw g).index lc tid hi).imp fun _ h => h.1

/-- brute-force walk through a read-only handler: `emits_auto hr` with `hr : … = Res.ok c'` -/
macro "emits_auto" h:ident : tactic =>
  `(tactic| repeat' (first
      | split at $h:ident
      | (obtain ⟨_, _, $h:ident⟩ := Res.bind_eq_ok.1 $h:ident)
      | dsimp only at $h:ident
      | (cases $h:ident; emits_tac; done)))

/-- closes goals `Inert c (sendUser (emit (… c1 …) …) …)` from `Inert c c1` or `WInvCore c.st` in the context, also
through `putChan` of a channel value with the same name and member map (needs `WInvCore c0.st` and
`AMap.get c.st.channels lc = some ch` in the context) -/
macro "inert_tac'" : tactic =>
  `(tactic| repeat (first
      | assumption
      | exact Inert.refl (by assumption)
      | apply Inert.sendUser
      | apply Inert.emit
      | apply Inert.ite
      | (refine Inert.putChan (ch := ?_) ?_ (by assumption) (by assumption) ?_ ?_ <;> try exact rfl)))

macro "inert_auto" h:ident : tactic =>
  `(tactic| repeat' (first
      | split at $h:ident
      | (obtain ⟨_, _, $h:ident⟩ := Res.bind_eq_ok.1 $h:ident)
      | dsimp only at $h:ident
      | (cases $h:ident; inert_tac'; done)))

end Robust.Irc
