import Robust.Irc.Proofs.RcptEntry
import Robust.Irc.Proofs.RcptTopicMode
import Robust.Irc.Proofs.RcptLeave
import Robust.Irc.Proofs.RcptJoin
import Robust.Irc.Proofs.RcptRest
import Robust.Irc.Proofs.CommandTable
/-!
C12: every line that any client command can produce, with its exact recipients — the union of the
per-handler classifications, and the case split over the command table.
-/
namespace Robust.Irc
open Robust AMap

/-- every line a command of a *client* session can produce, by handler; `st` is the state in which the
handler starts, `sid`/`s` the acting session and its stored value, `m` the parsed message -/
inductive ClientLine (st : St) (sid : Id) (s : Session) (m : IrcMsg) (o : Out) : Prop
  /-- a line for the acting session only: the answers of the commands that only answer the caller (PING, ISON,
  USERHOST, LIST, NAMES, WHO, WHOIS, MOTD) and of AWAY.  (The gate's 421/451/461 never reach a handler: at entry level
  they are the `ToOnly` alternative beside `ClientLine`.) -/
  | self (h : ToOnly sid o)
  /-- PRIVMSG / NOTICE and the service aliases (`pm` = the message, for an alias the expanded one) -/
  | privmsg (pm : IrcMsg) (h : PrivmsgLine st sid s pm o)
  | topic (h : TopicLine st sid s m o)
  | mode (h : ModeLine st sid s m o)
  | kick (h : KickLine st sid s m o)
  | part (p0 : String) (hp : m.params[0]? = some p0) (h : PartLine st sid s (splitChar p0 ',') o)
  | join (p0 : String) (hp : m.params[0]? = some p0) (h : JoinLine st sid s (splitChar p0 ',') o)
  | invite (h : InviteLine st sid s m o)
  | knock (h : KnockLine st sid m o)
  | nick (h : NickLine st sid s m o)
  | quit (h : QuitLine st sid s m o)
  | kill (h : KillLine st sid s m o)
  | login (h : LoginLine st sid o)
  | server (h : ServerLine st sid o)

theorem params0_of_le {m : IrcMsg} (h : 1 ≤ m.params.length) : ∃ p0, m.params[0]? = some p0 := by
  cases hm : m.params with
  | nil => rw [hm] at h; simp at h
  | cons a t => exact ⟨a, rfl⟩

/-- **the command table**: whatever handler a client command key selects, all its lines are classified -/
theorem client_handler_out {key fname : String} {mp : Nat} {h : Handler}
    (hmem : (key, fname, mp, false) ∈ Gen.Commands.commands) (hns : startsLowerS key = false)
    (hh : handlerByName fname = some h)
    {c c' : Ctx} {sid : Id} {m : IrcMsg} {s : Session} (hp : Pre c sid) (hn : NI c.st)
    (hs : AMap.get c.st.sessions sid = some s) (hlen : mp ≤ m.params.length)
    (hgate : s.loggedIn = true ∨ key = "NICK" ∨ key = "USER" ∨ key = "PASS" ∨ key = "QUIT" ∨ key = "SERVER")
    (hr : h c sid m = .ok c') : NewOut (ClientLine c.st sid s m) c c' := by
  have hi := hp.inv
  have hw := hp.inv.toWInv
  cases ClientHandler.of_table hmem hh hns with
  | away => exact (cmdAway_out hr).mono fun _ => .self
  | alias => exact (cmdServiceAlias_out hw hs hr).mono fun _ ⟨pm, h⟩ => .privmsg pm h
  | gline => exact (cmdGline_out hp hn hs hr).mono fun _ => .kill
  | invite => exact (cmdInvite_out hi hn hs hr).1.mono fun _ => .invite
  | ison => exact (cmdIson_wp.out hr).2.mono fun _ => .self
  | join =>
    have hl : s.loggedIn = true := by simpa using hgate
    obtain ⟨p0, hp0⟩ := params0_of_le hlen
    exact (cmdJoin_out hp hn hs hl hp0 hr).mono fun _ => .join p0 hp0
  | kick => exact (cmdKick_out hi hn hs hr).mono fun _ => .kick
  | kill => exact (cmdKill_out hp hn hs hr).mono fun _ => .kill
  | knock => exact (cmdKnock_out hi hn hr).2.mono fun _ => .knock
  | list => exact (cmdList_wp.out hr).2.mono fun _ => .self
  | mode => exact (cmdMode_out hi hn hs hr).mono fun _ => .mode
  | motd => exact (cmdMotd_refused c sid m c' hr).newOut.2.mono fun _ => .self
  | names => exact (cmdNames_wp.out hr).2.mono fun _ => .self
  | nick => exact (cmdNick_out hp hn hs hr).1.mono fun _ => .nick
  | oper => exact (cmdOper_out hp hr).mono fun _ => .login
  | part =>
    have hl : s.loggedIn = true := by simpa using hgate
    obtain ⟨p0, hp0⟩ := params0_of_le hlen
    exact (cmdPart_out hp hn hs hl hp0 hr).mono fun _ => .part p0 hp0
  | pass => exact (cmdPass_out hp hr).mono fun _ => .login
  | ping => exact (cmdPing_wp.out hr).2.mono fun _ => .self
  | privmsg => exact (cmdPrivmsg_out hw hs hr).2.mono fun _ => .privmsg m
  | quit => exact ((cmdQuit_spec m hp hn hs).apply hr).1.mono fun _ => .quit
  | server => exact (cmdServer_out hr).mono fun _ => .server
  | topic => exact (cmdTopic_out hi hn hs hr).mono fun _ => .topic
  | user => exact (cmdUser_out hp hr).mono fun _ => .login
  | userhost => exact (cmdUserhost_wp.out hr).2.mono fun _ => .self
  | who => exact (cmdWho_wp.out hr).2.mono fun _ => .self
  | whois => exact (cmdWhois_wp.out hr).2.mono fun _ => .self

end Robust.Irc
