import Robust.Irc.Proofs.KeepsClientA
/-!
The client handlers made to change a field keep every predicate that has an `HLogic` and survives that one change:
OPER (the operator flag), the login that NICK, USER and PASS may complete (which may run OPER), USER (the user
name), PASS, MODE (a chanop flag), NICK (the nick, the index and the member keys), JOIN (a new channel, a new
member).  The change is a hypothesis of the walk, stated for the step that makes it.
-/
namespace Robust.Irc
open Robust AMap

/-- the first two parameters of the message are a `(name, password)` pair of `Config.IRC.Operators` -/
def operCreds (cfg : Config) (m : IrcMsg) : Bool :=
  match m.params[0]?, m.params[1]? with
  | some name, some password => operListed cfg name password
  | _, _ => false

/-- the `oper=<name> <password>` part of the PASS string, which `maybeLogin` turns into an automatic
`OPER <name> <password>` when the session registers, carries a listed pair -/
def loginOperCreds (cfg : Config) (pass : String) : Bool :=
  match parseMessage ("OPER " ++ extractPassword pass "oper") with
  | some parsed => operCreds cfg parsed
  | none => false

/-- `maybeLogin` for `sid` at `c` runs an OPER that is granted: the session registers now (it is not logged in)
and the `oper=` part of its PASS string carries a listed pair -/
def OperLogin (sid : Id) (c : Ctx) : Prop :=
  ∃ s, AMap.get c.st.sessions sid = some s ∧ s.loggedIn = false ∧ loginOperCreds c.st.config s.pass = true

theorem OperLogin.of_eq {sid : Id} {c c' : Ctx} (hs : c'.st.sessions = c.st.sessions) (hc : c'.st.config = c.st.config)
    (h : OperLogin sid c') : OperLogin sid c := by
  unfold OperLogin at h
  rw [hs, hc] at h
  exact h

/-- an update that keeps the PASS string and the login flag: what held after it held before -/
theorem OperLogin.of_modS {sid : Id} {c c1 : Ctx} {f : Session → Session} (h1 : modS c sid f = .ok c1)
    (hf : ∀ s, ((f s).pass, (f s).loggedIn) = (s.pass, s.loggedIn)) (h : OperLogin sid c1) : OperLogin sid c := by
  obtain ⟨s1, hs1, hli, hcr⟩ := h
  obtain ⟨t, ht, _⟩ := modS_eq_ok.1 h1
  obtain ⟨t1, ht1, e⟩ := modS_get_same (g := fun s => (s.pass, s.loggedIn)) hf ht h1
  rw [ht1] at hs1; cases hs1
  obtain ⟨e1, e2⟩ := Prod.mk.inj e
  rw [(modS_frame h1).2.1, e1] at hcr
  exact ⟨t, ht, e2.symm.trans hli, hcr⟩

variable {I : Ctx → Prop} (L : HLogic I) {c : Ctx} {sid : Id} {m : IrcMsg}
include L

/-! ### OPER, login, USER, PASS

OPER turns on the actor's operator flag; it is reached directly, and from NICK, USER and PASS when they complete the
registration of a session whose PASS string has an `oper=` part.  `hoper`: `I` survives that update (`operSession`),
asked for only where the pair is a listed one. -/

theorem cmdOper_keeps
    (hoper : operCreds c.st.config m = true → ∀ ⦃c1 : Ctx⦄, I c1 → (modS c1 sid operSession).Sat I) (hc : I c) :
    (cmdOper c sid m).Sat I := by
  unfold cmdOper
  refine .andThen (L.getS hc) fun s cs => .andThen (param_sat m 0) fun name hn => .andThen (param_sat m 1) fun pw hpw => ?_
  refine .ite (fun _ => .pure (L.srv "464" hc ⟨cs.nick, L.lit clean_lit⟩)) fun hl => ?_
  have hcreds : operCreds c.st.config m = true := by
    unfold operCreds operListed
    rw [hn, hpw]
    simpa using hl
  refine .andThen (hoper hcreds hc) fun c1 h1 => .andThen (L.getS h1) fun s1 cs1 => ?_
  extract_lets c2
  have h2 : I c2 := L.srv "381" h1 ⟨cs1.nick, L.lit clean_lit⟩
  exact .pure (L.srv "MODE" h2 ⟨cs1.nick, L.lit (clean_modeStr _)⟩)

/-- the welcome burst shows the fields of the session as it was read before it was marked logged in -/
theorem loginBanner_keeps {s : Session} (hc : I c) (cs : L.Sess s) : I (loginBanner c sid s) := by
  unfold loginBanner
  extract_lets sn c1 c2 c3 c4 c5 c6 pass
  have hsn : L.Str sn := L.serverName hc
  have h1 : I c1 := L.srv "001" hc ⟨cs.nick, L.lit clean_lit⟩
  have h2 : I c2 := L.srv "002" h1 ⟨cs.nick, (L.lit clean_lit).append hsn⟩
  have h3 : I c3 := L.srv "003" h2 ⟨cs.nick, L.lit clean_lit⟩
  have h4 : I c4 := L.srv "004" h3 ⟨cs.nick, hsn.append (L.lit clean_lit)⟩
  have h5 : I c5 := L.srv "005" h4 ⟨L.lit clean_lit, L.lit clean_lit, L.lit clean_lit, L.lit clean_lit, L.lit clean_lit,
    L.lit clean_lit, L.lit clean_lit⟩
  have h6 : I c6 := L.plain "NICK" h5 ⟨cs.nick, L.lit clean_lit, L.lit clean_lit, cs.user, cs.phost, hsn, cs.svid,
    L.lit clean_lit, cs.realname⟩
  exact ite_ind' (L.relay "PRIVMSG" h6 cs ⟨L.lit clean_lit, (L.lit clean_lit).append (cs.pass.map (clean_extractPassword _))⟩) h6

theorem loginOper_keeps {s : Session}
    (hoper : loginOperCreds c.st.config s.pass = true → ∀ ⦃c1 : Ctx⦄, I c1 → (modS c1 sid operSession).Sat I)
    (hc : I c) : (loginOper c sid s).Sat I := by
  unfold loginOper
  refine .ite' ?_ (.pure hc)
  cases hp : parseMessage ("OPER " ++ extractPassword s.pass "oper") with
  | none => exact .panic _
  | some parsed =>
    refine .ite' (cmdOper_keeps L (fun hcr => hoper ?_) hc) (.pure hc)
    unfold loginOperCreds
    rw [hp]
    exact hcr

theorem maybeLogin_keeps (hoper : OperLogin sid c → ∀ ⦃c1 : Ctx⦄, I c1 → (modS c1 sid operSession).Sat I) (hc : I c) :
    (maybeLogin c sid m).Sat I := by
  rw [maybeLogin_eq]
  refine .andThen (getS_sat c sid) fun s hs => ?_
  have cs := L.sess hc hs
  refine .ite (fun _ => .pure hc) fun hli => .ite' (.pure hc) <| .ite' (.declined _) <| .bind fun c1 e1 => ?_
  have h1 : I c1 := Res.Sat.of_ok e1 (L.modS hc (fun _ => rfl) fun _ _ hs => { hs with })
  refine .andThen (loginOper_keeps L (fun hcr => hoper ⟨s, hs, Bool.eq_false_iff.2 hli, ?_⟩)
    (loginBanner_keeps L h1 cs)) fun c2 h2 => ?_
  · rw [loginBanner_st, (modS_frame e1).2.1] at hcr
    exact hcr
  · exact .andThen (L.modS h2 (fun _ => rfl) fun _ _ hs => { hs with pass := clean_empty }) fun c3 h3 => cmdMotd_keeps L h3

/-- `huser`: `I` survives the new user name (the first word of the first parameter, cut to 30 characters) -/
theorem cmdUser_keeps
    (huser : ∀ u, m.params[0]? = some u → ∀ ⦃c1 : Ctx⦄, I c1 →
      (modS c1 sid fun s => updateIrcPrefix { s with username := truncateUsername u, realname := m.trailing }).Sat I)
    (hoper : OperLogin sid c → ∀ ⦃c1 : Ctx⦄, I c1 → (modS c1 sid operSession).Sat I) (hc : I c) :
    (cmdUser c sid m).Sat I := by
  unfold cmdUser
  refine .andThen (param_sat m 0) fun u hu => .bind fun c1 e1 => ?_
  exact maybeLogin_keeps L (fun h => hoper (h.of_modS e1 fun _ => rfl)) ((huser u hu hc).apply e1)

/-- PASS stores the string the automatic OPER will read: what it grants depends on the new string -/
theorem cmdPass_keeps (hoper : ∀ ⦃c1 : Ctx⦄, I c1 → (modS c1 sid operSession).Sat I) (hc : I c) (hm : L.Msg m) :
    (cmdPass c sid m).Sat I := by
  unfold cmdPass
  refine .andThen (L.modS hc (fun _ => rfl) fun x s hs => ?_) fun c1 h1 => maybeLogin_keeps L (fun _ => hoper) h1
  extract_lets pass pass'
  have hp : Clean pass := ite_ind' (hm.joinParams x) hs.pass
  have hp' : Clean pass' := ite_ind' (Clean.append clean_lit hp) hp
  clear_value pass'
  exact { hs with pass := hp' }

omit L in
theorem banOne_clean {ch : Channel} {add : Bool} {banmask pattern : String} (h : CleanChan ch) (hb : Clean banmask) :
    (banOne ch add banmask pattern).Sat CleanChan := by
  unfold banOne
  cases parseRe pattern.toList with
  | none => exact .declined _
  | some _ =>
    refine .ite' (.ok { h with bans := fun b hb' => ?_ }) <|
      .ok { h with bans := fun b hb' => h.bans b (List.mem_filter.1 hb').1 }
    rcases List.mem_append.1 hb' with hb' | hb'
    · exact h.bans b hb'
    · rw [List.mem_singleton] at hb'; subst hb'; exact hb

omit L in
theorem banBoth_clean {ch : Channel} {add : Bool} {banmask pattern patternAddr : String} (h : CleanChan ch)
    (hb : Clean banmask) : (banBoth ch add banmask pattern patternAddr).Sat CleanChan := by
  unfold banBoth
  exact .andThen (banOne_clean h hb) fun ch1 h1 => .ite' (banOne_clean h1 hb) <| .pure h1

/-- `hmem`: `I` survives the chanop flag that `MODE ±o` sets, in the one channel the command names -/
theorem applyChanMode_keeps {lc : String} (hmem : HLogic.SetsMembersAt I lc) {s : Session} {chn : String} {op q : Bool}
    {mc : ModeCmd}
    (hc : I c) (cs : L.Sess s) (hchn : L.Str chn) (hmode : L.Str mc.mode) (hparam : L.Str mc.param) :
    (applyChanMode c sid s lc chn op mc q).Sat fun r => I r.1 := fun r hr => by
  obtain ⟨c', q', ret⟩ := r
  obtain ⟨ch, hch, h⟩ := applyChanMode_result hr
  have cch := L.chan hc hch
  cases h with
  | banList _ _ h1 =>
    subst h1
    refine L.srv "368" (foldl_invariant _ hc fun c2 p hp h2 => ?_) ⟨cs.nick, hchn, L.lit clean_lit⟩
    obtain ⟨b, hb, rfl⟩ := List.mem_map.1 (dedupSorted_mem hp)
    exact L.srv "367" h2 ⟨cs.nick, hchn, cch.bans b hb⟩
  | notOp => exact L.srv "482" hc ⟨cs.nick, hchn, L.lit clean_lit⟩
  | noCaptcha => exact L.srv "NOTICE" hc ⟨cs.nick, L.lit clean_lit⟩
  | opAbsent => exact L.srv "441" hc ⟨cs.nick, hparam, hchn, L.lit clean_lit⟩
  | unknown =>
    exact L.srv "472" hc ⟨cs.nick, hmode.map fun h => clean_singleton (modeByteChar_clean h), L.lit clean_lit⟩
  | flag | captcha => exact L.putChan hc hch rfl fun x => { cch.clean x with }
  | opSet => exact hmem _ hc hch
  | keyEmpty | opSame => exact hc
  | keySet =>
    have hkey (x : L.text) : CleanChan { ch with key := mc.param } := { cch.clean x with key := hparam x }
    -- the `MODE +k` line is built in the context it started from
    exact L.putChan (L.send (L.putChan hc hch rfl hkey) (L.srvLine "MODE" hc ⟨hchn, L.lit clean_lit, hparam⟩))
      (AMap.get_set_same _ _ _) rfl fun x => { hkey x with }
  | keyClear =>
    exact L.putChan (L.srv "MODE" hc ⟨hchn, L.lit clean_lit, cch.key⟩) hch rfl
      fun x => { cch.clean x with key := clean_empty }
  | ban _ _ hch' =>
    exact L.putChan hc hch ((banBoth_core _ _ _ _ _).apply hch').2
      fun x => (banBoth_clean (cch.clean x) (hparam x)).apply hch'

theorem applyChanModes_keeps {lc : String} (hmem : HLogic.SetsMembersAt I lc) {s : Session} {chn : String} {op : Bool}
    (cs : L.Sess s) (hchn : L.Str chn) (l : List ModeCmd) {c : Ctx} {q : Bool} (hl : L.text → CleanModes l) (hc : I c) :
    (applyChanModes c sid s lc chn op l q).Sat fun r => I r.1 :=
  (applyChanModes_rule (G := False) l hc fun _ mc _ hm hc =>
    .of_sat (applyChanMode_keeps L hmem hc cs hchn (fun x => (hl x mc hm).1) fun x => (hl x mc hm).2) nofun).sat

theorem cmdMode_keeps (hmem : ∀ chn, m.params[0]? = some chn → HLogic.SetsMembersAt I (chanToLower chn)) (hc : I c)
    (hm : L.Msg m) : (cmdMode c sid m).Sat I :=
  (cmdMode_result c sid m).mono fun _ ⟨s, chn, hs, hp, h⟩ => by
    have cs := L.sess hc hs
    have hchn : L.Str chn := hm.params _ (List.mem_of_getElem? hp)
    have loop : ∀ {op q r}, applyChanModes c sid s (chanToLower chn) chn op (normalizeModes m) q = .ok r → I r.1 :=
      (applyChanModes_keeps L (hmem chn hp) cs hchn _ hm.modes hc).apply
    cases h with
    | chanQuery => exact L.srv "324" hc ⟨cs.nick, hchn, L.lit (clean_modeStr _)⟩
    | chanQuiet _ _ _ _ h1 => exact loop h1
    | chanRelay _ _ _ _ h1 =>
      exact L.relay "MODE" (loop h1) cs (.cons hchn (.of_all fun p hp x => ircParams_clean (hm.modes x) p hp))
    | noNick => exact L.srv "442" hc ⟨cs.nick, hchn, L.lit clean_lit⟩
    | otherUser => exact L.srv "502" hc ⟨cs.nick, L.lit clean_lit⟩
    | userQuery _ _ ht => exact L.relay "MODE" hc cs ⟨(L.sess hc ht).nick, L.lit (clean_modeStr _)⟩
    | userSet _ _ ht _ h1 =>
      exact L.relay "MODE" (Res.Sat.of_ok h1 (L.modS hc (fun _ => rfl) fun _ _ hs => { hs with })) cs
        ⟨(L.sess hc ht).nick, fun x => ircParams_head_clean (hm.modes x)⟩

theorem holdCtx_keeps (hc : I c) (k : String) (held : Option SvsHold) : I (holdCtx c k held) := by
  cases held with
  | none => exact hc
  | some _ =>
    exact L.frame hc rfl rfl rfl rfl rfl rfl fun x =>
      all_erase (P := fun h : SvsHold => Clean h.reason) (L.cinv hc x).svsholds _

/-- `hnick`: `I` survives the nick change, which starts after an expired SVSHOLD has been dropped.  `hoper`: as for
`maybeLogin`, which a first nick may lead to. -/
theorem cmdNickTail_keeps {s : Session} {nick : String} {held : Option SvsHold}
    (hnick : ∀ c0 : Ctx, c0.st.sessions = c.st.sessions → L.NickUpd sid nick c0)
    (hoper : OperLogin sid c → ∀ ⦃c1 : Ctx⦄, I c1 → (modS c1 sid operSession).Sat I)
    (hc : I c) (cs : L.Sess s) (hn : L.Str nick) (hv : isValidNickname nick = true) :
    (cmdNickTail c sid m s nick held).Sat I := by
  unfold cmdNickTail
  dsimp only
  have h0 := holdCtx_keeps L hc (nickToLower nick) held
  have hnick0 := hnick _ (holdCtx_frame c (nickToLower nick) held).sessions
  have o0 : OperLogin sid (holdCtx c (nickToLower nick) held) → OperLogin sid c :=
    .of_eq (holdCtx_frame c _ held).sessions (holdCtx_frame c _ held).config
  generalize holdCtx c (nickToLower nick) held = c0 at h0 hnick0 o0
  refine .ite' (.pure h0) <| .bind fun c1 e1 => .bind fun c2 e2 => ?_
  have h2 : I c2 := hnick0 _ _ _ h0 hn hv e1 e2
  refine .ite' (.andThen (L.getS h2) fun s2 _ => .bind fun rc _ => .pure (L.relay "NICK" h2 cs hn)) ?_
  refine maybeLogin_keeps L (fun h => hoper (o0 ?_)) h2
  exact ((h.of_modS e2 fun _ => rfl).of_eq (renameCtx_sessions ..) (renameCtx_frame ..).config).of_modS e1 fun _ => rfl

theorem cmdNick_keeps
    (hnick : ∀ n (c0 : Ctx), c0.st.sessions = c.st.sessions → L.NickUpd sid n c0)
    (hoper : OperLogin sid c → ∀ ⦃c1 : Ctx⦄, I c1 → (modS c1 sid operSession).Sat I) (hc : I c) (hm : L.Msg m) :
    (cmdNick c sid m).Sat I := by
  rw [cmdNick_eq]
  refine .andThen (L.getS hc) fun s cs => ?_
  dsimp only
  have hn : L.Str (m.params.head?.getD "") := hm.headD
  have hd : L.Str (if s.loggedIn then s.nick else "*") := cs.nick.ite (L.lit clean_lit)
  refine .ite' (.pure (L.srv "431" hc (L.lit clean_lit))) ?_
  refine .ite (fun _ => .pure (L.srv "432" hc ⟨hd, hn, L.lit clean_lit⟩)) fun hv => ?_
  have hv : isValidNickname (m.params.head?.getD "") = true := by simpa using hv
  refine .ite' (.pure (L.srv "433" hc ⟨hd, hn, L.lit clean_lit⟩)) ?_
  have tail {held : Option SvsHold} : (cmdNickTail c sid m s _ held).Sat I :=
    cmdNickTail_keeps L (hnick _) hoper hc cs hn hv
  cases hh : AMap.get c.st.svsholds (nickToLower (m.params.head?.getD "")) with
  | none => exact tail
  | some hold => exact .ite' (.pure (L.srv "432" hc ⟨hd, hn, (L.lit clean_lit).append (L.hold hc hh)⟩)) tail

/-- `hnew`: `I` survives the channel that JOIN creates after its limit check.  Besides the context the admission
phase hands on the `MODE +nt` announcement of a new channel, to be sent once the member is in. -/
theorem joinAdmit_keeps (hnew : L.AddsChan) {s : Session} {chn key : String} (hc : I c) (cs : L.Sess s)
    (hchn : L.Str chn) : (joinAdmit c sid s chn key).Sat fun r => I r.1 ∧ OptAll (OptAll L.Line) r.2 := by
  unfold joinAdmit
  dsimp only
  refine .andThen (R := fun r => I r.1 ∧ OptAll L.Line r.2.1) ?_ fun r hr =>
    .ite' (.ok ⟨hr.1, .none⟩) <| .ok ⟨hr.1, .some hr.2⟩
  cases hch : getChan c (chanToLower chn) with
  | none =>
    refine .ite (fun _ => .ok ⟨L.srv "403" hc ⟨cs.nick, hchn, L.lit clean_lit⟩, .none⟩) fun hlim => ?_
    refine .ok ⟨hnew hc hch (room_of_not_full hlim) fun x => ⟨hchn x, clean_empty, clean_empty, clean_empty, bans_nil⟩,
      .some (L.srvLine "MODE" hc ⟨hchn, L.lit clean_lit⟩)⟩
  | some ch =>
    have cch := L.chan hc hch
    refine .ite' (.ok ⟨L.srv "473" hc ⟨cs.nick, cch.name, L.lit clean_lit⟩, .none⟩) ?_
    refine .ite' (.declined _) <| .bind fun isB _ => ?_
    refine .ite' (.ok ⟨L.srv "474" hc ⟨cs.nick, cch.name, L.lit clean_lit⟩, .none⟩) ?_
    exact .ite' (.ok ⟨L.srv "475" hc ⟨cs.nick, hchn, L.lit clean_lit⟩, .none⟩) <| .ok ⟨hc, .none⟩

/-- `hmem`: `I` survives a new chanop flag (the `MODE` that JOIN runs at its end may set one) -/
theorem joinAnnounce_keeps (hmem : HLogic.SetsMembers I) {chn : String} {ch : Channel} {ex : Bool} {mm : Option IrcMsg}
    (hc : I c) (hchn : L.Str chn) (hmm : OptAll L.Line mm) : (joinAnnounce c sid chn ch ex mm).Sat I := by
  unfold joinAnnounce
  refine .andThen (L.getS hc) fun s1 cs1 => .bind fun rc _ => ?_
  extract_lets c1
  have h1 : I c1 := L.relay "JOIN" hc cs1 hchn
  refine .andThen (R := I) ?_ fun c2 h2 => ?_
  · cases mm with
    | none => exact .pure h1
    | some x => exact .bind fun rc _ => .pure (L.send h1 (hmm x rfl))
  · extract_lets c3
    have h3 : I c3 := L.srv "SJOIN" h2 ⟨L.lit clean_lit, hchn, ((L.lit clean_lit).ite (L.lit clean_lit)).append cs1.nick⟩
    have line {cmd : String} (hcmd : Clean cmd := by exact clean_lit) : L.Msg ⟨none, cmd, [chn]⟩ :=
      fun x => .plain (hchn x) hcmd
    exact .andThen (cmdMode_keeps L (fun _ _ => hmem) h3 line) fun c4 h4 => .andThen (cmdTopic_keeps L h4 line) fun c5 h5 =>
      cmdNames_keeps L h5 line

/-- `hmem`: `I` survives the new member, who is a channel operator if the channel is new -/
theorem joinTail_keeps (hmem : HLogic.SetsMembers I) {s : Session} {chn : String} {ex : Bool} {mm : Option IrcMsg}
    (hc : I c) (hchn : L.Str chn) (hmm : OptAll L.Line mm) : (joinTail c sid s chn ex mm).Sat I := by
  unfold joinTail
  dsimp only
  cases hch : getChan c (chanToLower chn) with
  | none => exact .panic _
  | some ch =>
    dsimp only
    refine .andThen (R := fun c2 => I c2 ∧ c2.st.channels = c.st.channels) ?_ fun c2 h2 => ?_
    · exact .ite (fun _ c2 e2 => ⟨Res.Sat.of_ok e2 (L.modS hc (fun _ => rfl) fun _ _ hs => { hs with }), (modS_frame e2).1⟩)
        fun _ => .pure ⟨hc, rfl⟩
    · refine .ite' (.pure h2.1) ?_
      have hch2 : getChan c2 (chanToLower chn) = some ch := (congrArg (AMap.get · (chanToLower chn)) h2.2).trans hch
      exact .andThen (L.modS (hmem _ h2.1 hch2) (fun _ => rfl) fun _ _ hs => { hs with }) fun c3 h3 =>
        joinAnnounce_keeps L hmem h3 hchn hmm

theorem joinOne_keeps (hmem : HLogic.SetsMembers I) (hnew : L.AddsChan) {chn key : String} (hc : I c) (hchn : L.Str chn) :
    (joinOne c sid chn key).Sat I := by
  rw [joinOne_eq]
  refine .andThen (L.getS hc) fun s cs => .ite' (.pure (L.srv "403" hc ⟨cs.nick, hchn, L.lit clean_lit⟩)) ?_
  refine .andThen (joinAdmit_keeps L hnew hc cs hchn) fun r hr => ?_
  obtain ⟨c1, mm⟩ := r
  cases mm with
  | none => exact .pure hr.1
  | some mm => exact joinTail_keeps L hmem hr.1 hchn (hr.2 mm rfl)

theorem cmdJoin_keeps (hmem : HLogic.SetsMembers I) (hnew : L.AddsChan) (hc : I c) (hm : L.Msg m) :
    (cmdJoin c sid m).Sat I := by
  unfold cmdJoin
  exact .andThen hm.param fun p0 hp0 => (joinLoop_rule (G := False) _ hc fun _ x _ hx hc =>
    .of_sat (joinOne_keeps L hmem hnew hc fun t => splitChar_clean ',' (hp0 t) x hx) nofun).sat

end Robust.Irc
