import Robust.Irc.Proofs.PermH2
/-!
Order-independence, handlers 4: `cmdPrivmsg`, `cmdServiceAlias`, `cmdAway`, `cmdIson`, `cmdList`, `cmdPing`,
`cmdUserhost`, `cmdWho`, `cmdWhois`.
-/
namespace Robust.Irc
open Robust
attribute [local irreducible] IrcMsg.render emit sendUser sendSvc

theorem cmdPing_congr : HCongr cmdPing := by
  intro c c' sid m h
  unfold cmdPing
  refine getS_bind h sid (fun s chs inv hs => ?_)
  split <;> ceqs

theorem cmdAway_congr : HCongr cmdAway := by
  intro c c' sid m h
  unfold cmdAway
  refine RRel.bind (modS_congr_upd h sid _) (fun c1 c1' h1 => ?_)
  refine getS_bind h1 sid (fun s chs inv hs => ?_)
  apply RRel.ite <;> ceqs

theorem cmdPrivmsg_congr : HCongr cmdPrivmsg := by
  intro c c' sid m h
  unfold cmdPrivmsg
  refine getS_bind h sid (fun s chs inv hs => ?_)
  apply RRel.ite
  · ceqs
  apply RRel.ite
  · ceqs
  refine RRel.bind_same (fun p0 => ?_)
  apply RRel.ite
  · rcases getChan_split h (chanToLower p0) with ⟨h1, h2⟩ | ⟨ch, n, h1, h2, hch, hk⟩
    · simp only [h1, h2]; ceqs
    · simp only [h1, h2, hch.contains_nicks]
      apply RRel.ite
      · ceqs
      · refine RRel.bind (rcChannelButOne_congr h.st hch sid) (fun rc rc' hrc => ?_)
        ceqs
  apply RRel.ite
  · apply RRel.ite <;> ceqs
  rw [h.st.get_nicks]
  split
  · ceqs
  · rename_i tid _
    refine getS_bind h tid (fun t tchs _ ht => ?_)
    have hcc : (fun ch => chs.contains ch) = (fun ch => s.channels.contains ch) := funext hs.chanContains
    rw [hcc, ← ht.channels.any_eq]
    apply RRel.ite
    · ceqs
    · apply RRel.ite <;> ceqs

theorem cmdServiceAlias_congr : HCongr cmdServiceAlias := by
  intro c c' sid m h
  unfold cmdServiceAlias
  split
  · exact .ok h
  · split
    · exact .panic
    · exact cmdPrivmsg_congr _ _ _ _ h

theorem cmdIson_congr : HCongr cmdIson := by
  intro c c' sid m h
  unfold cmdIson
  refine getS_bind h sid (fun s chs inv hs => ?_)
  simp only [h.st.get_nicks]
  refine RRel.bind (R := fun a b => a = b) ?_ (fun on on' hon => ?_)
  · refine mapRes_eq_same _ (fun n _ => ?_)
    split
    · rename_i tid _
      refine getS_bind h tid (fun t chs inv ht => ?_)
      exact .ok rfl
    · exact .ok rfl
  · subst hon
    ceqs

theorem cmdUserhost_congr : HCongr cmdUserhost := by
  intro c c' sid m h
  unfold cmdUserhost
  refine getS_bind h sid (fun s chs inv hs => ?_)
  simp only [h.st.get_nicks]
  refine RRel.bind (R := fun a b => a = b) ?_ (fun on on' hon => ?_)
  · refine mapRes_eq_same _ (fun n _ => ?_)
    split
    · rename_i tid _
      refine getS_bind h tid (fun t chs inv ht => ?_)
      exact .ok rfl
    · exact .ok rfl
  · subst hon
    ceqs

theorem cmdList_congr : HCongr cmdList := by
  intro c c' sid m h
  unfold cmdList
  refine getS_bind h sid (fun s chs inv hs => ?_)
  have hf : (fun lc => (getChan c' lc).isSome) = (fun lc => (getChan c lc).isSome) :=
    funext (fun lc => ((getChan_congr h lc).isSome_eq).symm)
  simp -zeta only [hs.chanContains, hf, ← sortStr_eq_of_perm h.st.channels.keys_perm]
  extract_lets filter channels c1 c1'
  have h1 : CEq c1 c1' := by
    refine foldl_rel_same (E := CEq) channels (fun d d' lc _ hd => ?_) h
    rcases getChan_split hd lc with ⟨h1, h2⟩ | ⟨ch, n, h1, h2, hch, hk⟩
    · simp only [h1, h2]; exact hd
    · simp only [h1, h2, hch.length_nicks]
      split
      · exact hd
      · ceqs
  clear_value c1 c1'
  ceqs

theorem cmdWho_congr : HCongr cmdWho := by
  intro c c' sid m h
  unfold cmdWho
  refine getS_bind h sid (fun s chs inv hs => ?_)
  simp only [hs.chanContains, h.st.get_nicks]
  split
  · ceqs
  · rename_i channelname _
    rcases getChan_split h (chanToLower channelname) with ⟨h1, h2⟩ | ⟨ch, n, h1, h2, hch, hk⟩
    · simp only [h1, h2]; ceqs
    · simp only [h1, h2, hch.contains_nicks]
      apply RRel.ite
      · ceqs
      · refine RRel.bind (R := PermR (fun a b => a = b)) ?_ (fun es es' hes => ?_)
        · refine mapRes_perm_rel hch.nicks_perm (fun e _ => ?_) (fun e _ w => ?_)
          · split
            · exact .panic
            · rename_i mid _
              refine getS_bind h mid (fun ms chs inv hms => ?_)
              exact RRel.refl (fun _ => rfl) _
          · split
            · intro h; cases h
            · rename_i mid _
              unfold getS
              split
              · simp only [Res.bind]
                split <;> intro h <;> cases h
              · intro h; cases h
        · rw [sortStr_eq_of_perm (hes.perm.filterMap id)]
          refine RRel.bind (R := CEq) ?_ (fun c1 c1' h1 => ?_)
          · refine foldlM_rrel_same _ (fun d d' nick _ hd => ?_) h
            rw [hd.st.get_nicks, hd.serverName]
            split
            · exact .panic
            · rename_i mid _
              refine getS_bind hd mid (fun ms chs inv hms => ?_)
              ceqs
          · rw [srv_congr h]
            ceqs

theorem cmdWhois_congr : HCongr cmdWhois := by
  intro c c' sid m h
  unfold cmdWhois
  refine getS_bind h sid (fun s chs inv hs => ?_)
  refine RRel.bind_same (fun p0 => ?_)
  simp -zeta only [hs.chanContains, h.st.get_nicks]
  split
  · ceqs
  · rename_i tid _
    refine getS_bind h tid (fun t chs inv ht => ?_)
    extract_lets c1 d idle signon c1'
    ceq_let h1 c1 c1'
    refine RRel.bind (R := PermR (fun a b => a = b)) ?_ (fun es es' hes => ?_)
    · refine mapRes_perm_rel ht.channels (fun lc _ => ?_) (fun lc _ w => ?_)
      · rcases getChan_split h1 lc with ⟨h2, h3⟩ | ⟨ch, n, h2, h3, hch, hk⟩
        · simp only [h2, h3]; exact .panic
        · simp only [h2, h3, hch.get_nicks]
          exact RRel.refl (fun _ => rfl) _
      · split
        · intro h; cases h
        · split
          · intro h; cases h
          · split <;> intro h <;> cases h
    · rw [sortStr_eq_of_perm (hes.perm.filterMap id)]
      extract_lets channels c2 c3 c4 c5 c6 c7 c2' c3' c4' c5' c6' c7'
      have h2 : CEq c2 c2' := CEq.ite (by ceqs) h1
      have h3 : CEq c3 c3' := sendUser_srv_congr h2 sid _ (by rw [h2.serverName])
      have h4 : CEq c4 c4' := CEq.ite (by ceqs) h3
      have h5 : CEq c5 c5' := CEq.ite (by ceqs) h4
      clear_value c2 c2' c3 c3' c4 c4' c5 c5'
      ceq_let h6 c6 c6'
      have h7 : CEq c7 c7' := CEq.ite (by ceqs) h6
      clear_value c7 c7'
      apply RRel.ite
      · exact .declined
      · ceqs

end Robust.Irc
