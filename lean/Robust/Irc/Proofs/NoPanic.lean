import Robust.Irc.Send
/-!
`NoPanic r`: the `Res` computation `r` does not end in a panic.  It is what `ClientSafe` says of a handler
(`clientSafe_iff`); the theorems about handlers have it as the `safe` half of `Res.Wp` (`WpCore.lean`).  `Rd.NoPanic`
(`H2Base.lean`) and `Srv.NoPanic` (`H3a.lean`) are the same definition in the namespaces of the other two groups of
handlers; `cmdPing_noPanic` and `cmdTopic_noPanic_query` are stated with the former, no statement about a handler with the latter.
-/
namespace Robust.Irc

def NoPanic {α : Type} (r : Res α) : Prop := ∀ site, r ≠ .panic site

theorem NoPanic.ok {α : Type} (a : α) : NoPanic (Res.ok a) := fun _ h => by cases h
theorem NoPanic.declined {α : Type} (w : String) : NoPanic (Res.declined w : Res α) := fun _ h => by cases h
end Robust.Irc
