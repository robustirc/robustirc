import Robust.Irc.Proofs.Priv
import Robust.Irc.Proofs.H2b
import Robust.Irc.Proofs.H2d
import Robust.Irc.Proofs.H2e
/-!
JOIN of an existing channel (property C13): the admission condition `joinAllowed`, what the admission
phase does with it (`joinAdmit_existing`: condition false ⇒ nothing happens but a numeric to the
actor) and the one-shot invitation (`joinOne_admitted`).

In the model the captcha path (`+x` without an invitation) is `.declined`: the theorems are
conditional on `.ok`, so for `+x` channels they say "an invitation is required".
-/
namespace Robust.Irc
open Robust AMap

/-- the admission condition of `joinOne` for an existing channel `ch` (stored under `lc`):
invitation on `+i`, invitation on `+x` (the captcha alternative is outside the model), no ban
matches `nick!user@host` or `nick!user@remoteAddr`, exact key on `+k` -/
def joinAllowed (s : Session) (ch : Channel) (lc key : String) : Bool :=
  (!ch.modes.contains 'i' || s.invitedTo.contains lc) &&
  (!ch.modes.contains 'x' || s.invitedTo.contains lc) &&
  (match isBanned ch.bans s.ircPrefix.str (s.nick ++ "!" ++ s.username ++ "@" ++ s.remoteAddr) with
    | .ok b => !b
    | _ => false) &&
  (!ch.modes.contains 'k' || ch.key == key)

/-- the condition, written with the tests in the form `joinOne` makes them -/
theorem joinAllowed_eq (s : Session) (ch : Channel) (lc key : String) :
    joinAllowed s ch lc key =
      (!(ch.modes.contains 'i' && !s.invitedTo.contains lc) && !(ch.modes.contains 'x' && !s.invitedTo.contains lc) &&
      (match isBanned ch.bans s.ircPrefix.str (s.nick ++ "!" ++ s.username ++ "@" ++ s.remoteAddr) with
        | .ok b => !b
        | _ => false) &&
      !(ch.modes.contains 'k' && ch.key != key)) := by
  have imp : ∀ a b : Bool, (!a || b) = !(a && !b) := by decide
  unfold joinAllowed
  rw [imp, imp, imp]
  rfl

/-- the admission phase for an existing channel: a numeric to the actor and `continue` if the
condition fails, nothing at all if it holds -/
theorem joinAdmit_existing {c : Ctx} {sid : Id} {s : Session} {chn key : String} {ch : Channel}
    (hch : AMap.get c.st.channels (chanToLower chn) = some ch) :
    (joinAdmit c sid s chn key).Sat fun r =>
      (joinAllowed s ch (chanToLower chn) key = false ∧ r.2 = none ∧ Refused c r.1 sid) ∨
      (joinAllowed s ch (chanToLower chn) key = true ∧ r.2 = some none ∧ r.1 = c) := by
  unfold joinAdmit
  dsimp only
  rw [getChan_eq, hch, joinAllowed_eq]
  dsimp only
  -- a refusing branch: its test makes one conjunct of the condition `false`
  have refuse : ∀ {m : IrcMsg} {b : Bool}, b = false →
      ((Res.ok (sendUser c sid m, none, true) : Res (Ctx × Option IrcMsg × Bool)) >>= fun r =>
        if r.2.2 = true then Res.ok (r.1, none) else Res.ok (r.1, some r.2.1)).Sat fun r =>
          (b = false ∧ r.2 = none ∧ Refused c r.1 sid) ∨ (b = true ∧ r.2 = some none ∧ r.1 = c) :=
    fun hb => .ok (.inl ⟨hb, rfl, .reply c sid _⟩)
  by_cases hi : (ch.modes.contains 'i' && !s.invitedTo.contains (chanToLower chn)) = true
  · rw [if_pos hi, hi]
    exact refuse rfl
  rw [if_neg hi, Bool.eq_false_iff.2 hi]
  by_cases hx : (ch.modes.contains 'x' && !s.invitedTo.contains (chanToLower chn)) = true
  · rw [if_pos hx]
    exact .declined _
  rw [if_neg hx, Bool.eq_false_iff.2 hx]
  cases hb : isBanned ch.bans s.ircPrefix.str (s.nick ++ "!" ++ s.username ++ "@" ++ s.remoteAddr) with
  | panic site => exact .panic site
  | declined why => exact .declined why
  | ok isB =>
    cases isB with
    | true => exact refuse rfl
    | false =>
      by_cases hk : (ch.modes.contains 'k' && ch.key != key) = true
      · rw [hk]
        exact refuse rfl
      · rw [Bool.eq_false_iff.2 hk]
        exact .ok (.inr ⟨rfl, rfl, rfl⟩)

theorem joinAnnounce_emits {c0 c : Ctx} {sid : Id} {chn : String} {ch : Channel} {ex : Bool} {mm : Option IrcMsg}
    (h : Emits c0 c) : (joinAnnounce c sid chn ch ex mm).Sat (Emits c0) :=
  (joinAnnounce_wp (G := False) nofun nofun).sat.mono fun _ => h.trans

/-- JOIN of an existing channel that is admitted: the invitation for that channel is consumed on
`+i`/`+x` channels (whether or not the session already was a member); nothing else of the session
changes except that the channel is added to its channel list -/
theorem joinOne_admitted {c : Ctx} {sid : Id} {s : Session} {chn key : String} {ch : Channel}
    (hs : AMap.get c.st.sessions sid = some s) (hid : s.id = sid)
    (hv : isValidChannel chn = true)
    (hch : AMap.get c.st.channels (chanToLower chn) = some ch)
    (hyes : joinAllowed s ch (chanToLower chn) key = true) :
    (joinOne c sid chn key).Sat fun c' => ∃ s', AMap.get c'.st.sessions sid = some s' ∧
      s'.invitedTo = (if ch.modes.contains 'i' || ch.modes.contains 'x'
        then s.invitedTo.filter (· ≠ chanToLower chn) else s.invitedTo) ∧
      s'.operator = s.operator ∧ s'.server = s.server := by
  rw [joinOne_eq, hv]
  refine .bindEq (getS_of_get hs) (.ite (fun e => absurd e (by decide)) fun _ => ?_)
  refine (joinAdmit_existing hch).andThen fun r h => ?_
  rcases h with ⟨h, _, _⟩ | ⟨_, hmm, hc1⟩
  · rw [hyes] at h
    cases h
  rw [show r = (c, some none) from Prod.ext hc1 hmm]
  unfold joinTail
  dsimp only
  rw [getChan_eq, hch]
  refine .andThen (R := fun c2 => c2.st.channels = c.st.channels ∧ ∃ s2, AMap.get c2.st.sessions sid = some s2 ∧
      s2.id = sid ∧ s2.invitedTo = (if ch.modes.contains 'i' || ch.modes.contains 'x'
        then s.invitedTo.filter (· ≠ chanToLower chn) else s.invitedTo) ∧
      s2.operator = s.operator ∧ s2.server = s.server) ?_ fun c2 ⟨_, s2, hg2, hid2, hinv2, hop2, hsv2⟩ => ?_
  · refine .ite (fun hix => fun c2 h2 => ?_) fun hix => .pure ⟨rfl, s, hs, hid, by rw [if_neg hix], rfl, rfl⟩
    obtain ⟨_, _, e⟩ := modS_eq_ok.1 h2
    exact ⟨by rw [e]; rfl, _, modS_get_self hs hid h2, hid, by rw [if_pos hix], rfl, rfl⟩
  · refine .ite (fun _ => .pure ⟨s2, hg2, hinv2, hop2, hsv2⟩) fun _ => .bind fun c3 h3 => ?_
    have hg3 := modS_get_self (c := putChan c2 _ _) hg2 hid2 h3
    refine (joinAnnounce_emits (Emits.refl c3)).mono fun c4 e => ?_
    rw [e.st]
    exact ⟨_, hg3, hinv2, hop2, hsv2⟩

/-! ### `cmdJoin` with a single channel name -/

theorem splitChar_go_no_sep (sep : Char) : ∀ (cs cur : List Char) (acc : List String), sep ∉ cs →
    splitChar.go sep cs cur acc = (String.ofList (cur.reverse ++ cs) :: acc).reverse
  | [], cur, acc, _ => by simp [splitChar.go]
  | x :: rest, cur, acc, h => by
    have hx : x ≠ sep := fun e => h (by rw [e]; exact List.mem_cons_self ..)
    have hr : sep ∉ rest := fun e => h (List.mem_cons_of_mem _ e)
    rw [splitChar.go, if_neg hx, splitChar_go_no_sep sep rest (x :: cur) acc hr]
    simp

theorem splitChar_single (s : String) (sep : Char) (h : sep ∉ s.toList) : splitChar s sep = [s] := by
  unfold splitChar
  rw [splitChar_go_no_sep sep _ _ _ h]
  simp

/-- the key that `cmdJoin` pairs with the first channel name -/
def firstJoinKey (m : IrcMsg) : String :=
  ((if m.params.length > 1 then splitChar ((m.params[1]?).getD "") ',' else [])[0]?).getD ""

theorem cmdJoin_single {c : Ctx} {sid : Id} {m : IrcMsg} {chn : String}
    (hp0 : m.params[0]? = some chn) (hc : ',' ∉ chn.toList) :
    cmdJoin c sid m = joinOne c sid chn (firstJoinKey m) >>= fun c => Res.ok c := by
  unfold cmdJoin firstJoinKey
  simp only [param, hp0, Res.ok_bind, splitChar_single chn ',' hc]
  unfold joinLoop
  simp only [joinLoop]

theorem cmdJoin_single_ok {c c' : Ctx} {sid : Id} {m : IrcMsg} {chn : String}
    (hp0 : m.params[0]? = some chn) (hc : ',' ∉ chn.toList) (hr : cmdJoin c sid m = .ok c') :
    joinOne c sid chn (firstJoinKey m) = .ok c' := by
  rw [cmdJoin_single hp0 hc] at hr
  obtain ⟨c1, h1, hr⟩ := Res.bind_eq_ok.1 hr
  cases hr
  exact h1

end Robust.Irc
