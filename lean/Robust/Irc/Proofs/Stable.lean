import Robust.Irc.Proofs.NInv
import Robust.Irc.Proofs.ResSat
/-!
Predicates on the state that survive the handlers' ordinary updates.

Apart from the few handlers made for it (NICK, USER, OPER, SERVER, the services' NICK and SVSNICK), a
handler never changes a stored session's id, duplicate-detection marker, privilege flags, user name,
nick or prefix (`Session.kept`), never stores a session under a new key, stores channels only under
keys that are present (JOIN apart) or erases them, sets no channel-operator flag (MODE, JOIN and NICK apart:
`ChKeep`), and leaves the configuration (GLINE apart) and `lastProcessed` alone.  `Stable P` says that `P` survives exactly these updates; it is all a walk
through a handler needs to know of `P`.  (`setSession` stores the new value under its own id, as `putS` does; that
this is the key it was read from is part of the instances that read the keys: they carry `SessWf`.)  The marker and id frame (`Frm`), the origin of the privilege
flags (`Flg`), the bound on user names (`UInv`), the derived prefix (`PInv`), the two limits
(`ChanLe`, `SessLe`) and the origin of the channel-operator flags (`OpsLe`, `PrivHist.lean`) are instances.

The handlers made for a field take closure under their one update as a hypothesis: `Upd` (one session is
overwritten), `NickUpd` (a nick change), `NewChan` (a channel is created below the limit), `ChanAny` (a stored
channel gets a value that may carry a new channel-operator flag).
-/
namespace Robust.Irc
open Robust AMap

/-- the fields of a stored session that only the handlers made for them change -/
def Session.kept (s : Session) : Id × Nat × Bool × Bool × String × String × Prefix :=
  (s.id, s.lastClientMessageId, s.operator, s.server, s.username, s.nick, s.ircPrefix)

namespace Session
variable {v s : Session} (h : v.kept = s.kept)
include h
theorem kept_id : v.id = s.id := congrArg (·.1) h
theorem kept_marker : v.lastClientMessageId = s.lastClientMessageId := congrArg (·.2.1) h
theorem kept_operator : v.operator = s.operator := congrArg (·.2.2.1) h
theorem kept_server : v.server = s.server := congrArg (·.2.2.2.1) h
theorem kept_username : v.username = s.username := congrArg (·.2.2.2.2.1) h
theorem kept_nick : v.nick = s.nick := congrArg (·.2.2.2.2.2.1) h
theorem kept_ircPrefix : v.ircPrefix = s.ircPrefix := congrArg (·.2.2.2.2.2.2) h
end Session

/-- an update of a session that every `Stable` predicate survives (closed by `fun _ => rfl`) -/
def SKeep (f : Session → Session) : Prop := ∀ s, (f s).kept = s.kept

def memFlag (ch : Channel) (n : String) : Bool :=
  match AMap.get ch.nicks n with
  | some mem => mem.chanop
  | none => false

/-- the new channel value sets no chanop flag: all updates of a stored channel but MODE ±o and JOIN (topic, modes,
key, bans, removal of a member) -/
def ChKeep (ch0 ch : Channel) : Prop := ∀ n, memFlag ch n = true → memFlag ch0 n = true

theorem ChKeep.of_nicks {ch0 ch : Channel} (h : ch.nicks = ch0.nicks) : ChKeep ch0 ch := fun n hn => by
  unfold memFlag at hn ⊢; rw [← h]; exact hn

theorem ChKeep.erase (ch : Channel) (k : String) : ChKeep ch { ch with nicks := AMap.erase ch.nicks k } := fun n hn => by
  unfold memFlag at hn
  dsimp only at hn
  rw [AMap.get_erase] at hn
  by_cases h : n = k
  · rw [if_pos h] at hn; cases hn
  · rw [if_neg h] at hn; exact hn

structure Stable (P : St → Prop) : Prop where
  /-- `nicks`, `svsholds`, `serverSessions` and `serverName` are not read -/
  congr : ∀ {st st' : St}, P st → st'.sessions = st.sessions → st'.channels = st.channels →
    st'.config = st.config → st'.lastProcessed = st.lastProcessed → P st'
  /-- overwrite a stored session; like `putS`, under the id of the new value -/
  setSession : ∀ {st : St} {k : Id} {s v : Session}, P st → AMap.get st.sessions k = some s → v.kept = s.kept →
    P { st with sessions := AMap.set st.sessions v.id v }
  mapSessions : ∀ {st : St} (f : Session → Session), P st → SKeep f →
    P { st with sessions := st.sessions.map fun e => (e.1, f e.2) }
  /-- overwrite a stored channel by a value that sets no chanop flag: the key is present, so the number of
  channels stays -/
  setChannel : ∀ {st : St} {lc : String} {ch0 : Channel} (ch : Channel), P st →
    AMap.get st.channels lc = some ch0 → ChKeep ch0 ch → P { st with channels := AMap.set st.channels lc ch }
  eraseChannel : ∀ {st : St} (lc : String), P st → P { st with channels := AMap.erase st.channels lc }

/-- closure under the updates that can set a chanop flag: an arbitrary value over a stored channel (MODE ±o, the
member a JOIN adds), re-keying of the member lists (NICK).  Asked for only of the handlers that do this
(`Special.chanAny`, `Stable.nickUpd`). -/
structure ChanAny (P : St → Prop) : Prop where
  setChannel : ∀ {st : St} {lc : String} {ch0 : Channel} (ch : Channel), P st →
    AMap.get st.channels lc = some ch0 → P { st with channels := AMap.set st.channels lc ch }
  mapChannels : ∀ {st : St} (g : Channel → Channel), P st →
    P { st with channels := st.channels.map fun e => (e.1, g e.2) }

def Upd (P : St → Prop) (tid : Id) (f : Session → Session) : Prop :=
  ∀ ⦃c : Ctx⦄, P c.st → (modS c tid f).Sat fun c' => P c'.st

/-- a function on sessions that keeps the id and the duplicate-detection marker (NICK, USER, OPER, SERVER
change neither) -/
def MkKeep (f : Session → Session) : Prop :=
  ∀ s, (f s).id = s.id ∧ (f s).lastClientMessageId = s.lastClientMessageId

/-- `P` survives a nick change of the session `tid` that starts at `c`: the new nick is stored, the index
and the member lists are re-keyed, then the prefix is derived anew (`P` need not hold in between) -/
def NickUpd (P : St → Prop) (tid : Id) (n : String) (c : Ctx) : Prop :=
  ∀ ⦃c1 c2 : Ctx⦄ (lcnew old : String) (b : Bool), P c.st → modS c tid (fun s => { s with nick := n }) = .ok c1 →
    modS (renameCtx c1 tid lcnew old b) tid updateIrcPrefix = .ok c2 → P c2.st

/-- what OPER stores over the actor's session -/
def operSession (s : Session) : Session := { s with operator := true, modes := modeSet s.modes 'o' true }

/-- `P` survives storing a channel under a new key while the number of channels is below the limit
(JOIN and the services' JOIN and SVSJOIN check this before they create a channel) -/
def NewChan (P : St → Prop) : Prop :=
  ∀ {st : St} (lc : String) (ch : Channel), P st → AMap.get st.channels lc = none →
    (st.config.maxChannels = 0 ∨ st.channels.length < st.config.maxChannels) →
    P { st with channels := AMap.set st.channels lc ch }

/-- the limit test of JOIN (and of the services' JOIN and SVSJOIN) has passed: there is no limit, or there is room -/
theorem room_of_not_full {len max : Nat} (h : ¬(decide (len ≥ max) && decide (max > 0)) = true) :
    max = 0 ∨ len < max := by
  simp only [ge_iff_le, gt_iff_lt, Bool.and_eq_true, decide_eq_true_eq, not_and, Nat.not_lt, Nat.le_zero_eq] at h
  by_cases hz : max = 0
  · exact .inl hz
  · exact .inr (by have := mt h hz; omega)

theorem modS_frame {c c' : Ctx} {tid : Id} {f : Session → Session} (hr : modS c tid f = .ok c') :
    c'.st.channels = c.st.channels ∧ c'.st.config = c.st.config ∧ c'.st.lastProcessed = c.st.lastProcessed := by
  obtain ⟨s, _, rfl⟩ := modS_eq_ok.1 hr
  exact ⟨rfl, rfl, rfl⟩

namespace Stable
variable {P : St → Prop} (hP : Stable P)
include hP

theorem modS_keep {c : Ctx} {tid : Id} {f : Session → Session} (h : P c.st) (hf : SKeep f) :
    (modS c tid f).Sat fun c' => P c'.st :=
  (modS_sat c tid f).mono fun _ ⟨s, hs, e⟩ => e ▸ hP.setSession h hs (hf s)

theorem of_modS {c c' : Ctx} {tid : Id} {f : Session → Session} (h : P c.st) (hr : modS c tid f = .ok c')
    (hf : SKeep f) : P c'.st :=
  (hP.modS_keep h hf).apply hr

theorem putChan {c : Ctx} {lc : String} {ch0 : Channel} (h : P c.st)
    (hg : AMap.get c.st.channels lc = some ch0) {ch : Channel} (hk : ChKeep ch0 ch) : P (putChan c lc ch).st :=
  hP.setChannel ch h hg hk

theorem maybeDeleteChannel {c : Ctx} (h : P c.st) (lc : String) : P (maybeDeleteChannel c lc).st := by
  unfold Robust.Irc.maybeDeleteChannel
  split
  · exact h
  · split
    · exact h
    · rename_i ch _ _
      exact hP.mapSessions (fun s => { s with invitedTo := s.invitedTo.filter (· ≠ chanToLower ch.name) })
        (hP.eraseChannel _ h) (fun _ => rfl)

theorem leaveChannel {c : Ctx} (h : P c.st) (lc lcn : String) (tid : Id) :
    (leaveChannel c lc lcn tid).Sat fun c' => P c'.st := by
  unfold Robust.Irc.leaveChannel
  cases hch : getChan c lc with
  | none => exact .panic _
  | some ch =>
    exact hP.modS_keep (hP.maybeDeleteChannel (hP.putChan h hch (.erase ch lcn)) lc)
      fun _ => rfl

theorem deleteSession {c : Ctx} (h : P c.st) (sid : Id) : (deleteSession c sid).Sat fun c' => P c'.st := by
  unfold Robust.Irc.deleteSession
  refine .bind fun s _ => ?_
  refine hP.modS_keep (hP.congr (st := (c.st.channels.foldl _ c).st) ?_ rfl rfl rfl rfl) fun _ => rfl
  refine foldl_invariant (I := fun c : Ctx => P c.st) _ h fun c1 e _ h1 => ?_
  cases hch : getChan c1 e.1 with
  | none => exact h1
  | some ch =>
    exact hP.maybeDeleteChannel (hP.putChan h1 hch (.erase ch (nickToLower s.nick))) _

theorem renameCtx (hA : ChanAny P) {c : Ctx} (h : P c.st) (tid : Id) (lcnew old : String) (b : Bool) :
    P (renameCtx c tid lcnew old b).st := by
  unfold Robust.Irc.renameCtx
  cases b
  · exact hP.congr h rfl rfl rfl rfl
  · exact hP.congr (hA.mapChannels (rekeyCh old lcnew) h) rfl rfl rfl rfl

theorem nickUpd (hA : ChanAny P) {tid : Id} {n : String} (hn : Upd P tid fun s => { s with nick := n }) (hu : Upd P tid updateIrcPrefix)
    (c : Ctx) : NickUpd P tid n c :=
  fun _ _ lcnew old b h h1 h2 => (hu (hP.renameCtx hA ((hn h).apply h1) tid lcnew old b)).apply h2

end Stable

theorem maybeDeleteSession_sub {st : St} (sid : Id) (hnd : (AMap.keys st.sessions).Nodup) {id : Id} {s : Session}
    (hg : AMap.get (maybeDeleteSession st sid).sessions id = some s) : AMap.get st.sessions id = some s :=
  ((get_maybeDeleteSession hnd).1 hg).1

def SessAll (Q : Session → Prop) (st : St) : Prop := ∀ id s, AMap.get st.sessions id = some s → Q s

namespace SessAll
variable {Q : Session → Prop}

theorem congr {st st' : St} (h : SessAll Q st) (hs : st'.sessions = st.sessions) : SessAll Q st' := by
  unfold SessAll at *; rw [hs]; exact h

theorem setSession {st st' : St} (h : SessAll Q st) {k : Id} {v : Session} (hv : Q v)
    (hs : st'.sessions = AMap.set st.sessions k v) : SessAll Q st' := by
  intro id s hg
  rw [hs] at hg
  rcases AMap.get_of_get_set hg with ⟨_, rfl⟩ | ⟨_, hg⟩
  · exact hv
  · exact h id s hg

theorem modS {c c' : Ctx} {tid : Id} {f : Session → Session} (h : SessAll Q c.st)
    (hr : Robust.Irc.modS c tid f = Res.ok c')
    (hf : ∀ s, AMap.get c.st.sessions tid = some s → Q s → Q (f s)) : SessAll Q c'.st := by
  obtain ⟨s, hs, rfl⟩ := modS_eq_ok.1 hr
  exact h.setSession (hf s hs (h tid s hs)) rfl

theorem mapSessions {st st' : St} (h : SessAll Q st) {f : Session → Session} (hf : ∀ s, Q s → Q (f s))
    (hs : st'.sessions = st.sessions.map fun e => (e.1, f e.2)) : SessAll Q st' := by
  intro id s hg
  obtain ⟨s0, hg0, rfl⟩ := AMap.get_of_get_map_val (hs ▸ hg)
  exact hf s0 (h id s0 hg0)

/-- `Q` reads only fields that the ordinary updates keep -/
theorem stable (hQ : ∀ {s v : Session}, v.kept = s.kept → Q s → Q v) : Stable (SessAll Q) where
  congr h hs _ _ _ := h.congr hs
  setSession h hs hv := h.setSession (hQ hv (h _ _ hs)) rfl
  mapSessions _ h hf := h.mapSessions (fun s => hQ (hf s)) rfl
  setChannel _ h _ _ := h
  eraseChannel _ h := h

theorem chanAny : ChanAny (SessAll Q) := ⟨fun _ h _ => h, fun _ h => h⟩

theorem upd (tid : Id) {f : Session → Session} (hf : ∀ s, Q s → Q (f s)) : Upd (SessAll Q) tid f :=
  fun _ h _ hr => h.modS hr fun s _ => hf s

theorem newChan : NewChan (SessAll Q) := fun _ _ h _ _ => h

theorem createSession {st st' : St} {id : Id} {auth : String} {ts : Int} (h : SessAll Q st)
    (h0 : Q { id := id, auth := auth, created := ts, lastActivity := ts, lastNonPing := ts, svid := "0" })
    (hr : Robust.Irc.createSession st id auth ts = some st') : SessAll Q st' := by
  rw [createSession_eq hr]
  exact h.setSession h0 rfl

theorem updateLastClientMessageID {st st' : St} {e : Entry} (h : SessAll Q st)
    (hQ : ∀ s (a : Int) (b : Nat) (c : Int), Q s →
      Q { s with lastActivity := a, lastClientMessageId := b, lastNonPing := c })
    (hr : Robust.Irc.updateLastClientMessageID st e = some st') : SessAll Q st' := by
  unfold Robust.Irc.updateLastClientMessageID at hr
  cases hg : AMap.get st.sessions e.session with
  | none => simp [hg] at hr
  | some s =>
    simp only [hg, Option.some.injEq] at hr
    subst hr
    exact h.setSession (hQ s _ _ _ (h _ s hg)) rfl

theorem maybeDeleteSession {st : St} (sid : Id) (h : SessAll Q st) (hnd : (AMap.keys st.sessions).Nodup) :
    SessAll Q (Robust.Irc.maybeDeleteSession st sid) :=
  fun id s hg => h id s (maybeDeleteSession_sub sid hnd hg)

end SessAll

end Robust.Irc
