import Robust.Irc.Proofs.FrameBasic
/-!
Order-independence, part 1: generic relations.

* `ORel R`  – relation on `Option` lifted from `R`;
* `RRel R`  – relation on `Res`: same kind of result (`ok`/`panic`/`declined`), `R` on the values;
* `All2 R`  – pointwise relation on lists (core has no `Forall₂`);
* `PermR R` – permutation up to `R` (`∃ mid, l ~ mid ∧ All2 R mid l'`);
* `MEq R`   – the *working* relation on association lists: both have duplicate-free keys and
              `get` agrees up to `R` (with duplicate-free keys this is `PermR` on the entries);
              defined in `PermMap`, with the congruence lemmas of the list primitives (`mapRes`,
              `foldlM`, folds with commuting steps, `mergeSort`, `find?`, `any`, `all`).
-/

namespace Robust.Irc
open Robust

inductive ORel {α β : Type} (R : α → β → Prop) : Option α → Option β → Prop
  | nn : ORel R Option.none Option.none
  | ss {a : α} {b : β} : R a b → ORel R (Option.some a) (Option.some b)

namespace ORel
variable {α β : Type} {R : α → β → Prop}

theorem cases' {o : Option α} {o' : Option β} (h : ORel R o o') :
    (o = Option.none ∧ o' = Option.none) ∨ ∃ a b, o = Option.some a ∧ o' = Option.some b ∧ R a b := by
  cases h with
  | nn => exact Or.inl ⟨rfl, rfl⟩
  | ss h => exact Or.inr ⟨_, _, rfl, rfl, h⟩

theorem isSome_eq {o : Option α} {o' : Option β} (h : ORel R o o') : o.isSome = o'.isSome := by
  cases h <;> rfl

theorem none_iff {o : Option α} {o' : Option β} (h : ORel R o o') : o = Option.none ↔ o' = Option.none := by
  cases h <;> simp

theorem of_some {a : α} {o' : Option β} (h : ORel R (Option.some a) o') : ∃ b, o' = Option.some b ∧ R a b := by
  cases h with
  | ss h => exact ⟨_, rfl, h⟩

theorem of_some' {o : Option α} {b : β} (h : ORel R o (Option.some b)) : ∃ a, o = Option.some a ∧ R a b := by
  cases h with
  | ss h => exact ⟨_, rfl, h⟩

theorem some_some {a : α} {b : β} (h : ORel R (Option.some a) (Option.some b)) : R a b := by
  cases h with
  | ss h => exact h

theorem mono {S : α → β → Prop} {o : Option α} {o' : Option β} (h : ORel R o o')
    (hRS : ∀ a b, R a b → S a b) : ORel S o o' := by
  cases h with
  | nn => exact .nn
  | ss h => exact .ss (hRS _ _ h)

theorem eq {o o' : Option α} (h : ORel (fun a b => a = b) o o') : o = o' := by
  cases h with
  | nn => rfl
  | ss h => rw [h]

theorem of_eq {o o' : Option α} (h : o = o') : ORel (fun a b => a = b) o o' := by
  subst h
  cases o with
  | none => exact .nn
  | some a => exact .ss rfl

theorem refl {R : α → α → Prop} (hR : ∀ a, R a a) (o : Option α) : ORel R o o := by
  cases o with
  | none => exact .nn
  | some a => exact .ss (hR a)

theorem symm {R : α → α → Prop} (hR : ∀ a b, R a b → R b a) {o o' : Option α} (h : ORel R o o') : ORel R o' o := by
  cases h with
  | nn => exact .nn
  | ss h => exact .ss (hR _ _ h)

theorem flip {o : Option α} {o' : Option β} (h : ORel R o o') : ORel (fun b a => R a b) o' o := by
  cases h with
  | nn => exact .nn
  | ss h => exact .ss h

theorem trans {R : α → α → Prop} (hR : ∀ a b c, R a b → R b c → R a c) {o o' o'' : Option α}
    (h : ORel R o o') (h' : ORel R o' o'') : ORel R o o'' := by
  cases h with
  | nn => exact h'
  | ss h => cases h' with
    | ss h' => exact .ss (hR _ _ _ h h')

theorem getD {o : Option α} {o' : Option β} {a : α} {b : β} (h : ORel R o o') (hab : R a b) :
    R (o.getD a) (o'.getD b) := by
  cases h with
  | nn => exact hab
  | ss hr => exact hr

theorem map {γ δ : Type} {S : γ → δ → Prop} {f : α → γ} {g : β → δ} {o : Option α} {o' : Option β}
    (h : ORel R o o') (hf : ∀ a b, R a b → S (f a) (g b)) : ORel S (o.map f) (o'.map g) := by
  cases h with
  | nn => exact .nn
  | ss h => exact .ss (hf _ _ h)

theorem bind {γ δ : Type} {S : γ → δ → Prop} {f : α → Option γ} {g : β → Option δ} {o : Option α} {o' : Option β}
    (h : ORel R o o') (hf : ∀ a b, R a b → ORel S (f a) (g b)) : ORel S (o.bind f) (o'.bind g) := by
  cases h with
  | nn => exact .nn
  | ss h => exact hf _ _ h

end ORel

inductive RRel {α β : Type} (R : α → β → Prop) : Res α → Res β → Prop
  | ok {a : α} {b : β} : R a b → RRel R (.ok a) (.ok b)
  | panic {s s' : String} : RRel R (.panic s) (.panic s')
  | declined {s s' : String} : RRel R (.declined s) (.declined s')

namespace RRel
variable {α β γ δ : Type} {R : α → β → Prop} {S : γ → δ → Prop}

theorem pure {a : α} {b : β} (h : R a b) : RRel R (Pure.pure a : Res α) (Pure.pure b : Res β) := .ok h

theorem bind {x : Res α} {y : Res β} {f : α → Res γ} {g : β → Res δ}
    (h : RRel R x y) (hf : ∀ a b, R a b → RRel S (f a) (g b)) : RRel S (x >>= f) (y >>= g) := by
  cases h with
  | ok h => exact hf _ _ h
  | panic => exact .panic
  | declined => exact .declined

theorem bind_same {x : Res α} {f : α → Res γ} {g : α → Res δ}
    (hf : ∀ a, RRel S (f a) (g a)) : RRel S (x >>= f) (x >>= g) := by
  cases x with
  | ok a => exact hf a
  | panic => exact .panic
  | declined => exact .declined

/-- `bind` that remembers where the values came from -/
theorem bind_eq {x : Res α} {y : Res β} {f : α → Res γ} {g : β → Res δ} (h : RRel R x y)
    (hf : ∀ a b, x = .ok a → y = .ok b → R a b → RRel S (f a) (g b)) : RRel S (x >>= f) (y >>= g) := by
  cases h with
  | ok h => exact hf _ _ rfl rfl h
  | panic => exact .panic
  | declined => exact .declined

theorem refl {R : α → α → Prop} (hR : ∀ a, R a a) (x : Res α) : RRel R x x := by
  cases x with
  | ok a => exact .ok (hR a)
  | panic => exact .panic
  | declined => exact .declined

theorem mono {R' : α → β → Prop} {x : Res α} {y : Res β} (h : RRel R x y) (hRS : ∀ a b, R a b → R' a b) :
    RRel R' x y := by
  cases h with
  | ok h => exact .ok (hRS _ _ h)
  | panic => exact .panic
  | declined => exact .declined

theorem symm {R : α → α → Prop} (hR : ∀ a b, R a b → R b a) {x y : Res α} (h : RRel R x y) : RRel R y x := by
  cases h with
  | ok h => exact .ok (hR _ _ h)
  | panic => exact .panic
  | declined => exact .declined

theorem trans {R : α → α → Prop} (hR : ∀ a b c, R a b → R b c → R a c) {x y z : Res α}
    (h : RRel R x y) (h' : RRel R y z) : RRel R x z := by
  cases h with
  | ok h => cases h' with
    | ok h' => exact .ok (hR _ _ _ h h')
  | panic => cases h' with
    | panic => exact .panic
  | declined => cases h' with
    | declined => exact .declined

theorem comp {S' : β → γ → Prop} {x : Res α} {y : Res β} {z : Res γ} (h : RRel R x y) (h' : RRel S' y z) :
    RRel (fun a c => ∃ b, R a b ∧ S' b c) x z := by
  cases h with
  | ok h => cases h' with
    | ok h' => exact .ok ⟨_, h, h'⟩
  | panic => cases h' with
    | panic => exact .panic
  | declined => cases h' with
    | declined => exact .declined

theorem ok_ok {a : α} {b : β} (h : RRel R (.ok a) (.ok b)) : R a b := by
  cases h with
  | ok h => exact h

theorem of_ok {a : α} {y : Res β} (h : RRel R (.ok a) y) : ∃ b, y = .ok b ∧ R a b := by
  cases h with
  | ok h => exact ⟨_, rfl, h⟩

theorem of_ok' {x : Res α} {b : β} (h : RRel R x (.ok b)) : ∃ a, x = .ok a ∧ R a b := by
  cases h with
  | ok h => exact ⟨_, rfl, h⟩

theorem panic_iff {x : Res α} {y : Res β} (h : RRel R x y) : (∃ s, x = .panic s) ↔ ∃ s, y = .panic s := by
  cases h <;> simp

theorem ite {p : Prop} [Decidable p] {t e : Res α} {t' e' : Res β} (ht : RRel R t t') (he : RRel R e e') :
    RRel R (if p then t else e) (if p then t' else e') := by
  by_cases hp : p
  · rw [if_pos hp, if_pos hp]; exact ht
  · rw [if_neg hp, if_neg hp]; exact he

theorem bite {b b' : Bool} {t e : Res α} {t' e' : Res β} (hb : b = b')
    (ht : b = true → b' = true → RRel R t t') (he : b = false → b' = false → RRel R e e') :
    RRel R (if b = true then t else e) (if b' = true then t' else e') := by
  subst hb
  cases b with
  | true => exact ht rfl rfl
  | false => exact he rfl rfl

end RRel

theorem Res.bind_def {α β : Type} (x : Res α) (f : α → Res β) : x.bind f = (x >>= f) := rfl

inductive All2 {α β : Type} (R : α → β → Prop) : List α → List β → Prop
  | nil : All2 R [] []
  | cons {a : α} {b : β} {l : List α} {l' : List β} : R a b → All2 R l l' → All2 R (a :: l) (b :: l')

namespace All2
variable {α β γ δ : Type} {R : α → β → Prop}

theorem length_eq {l : List α} {l' : List β} (h : All2 R l l') : l.length = l'.length := by
  induction h with
  | nil => rfl
  | cons _ _ ih => simp [ih]

theorem refl_on {R : α → α → Prop} {l : List α} (hR : ∀ a ∈ l, R a a) : All2 R l l := by
  induction l with
  | nil => exact .nil
  | cons a t ih => exact .cons (hR a (List.mem_cons_self ..)) (ih fun x hx => hR x (List.mem_cons_of_mem _ hx))

theorem flip {l : List α} {l' : List β} (h : All2 R l l') : All2 (fun b a => R a b) l' l := by
  induction h with
  | nil => exact .nil
  | cons h _ ih => exact .cons h ih

theorem symm {R : α → α → Prop} (hR : ∀ a b, R a b → R b a) {l l' : List α} (h : All2 R l l') : All2 R l' l := by
  induction h with
  | nil => exact .nil
  | cons h _ ih => exact .cons (hR _ _ h) ih

theorem mono {S : α → β → Prop} {l : List α} {l' : List β} (h : All2 R l l') (hRS : ∀ a b, R a b → S a b) :
    All2 S l l' := by
  induction h with
  | nil => exact .nil
  | cons h _ ih => exact .cons (hRS _ _ h) ih

theorem trans {S : β → γ → Prop} {T : α → γ → Prop} (hT : ∀ a b c, R a b → S b c → T a c)
    {l : List α} {l' : List β} {l'' : List γ} (h : All2 R l l') (h' : All2 S l' l'') : All2 T l l'' := by
  induction h generalizing l'' with
  | nil => cases h'; exact .nil
  | cons h _ ih =>
    cases h' with
    | cons h' t' => exact .cons (hT _ _ _ h h') (ih t')

theorem eq {l l' : List α} (h : All2 (fun a b => a = b) l l') : l = l' := by
  induction h with
  | nil => rfl
  | cons h _ ih => rw [h, ih]

theorem map {S : γ → δ → Prop} {f : α → γ} {g : β → δ} {l : List α} {l' : List β} (h : All2 R l l')
    (hf : ∀ a b, R a b → S (f a) (g b)) : All2 S (l.map f) (l'.map g) := by
  induction h with
  | nil => exact .nil
  | cons h _ ih => exact .cons (hf _ _ h) ih

theorem append {l₁ l₂ : List α} {l₁' l₂' : List β} (h₁ : All2 R l₁ l₁') (h₂ : All2 R l₂ l₂') :
    All2 R (l₁ ++ l₂) (l₁' ++ l₂') := by
  induction h₁ with
  | nil => exact h₂
  | cons h _ ih => exact .cons h ih

theorem mem_left {l : List α} {l' : List β} (h : All2 R l l') {a : α} (ha : a ∈ l) : ∃ b ∈ l', R a b := by
  induction h with
  | nil => cases ha
  | cons h _ ih =>
    rcases List.mem_cons.1 ha with rfl | ha
    · exact ⟨_, List.mem_cons_self .., h⟩
    · obtain ⟨b, hb, hr⟩ := ih ha
      exact ⟨b, List.mem_cons_of_mem _ hb, hr⟩

theorem mem_right {l : List α} {l' : List β} (h : All2 R l l') {b : β} (hb : b ∈ l') : ∃ a ∈ l, R a b := by
  obtain ⟨a, ha, hr⟩ := h.flip.mem_left hb
  exact ⟨a, ha, hr⟩

theorem filter {p : α → Bool} {q : β → Bool} {l : List α} {l' : List β} (h : All2 R l l')
    (hpq : ∀ a b, R a b → p a = q b) : All2 R (l.filter p) (l'.filter q) := by
  induction h with
  | nil => exact .nil
  | cons h _ ih =>
    simp only [List.filter_cons, hpq _ _ h]
    split
    · exact .cons h ih
    · exact ih

theorem perm_right {l : List α} {m m' : List β} (h : All2 R l m) (hp : m.Perm m') :
    ∃ l', l.Perm l' ∧ All2 R l' m' := by
  induction hp generalizing l with
  | nil => exact ⟨l, List.Perm.refl _, h⟩
  | cons x _ ih =>
    cases h with
    | cons h t =>
      obtain ⟨l', hp', ha⟩ := ih t
      exact ⟨_ :: l', hp'.cons _, .cons h ha⟩
  | swap x y t =>
    cases h with
    | cons h1 t1 =>
      cases t1 with
      | cons h2 t2 => exact ⟨_, List.Perm.swap _ _ _, .cons h2 (.cons h1 t2)⟩
  | trans _ _ ih1 ih2 =>
    obtain ⟨l1, hp1, ha1⟩ := ih1 h
    obtain ⟨l2, hp2, ha2⟩ := ih2 ha1
    exact ⟨l2, hp1.trans hp2, ha2⟩

theorem perm_left {l l' : List α} {m : List β} (h : All2 R l m) (hp : l.Perm l') :
    ∃ m', m.Perm m' ∧ All2 R l' m' := by
  obtain ⟨m', hp', ha⟩ := h.flip.perm_right hp
  exact ⟨m', hp', ha.flip⟩

theorem flatten_perm {l l' : List (List α)} (h : All2 List.Perm l l') : l.flatten.Perm l'.flatten := by
  induction h with
  | nil => exact List.Perm.refl _
  | cons h _ ih => simp only [List.flatten_cons]; exact h.append ih

end All2

def PermR {α : Type} (R : α → α → Prop) (l l' : List α) : Prop := ∃ mid, l.Perm mid ∧ All2 R mid l'

namespace PermR
variable {α β : Type} {R : α → α → Prop}

theorem of_perm (hR : ∀ a, R a a) {l l' : List α} (h : l.Perm l') : PermR R l l' := ⟨l', h, All2.refl_on fun a _ => hR a⟩

theorem of_all2 {l l' : List α} (h : All2 R l l') : PermR R l l' := ⟨l, List.Perm.refl _, h⟩

theorem refl (hR : ∀ a, R a a) (l : List α) : PermR R l l := of_perm hR (List.Perm.refl _)

theorem symm (hR : ∀ a b, R a b → R b a) {l l' : List α} (h : PermR R l l') : PermR R l' l := by
  obtain ⟨mid, hp, ha⟩ := h
  obtain ⟨m', hp', ha'⟩ := (ha.symm hR).perm_right hp.symm
  exact ⟨m', hp', ha'⟩

theorem trans (hR : ∀ a b c, R a b → R b c → R a c) {l l' l'' : List α} (h : PermR R l l') (h' : PermR R l' l'') :
    PermR R l l'' := by
  obtain ⟨m1, hp1, ha1⟩ := h
  obtain ⟨m2, hp2, ha2⟩ := h'
  obtain ⟨m3, hp3, ha3⟩ := ha1.perm_right hp2
  exact ⟨m3, hp1.trans hp3, ha3.trans hR ha2⟩

theorem length_eq {l l' : List α} (h : PermR R l l') : l.length = l'.length := by
  obtain ⟨mid, hp, ha⟩ := h
  rw [hp.length_eq, ha.length_eq]

theorem perm {l l' : List α} (h : PermR (fun a b => a = b) l l') : l.Perm l' := by
  obtain ⟨mid, hp, ha⟩ := h
  rw [← ha.eq]; exact hp

theorem mono {S : α → α → Prop} {l l' : List α} (h : PermR R l l') (hRS : ∀ a b, R a b → S a b) : PermR S l l' := by
  obtain ⟨mid, hp, ha⟩ := h
  exact ⟨mid, hp, ha.mono hRS⟩

theorem map {S : β → β → Prop} {f g : α → β} {l l' : List α} (h : PermR R l l')
    (hf : ∀ a b, R a b → S (f a) (g b)) : PermR S (l.map f) (l'.map g) := by
  obtain ⟨mid, hp, ha⟩ := h
  exact ⟨mid.map f, hp.map f, ha.map hf⟩

theorem filter {p q : α → Bool} {l l' : List α} (h : PermR R l l') (hpq : ∀ a b, R a b → p a = q b) :
    PermR R (l.filter p) (l'.filter q) := by
  obtain ⟨mid, hp, ha⟩ := h
  exact ⟨mid.filter p, hp.filter p, ha.filter hpq⟩

theorem flatten {l l' : List (List α)} (h : PermR List.Perm l l') : l.flatten.Perm l'.flatten := by
  obtain ⟨mid, hp, ha⟩ := h
  exact hp.flatten.trans ha.flatten_perm

theorem mem_left {l l' : List α} (h : PermR R l l') {a : α} (ha : a ∈ l) : ∃ b ∈ l', R a b := by
  obtain ⟨mid, hp, h2⟩ := h
  exact h2.mem_left (hp.mem_iff.1 ha)

theorem mem_right {l l' : List α} (h : PermR R l l') {b : α} (hb : b ∈ l') : ∃ a ∈ l, R a b := by
  obtain ⟨mid, hp, h2⟩ := h
  obtain ⟨a, ha, hr⟩ := h2.mem_right hb
  exact ⟨a, hp.mem_iff.2 ha, hr⟩

theorem nil_iff {l' : List α} : PermR R [] l' ↔ l' = [] := by
  constructor
  · intro h
    have := h.length_eq
    cases l' with
    | nil => rfl
    | cons _ _ => simp at this
  · rintro rfl; exact ⟨[], List.Perm.refl _, .nil⟩

end PermR

end Robust.Irc
