import Robust.Irc.Proofs.PrivHistF
import Robust.Irc.Proofs.EntryCheck
/-!
Executable (sufficient) checks for the history side conditions `WfHistory` and `UnprivHistory`, so
that the history theorems can be instantiated on concrete histories by evaluation.
-/
namespace Robust.Irc
open Robust AMap

def unprivB (lc : String) (st : St) (e : Entry) : Bool :=
  !(e.type == 1 || e.type == 2) || (match AMap.get st.sessions e.session with
    | some s => !s.server && !s.operator && !chanOpOf st s.nick lc && (AMap.get st.channels lc).isSome
    | none => true)

def histB (lc : Option String) (st : St) : List Entry → Bool
  | [] => true
  | e :: es =>
    entryOkB st e && conformingB st e &&
    (match lc with
      | some lc => unprivB lc st e
      | none => true) &&
    (match applyEntry st e with
      | .ok (st', _) => histB lc st' es
      | _ => true)

def runOk (st : St) (es : List Entry) : Option St :=
  match runEntries st es with
  | .ok s => some s
  | _ => none

theorem runOk_some {st st' : St} {es : List Entry} (h : runOk st es = some st') : runEntries st es = .ok st' := by
  unfold runOk at h
  split at h
  · cases h; assumption
  · cases h

theorem unpriv_of_B {lc : String} {st : St} {e : Entry} (h : unprivB lc st e = true) : UnprivEntry lc st e := by
  unfold unprivB at h
  intro ht s hs
  have ht' : (e.type == 1 || e.type == 2) = true := by
    rcases ht with ht | ht <;> simp [ht]
  simp only [ht', Bool.not_true, Bool.false_or, hs, Bool.and_eq_true, Bool.not_eq_true'] at h
  exact ⟨h.1.1.1, h.1.1.2, h.1.2, h.2⟩

theorem histB_cons {lc : Option String} {st : St} {e : Entry} {es : List Entry} (h : histB lc st (e :: es) = true) :
    ((EntryOk st e ∧ Conforming st e) ∧ ∀ l, lc = some l → UnprivEntry l st e) ∧
    ∀ st' out, applyEntry st e = .ok (st', out) → histB lc st' es = true := by
  unfold histB at h
  simp only [Bool.and_eq_true] at h
  refine ⟨⟨⟨entryOk_of_B h.1.1.1, conforming_of_B h.1.1.2⟩, fun l hl => ?_⟩, fun st' out hap => ?_⟩
  · subst hl; exact unpriv_of_B h.1.2
  · have h2 := h.2
    rwa [hap] at h2

theorem wf_of_histB {lc : Option String} {es : List Entry} {st : St} (h : histB lc st es = true) : WfHistory st es :=
  wfHistory_iff.2 ((along_of_check histB_cons h).mono fun _ _ h => h.1)

theorem unpriv_of_histB {lc : String} : ∀ {es : List Entry} {st : St}, histB (some lc) st es = true →
    UnprivHistory lc st es :=
  fun h => unprivHistory_iff.2 ((along_of_check histB_cons h).mono fun _ _ h => h.2 lc rfl)

end Robust.Irc
