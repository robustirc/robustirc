import Robust.Irc.Proofs.PrivHist
/-!
`OpsLe` (see `PrivHist.lean`) for the three client handlers that can set a chanop flag: for `MODE` if the
actor is neither chanop of `lc` nor IRC operator; for `JOIN` if `lc` exists already; `NICK` moves the flag with
the member entry from the old key to the new one (`NickLe`), which for an actor that is not chanop of `lc`
moves nothing.
-/
namespace Robust.Irc
open Robust AMap

variable {lc : String} {c0 c : Ctx} {sid : Id} {m : IrcMsg}

def OpsAll (h : Ctx → Id → IrcMsg → Res Ctx) : Prop :=
  ∀ c sid m c' lc, h c sid m = .ok c' → OpsLe lc c c'

theorem maybeLogin_opsLe (h : OpsLe lc c0 c) : (maybeLogin c sid m).Sat (OpsLe lc c0) :=
  maybeLogin_stable (OpsLe.stable lc c0)
    (fun _ _ _ _ _ h => (modS_sat _ _ _).mono fun _ ⟨_, _, e⟩ n hn => h n (by rw [e] at hn; exact hn)) h

theorem cmdMode_on_opsLe {chn : String} (hp0 : m.params[0]? = some chn) (hne : lc ≠ chanToLower chn)
    (h : OpsLe lc c0 c) : (cmdMode c sid m).Sat (OpsLe lc c0) :=
  cmdMode_keeps (.stable (OpsLe.stable lc c0)) (fun _ hp => by
    cases hp0.symm.trans hp
    exact fun _ h1 _ => OpsLe.putChan_other h1 _ hne) h (.of_not id)

theorem cmdMode_opsLe {s : Session} (hs : AMap.get c.st.sessions sid = some s)
    (hnop : chanOpOf c.st s.nick lc = false) (hno : s.operator = false) : (cmdMode c sid m).Sat (OpsLe lc c) := by
  intro c' hr
  obtain ⟨_, chn, _, hp0, _⟩ := (cmdMode_result c sid m).apply hr
  cases hon : s.channels.contains (chanToLower chn) with
  | false => exact (OpsLe.refl lc c).of_eq ((cmdMode_off hs hp0 hon).apply hr).1
  | true =>
    by_cases hlc : lc = chanToLower chn
    · subst hlc
      rcases (cmdMode_guard hs hp0 hon).apply hr with (h | h) | hR
      · rw [hnop] at h
        cases h
      · rw [hno] at h
        cases h
      · exact (OpsLe.refl _ c).of_eq (by rw [hR.st])
    · exact (cmdMode_on_opsLe hp0 hlc (OpsLe.refl lc c)).apply hr

def ChanEx (lc : String) (c : Ctx) : Prop := (AMap.get c.st.channels lc).isSome = true

theorem ChanEx.of_eq {c c' : Ctx} (h : ChanEx lc c) (e : c'.st.channels = c.st.channels) : ChanEx lc c' := by
  unfold ChanEx
  rw [e]
  exact h

theorem ChanEx.putChan (h : ChanEx lc c) (lc' : String) (ch' : Channel) : ChanEx lc (putChan c lc' ch') := by
  unfold ChanEx at *
  rw [putChan_channels, AMap.get_set]
  split
  · rfl
  · exact h

theorem joinAdmit_opsLe {s : Session} {chn key : String} (h : OpsLe lc c0 c) (hex : ChanEx lc c) :
    (joinAdmit c sid s chn key).Sat fun r => OpsLe lc c0 r.1 ∧ ChanEx lc r.1 := by
  refine joinAdmit_cases (Q := fun r => r.Sat _) (fun _ => .ok ⟨h.sendUser _ _, hex.of_eq rfl⟩)
    (fun hnone _ => .ok ⟨h.putChan_other _ fun e => ?_, hex.putChan _ _⟩) (fun _ _ => .ok ⟨h, hex⟩) fun _ => .declined _
  unfold ChanEx at hex
  rw [e, hnone] at hex
  cases hex

theorem joinTail_opsLe {s : Session} {chn : String} {ex : Bool} {mm : Option IrcMsg} (h : OpsLe lc c0 c)
    (hex : ChanEx lc c) (hflag : lc = chanToLower chn → ex = true) :
    (joinTail c sid s chn ex mm).Sat fun c' => OpsLe lc c0 c' ∧ ChanEx lc c' := by
  unfold joinTail
  dsimp only
  cases hch : getChan c (chanToLower chn) with
  | none => exact .panic _
  | some ch =>
    refine .andThen (R := fun c2 => c2.st.channels = c.st.channels) ?_ fun c2 e2 => ?_
    · exact .ite (fun _ => (modS_sat c sid _).mono fun _ ⟨_, _, e⟩ => by rw [e]; rfl) fun _ => .pure rfl
    have o2 : OpsLe lc c0 c2 := h.of_eq e2
    have x2 : ChanEx lc c2 := hex.of_eq e2
    refine .ite (fun _ => .pure ⟨o2, x2⟩) fun _ => ?_
    -- the new member is a channel operator only of a channel that did not exist
    have o3 : OpsLe lc c0 (putChan c2 (chanToLower chn)
        { ch with nicks := AMap.set ch.nicks (nickToLower s.nick) { chanop := !ex } }) := by
      by_cases hlc : lc = chanToLower chn
      · refine (OpsLe.stable lc c0).putChan o2 (by rw [e2]; exact hch) fun n hn => ?_
        rw [memFlag_set] at hn
        split at hn
        · rw [hflag hlc] at hn
          cases hn
        · exact hn
      · exact o2.putChan_other _ hlc
    refine (modS_sat _ sid _).andThen fun c3 ⟨_, _, e3⟩ => (joinAnnounce_emits (Emits.refl c3)).mono fun c4 e4 => ?_
    have e : c4.st.channels = (putChan c2 (chanToLower chn)
        { ch with nicks := AMap.set ch.nicks (nickToLower s.nick) { chanop := !ex } }).st.channels := by
      rw [e4.st, e3]
      rfl
    exact ⟨o3.of_eq e, (x2.putChan _ _).of_eq e⟩

theorem joinOne_opsLe {chn key : String} (h : OpsLe lc c0 c) (hex : ChanEx lc c) :
    (joinOne c sid chn key).Sat fun c' => OpsLe lc c0 c' ∧ ChanEx lc c' := by
  rw [joinOne_eq]
  refine .bind fun s _ => .ite (fun _ => .pure ⟨h.sendUser _ _, hex.of_eq rfl⟩) fun _ =>
    (joinAdmit_opsLe h hex).andThen fun r ⟨o1, x1⟩ => ?_
  obtain ⟨c1, mm⟩ := r
  cases mm with
  | none => exact .pure ⟨o1, x1⟩
  | some mm =>
    refine joinTail_opsLe o1 x1 fun hlc => ?_
    rw [getChan_eq, ← hlc]
    exact hex

theorem cmdJoin_opsLe (h : OpsLe lc c0 c) (hex : ChanEx lc c) : (cmdJoin c sid m).Sat (OpsLe lc c0) := by
  unfold cmdJoin
  exact .bind fun p0 _ => (joinLoop_rule (G := False) (I := fun c => OpsLe lc c0 c ∧ ChanEx lc c) _ ⟨h, hex⟩
    fun _ _ _ _ h => .of_sat (joinOne_opsLe h.1 h.2) nofun).sat.mono fun _ h => h.1

def NickLe (lc new old : String) (c0 c : Ctx) : Prop :=
  ∀ n, opFlagC c.st.channels lc n = true →
    opFlagC c0.st.channels lc n = true ∨ (n = new ∧ opFlagC c0.st.channels lc old = true)

theorem NickLe.of_opsLe {new old : String} (h : OpsLe lc c0 c) : NickLe lc new old c0 c :=
  fun n hn => Or.inl (h n hn)

theorem NickLe.then {new old : String} {c' : Ctx} (h : NickLe lc new old c0 c) (h2 : OpsLe lc c c') :
    NickLe lc new old c0 c' := fun n hn => h n (h2 n hn)

theorem renameCtx_nickLe (lc : String) (c : Ctx) (tid : Id) (lcnew old : String) (b : Bool) :
    NickLe lc lcnew old c (renameCtx c tid lcnew old b) := by
  unfold renameCtx
  cases b with
  | false => exact fun n hn => Or.inl hn
  | true =>
    intro n hn
    simp only [↓reduceIte] at hn
    unfold opFlagC at hn ⊢
    rw [AMap.get_map_val'] at hn
    cases hg : AMap.get c.st.channels lc with
    | none => rw [hg] at hn; cases hn
    | some ch =>
      rw [hg] at hn
      simp only [Option.map_some] at hn
      show memFlag ch n = true ∨ n = lcnew ∧ memFlag ch old = true
      cases ho : AMap.get ch.nicks old with
      | none =>
        simp only [ho] at hn
        rw [memFlag_erase] at hn
        by_cases hno : n = old
        · rw [if_pos hno] at hn; cases hn
        · rw [if_neg hno] at hn; exact Or.inl hn
      | some modes =>
        simp only [ho] at hn
        have h2 : (if n = old then false else
            memFlag { ch with nicks := AMap.set ch.nicks lcnew modes } n) = true :=
          (memFlag_erase { ch with nicks := AMap.set ch.nicks lcnew modes } old n).symm.trans hn
        by_cases hno : n = old
        · rw [if_pos hno] at h2; cases h2
        · rw [if_neg hno, memFlag_set] at h2
          by_cases hnew : n = lcnew
          · rw [if_pos hnew] at h2
            refine Or.inr ⟨hnew, ?_⟩
            unfold memFlag
            rw [ho]
            exact h2
          · rw [if_neg hnew] at h2
            exact Or.inl h2

theorem cmdNickTail_nickLe {s : Session} {nick : String} {held : Option SvsHold} :
    (cmdNickTail c sid m s nick held).Sat (NickLe lc (nickToLower nick) (nickToLower s.nick) c) := by
  unfold cmdNickTail
  dsimp only
  have o0 : OpsLe lc c (holdCtx c (nickToLower nick) held) :=
    (OpsLe.refl lc c).of_eq (holdCtx_frame c _ held).channels
  refine .ite (fun _ => .pure (.of_opsLe o0)) fun _ => (o0.modS _ _).andThen fun c1 o1 => ?_
  refine .andThen (R := NickLe lc (nickToLower nick) (nickToLower s.nick) c) ?_ fun c2 n2 => ?_
  · refine ((OpsLe.refl lc _).modS _ _).mono fun c2 o2 n hn => ?_
    rcases renameCtx_nickLe lc c1 sid _ _ _ n (o2 n hn) with h | ⟨h, h'⟩
    · exact Or.inl (o1 n h)
    · exact Or.inr ⟨h, o1 _ h'⟩
  · exact .ite (fun _ => .bind fun s2 _ => .bind fun rc _ => .pure (n2.then ((OpsLe.refl lc c2).of_eq rfl))) fun _ =>
      (maybeLogin_opsLe (OpsLe.refl lc c2)).mono fun _ o => n2.then o

theorem cmdNick_nickLe {s : Session} (hs : AMap.get c.st.sessions sid = some s) :
    (cmdNick c sid m).Sat (NickLe lc (nickToLower (m.params.head?.getD "")) (nickToLower s.nick) c) := by
  refine cmdNick_cases (Q := fun r => r.Sat _) hs (fun _ => .ok (.of_opsLe ((OpsLe.refl lc c).sendUser _ _)))
    fun nick held hnk _ _ _ => ?_
  subst hnk
  exact cmdNickTail_nickLe

theorem cmdNick_opsLe {s : Session} (hs : AMap.get c.st.sessions sid = some s)
    (hnop : chanOpOf c.st s.nick lc = false) : (cmdNick c sid m).Sat (OpsLe lc c) :=
  (cmdNick_nickLe hs).mono fun c' hN n hn => by
    rcases hN n hn with h | ⟨_, h⟩
    · exact h
    · rw [chanOpOf_eq] at hnop
      rw [hnop] at h
      cases h

