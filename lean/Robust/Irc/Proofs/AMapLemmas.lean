import Robust.Irc.State
import Robust.Base.AList
/-!
Algebra of `AMap` (association lists standing for Go maps), of `setInsert` and of
`List.filter (· ≠ x)` on string lists, over the sorted-list facts of `Base/AList.lean`.
-/
set_option linter.unusedSectionVars false

namespace Robust.Irc

theorem nodup_concat {α : Type} {l : List α} {x : α} (h : l.Nodup) (hx : x ∉ l) : (l ++ [x]).Nodup := by
  rw [List.nodup_append]
  refine ⟨h, List.pairwise_singleton _ x, fun a ha b hb hab => hx ?_⟩
  rw [← List.mem_singleton.1 hb, ← hab]; exact ha

theorem map_eq_self_of_fixed {α : Type} {f : α → α} {l : List α} (h : ∀ x ∈ l, f x = x) : l.map f = l :=
  (List.map_congr_left h).trans (List.map_id l)

namespace AMap
variable {κ ν μ : Type} [DecidableEq κ]

@[simp] theorem get_nil (k : κ) : get ([] : AMap κ ν) k = none := rfl

theorem get_cons (k' : κ) (v : ν) (t : AMap κ ν) (k : κ) :
    get ((k', v) :: t) k = if k' = k then some v else get t k := rfl

@[simp] theorem get_cons_same (k : κ) (v : ν) (t : AMap κ ν) : get ((k, v) :: t) k = some v := if_pos rfl

theorem get_cons_ne {k' k : κ} (h : k' ≠ k) (v : ν) (t : AMap κ ν) : get ((k', v) :: t) k = get t k := if_neg h

/-- lookup is the lookup of `Base/AList`; what holds there of lookup, membership and filters holds here -/
theorem get_eq (m : AMap κ ν) (k : κ) : get m k = AList.get m k := by
  induction m with
  | nil => rfl
  | cons e t ih => obtain ⟨k', v⟩ := e; rw [get, AList.get, ih]

@[simp] theorem keys_nil : keys ([] : AMap κ ν) = [] := rfl
@[simp] theorem keys_cons (e : κ × ν) (t : AMap κ ν) : keys (e :: t) = e.1 :: keys t := rfl

theorem keys_eq_nil {m : AMap κ ν} : keys m = [] ↔ m = [] := by
  cases m <;> simp

theorem length_keys (m : AMap κ ν) : (keys m).length = m.length := by
  simp [keys]

theorem mem_keys_iff_get {m : AMap κ ν} {k : κ} : k ∈ keys m ↔ ∃ v, get m k = some v :=
  ⟨fun h => get_eq m k ▸ AList.get_of_mem_keys m k h,
   fun ⟨v, h⟩ => List.mem_map.2 ⟨(k, v), AList.get_some_mem m k v (get_eq m k ▸ h), rfl⟩⟩

theorem get_eq_none_iff {m : AMap κ ν} {k : κ} : get m k = none ↔ k ∉ keys m := by
  rw [mem_keys_iff_get]
  cases get m k <;> simp

theorem get_none_of_keys_eq {m : AMap κ ν} {m' : AMap κ μ} (hk : keys m' = keys m) {k : κ} (h : get m k = none) :
    get m' k = none := by
  rw [get_eq_none_iff] at h ⊢
  rw [hk]; exact h

theorem mem_keys_of_get {m : AMap κ ν} {k : κ} {v : ν} (h : get m k = some v) : k ∈ keys m :=
  mem_keys_iff_get.2 ⟨v, h⟩

theorem contains_iff_get {m : AMap κ ν} {k : κ} : contains m k = true ↔ ∃ v, get m k = some v := by
  unfold contains
  cases get m k <;> simp

theorem contains_iff_mem_keys {m : AMap κ ν} {k : κ} : contains m k = true ↔ k ∈ keys m := by
  rw [contains_iff_get, mem_keys_iff_get]

theorem contains_eq_false_iff {m : AMap κ ν} {k : κ} : contains m k = false ↔ get m k = none := by
  unfold contains
  cases get m k <;> simp

theorem contains_of_get {m : AMap κ ν} {k : κ} {v : ν} (h : get m k = some v) : contains m k = true :=
  contains_iff_get.2 ⟨v, h⟩

theorem mem_of_get {m : AMap κ ν} {k : κ} {v : ν} (h : get m k = some v) : (k, v) ∈ m :=
  AList.get_some_mem m k v (get_eq m k ▸ h)

theorem mem_keys_of_mem {m : AMap κ ν} {e : κ × ν} (h : e ∈ m) : e.1 ∈ keys m :=
  List.mem_map.2 ⟨e, h, rfl⟩

theorem get_of_mem_nodup {m : AMap κ ν} {k : κ} {v : ν} (hn : (keys m).Nodup) (h : (k, v) ∈ m) :
    get m k = some v :=
  (get_eq m k).trans (AList.mem_get (lt := (· ≠ ·)) (fun _ h => h rfl) m k v hn h)

theorem get_iff_mem {m : AMap κ ν} {k : κ} {v : ν} (hn : (keys m).Nodup) : get m k = some v ↔ (k, v) ∈ m :=
  ⟨mem_of_get, get_of_mem_nodup hn⟩

theorem ne_nil_of_get {m : AMap κ ν} {k : κ} {v : ν} (h : get m k = some v) : m ≠ [] := by
  intro hm; subst hm; simp at h

theorem exists_get_of_ne_nil {m : AMap κ ν} (h : m ≠ []) : ∃ k v, get m k = some v := by
  cases m with
  | nil => exact absurd rfl h
  | cons e t => exact ⟨e.1, e.2, get_cons_same e.1 e.2 t⟩

theorem get_set (m : AMap κ ν) (k k' : κ) (v : ν) :
    get (set m k v) k' = if k' = k then some v else get m k' := by
  induction m with
  | nil => simp only [set, get_cons, get_nil, eq_comm]
  | cons e t ih =>
    obtain ⟨k'', v''⟩ := e
    by_cases h1 : k'' = k
    · subst h1; simp only [set, if_true, get_cons, eq_comm]; split <;> rfl
    · simp only [set, h1, if_false, get_cons, ih]
      split
      · rename_i h2; rw [if_neg (h2 ▸ h1)]
      · rfl

@[simp] theorem get_set_same (m : AMap κ ν) (k : κ) (v : ν) : get (set m k v) k = some v := by
  rw [get_set, if_pos rfl]

theorem get_set_other {m : AMap κ ν} {k k' : κ} (v : ν) (h : k' ≠ k) : get (set m k v) k' = get m k' := by
  rw [get_set, if_neg h]

theorem get_of_get_set {m : AMap κ ν} {k k' : κ} {v v' : ν} (h : get (set m k v) k' = some v') :
    (k' = k ∧ v' = v) ∨ (k' ≠ k ∧ get m k' = some v') := by
  rw [get_set] at h
  split at h
  · rename_i hk; cases h; exact Or.inl ⟨hk, rfl⟩
  · rename_i hk; exact Or.inr ⟨hk, h⟩

theorem keys_set (m : AMap κ ν) (k : κ) (v : ν) :
    keys (set m k v) = if k ∈ keys m then keys m else keys m ++ [k] := by
  induction m with
  | nil => simp [set]
  | cons e t ih =>
    obtain ⟨k', v'⟩ := e
    by_cases h : k' = k
    · subst h; simp [set]
    · have h' : ¬ k = k' := fun h2 => h h2.symm
      simp only [set, h, if_false, keys_cons, ih, List.mem_cons, h', false_or]
      split <;> simp

theorem keys_set_of_mem {m : AMap κ ν} {k : κ} (v : ν) (h : k ∈ keys m) : keys (set m k v) = keys m := by
  simp [keys_set, h]

theorem keys_set_of_not_mem {m : AMap κ ν} {k : κ} (v : ν) (h : k ∉ keys m) : keys (set m k v) = keys m ++ [k] := by
  simp [keys_set, h]

theorem mem_keys_set {m : AMap κ ν} {k k' : κ} {v : ν} : k' ∈ keys (set m k v) ↔ k' = k ∨ k' ∈ keys m := by
  simp only [mem_keys_iff_get, get_set]
  by_cases h : k' = k <;> simp [h]

theorem nodup_keys_set {m : AMap κ ν} (k : κ) (v : ν) (h : (keys m).Nodup) : (keys (set m k v)).Nodup := by
  rw [keys_set]
  split
  · exact h
  · rename_i hk; exact nodup_concat h hk

theorem set_ne_nil (m : AMap κ ν) (k : κ) (v : ν) : set m k v ≠ [] := by
  cases m with
  | nil => simp [set]
  | cons e t =>
    obtain ⟨k', v'⟩ := e
    simp only [set]
    split <;> simp

@[simp] theorem set_set (m : AMap κ ν) (k : κ) (v v' : ν) : set (set m k v) k v' = set m k v' := by
  induction m with
  | nil => simp [set]
  | cons e t ih =>
    obtain ⟨k', v''⟩ := e
    by_cases h : k' = k
    · simp [set, h]
    · simp [set, h, ih]

theorem set_eq_self {m : AMap κ ν} {k : κ} {v : ν} (h : get m k = some v) : set m k v = m := by
  induction m with
  | nil => simp at h
  | cons e t ih =>
    obtain ⟨k', v'⟩ := e
    by_cases hk : k' = k
    · subst hk; simp at h; subst h; simp [set]
    · rw [get_cons_ne hk] at h
      simp [set, hk, ih h]

theorem mem_set {m : AMap κ ν} {k : κ} {v : ν} {e : κ × ν} (h : e ∈ set m k v) : e = (k, v) ∨ e ∈ m := by
  induction m with
  | nil => exact Or.inl (List.mem_singleton.1 h)
  | cons a t ih =>
    unfold set at h
    split at h
    · exact (List.mem_cons.1 h).imp_right (List.mem_cons_of_mem _)
    · rcases List.mem_cons.1 h with rfl | h
      · exact Or.inr (List.mem_cons_self ..)
      · exact (ih h).imp_right (List.mem_cons_of_mem _)

theorem length_set_of_get {m : AMap κ ν} {k : κ} {v0 : ν} (v : ν) (h : get m k = some v0) :
    (set m k v).length = m.length := by
  rw [← length_keys, keys_set_of_mem v (mem_keys_of_get h), length_keys]

theorem length_set_of_none {m : AMap κ ν} {k : κ} (v : ν) (h : get m k = none) :
    (set m k v).length = m.length + 1 := by
  rw [← length_keys, keys_set_of_not_mem v (get_eq_none_iff.1 h), List.length_append, length_keys]
  rfl

theorem length_set_le (m : AMap κ ν) (k : κ) (v : ν) : (set m k v).length ≤ m.length + 1 := by
  cases h : get m k with
  | none => rw [length_set_of_none v h]; exact Nat.le_refl _
  | some v0 => rw [length_set_of_get v h]; exact Nat.le_succ _

theorem keys_append (a b : AMap κ ν) : keys (a ++ b) = keys a ++ keys b := by
  simp [keys]

theorem set_of_not_mem {m : AMap κ ν} {k : κ} (v : ν) (h : k ∉ keys m) : set m k v = m ++ [(k, v)] := by
  induction m with
  | nil => rfl
  | cons e t ih =>
    obtain ⟨k', v'⟩ := e
    simp only [keys_cons, List.mem_cons, not_or] at h
    have hk : ¬ k' = k := fun h2 => h.1 h2.symm
    simp only [set, hk, if_false, List.cons_append, ih h.2]

theorem foldl_set_eq {α : Type} (kf : α → κ) (vf : α → ν) (l : List α) :
    ∀ acc : AMap κ ν, (keys acc ++ l.map kf).Nodup →
      l.foldl (fun m e => set m (kf e) (vf e)) acc = acc ++ l.map (fun e => (kf e, vf e)) := by
  induction l with
  | nil => intro acc _; simp
  | cons e t ih =>
    intro acc hn
    have hfresh : kf e ∉ keys acc := by
      intro hm
      rw [List.nodup_append] at hn
      exact hn.2.2 _ hm _ (by simp) rfl
    simp only [List.foldl_cons, List.map_cons]
    rw [set_of_not_mem _ hfresh, ih]
    · simp
    · rw [keys_append]
      simpa [keys] using hn

theorem foldl_set_self (m : AMap κ ν) (kf : κ × ν → κ) (vf : κ × ν → ν) (hn : (keys m).Nodup)
    (hk : ∀ e ∈ m, kf e = e.1) (hv : ∀ e ∈ m, vf e = e.2) :
    m.foldl (fun acc e => set acc (kf e) (vf e)) [] = m := by
  rw [foldl_set_eq]
  · simp only [List.nil_append]
    conv => rhs; rw [← List.map_id m]
    apply List.map_congr_left
    intro e he
    rw [hk e he, hv e he]; rfl
  · simp only [keys_nil, List.nil_append]
    have : m.map kf = keys m := List.map_congr_left hk
    rw [this]; exact hn

@[simp] theorem erase_nil (k : κ) : erase ([] : AMap κ ν) k = [] := rfl

theorem erase_cons (e : κ × ν) (t : AMap κ ν) (k : κ) :
    erase (e :: t) k = if e.1 = k then erase t k else e :: erase t k := by
  by_cases h : e.1 = k <;> simp [erase, h]

theorem keys_erase (m : AMap κ ν) (k : κ) : keys (erase m k) = (keys m).filter (· ≠ k) := by
  induction m with
  | nil => rfl
  | cons e t ih =>
    by_cases h : e.1 = k
    · simp [erase_cons, h, ih]
    · simp [erase_cons, h, ih]

theorem mem_keys_erase {m : AMap κ ν} {k k' : κ} : k' ∈ keys (erase m k) ↔ k' ≠ k ∧ k' ∈ keys m := by
  rw [keys_erase, List.mem_filter]
  simp [and_comm]

theorem nodup_keys_erase {m : AMap κ ν} (k : κ) (h : (keys m).Nodup) : (keys (erase m k)).Nodup := by
  rw [keys_erase]
  exact h.sublist List.filter_sublist

theorem get_erase (m : AMap κ ν) (k k' : κ) : get (erase m k) k' = if k' = k then none else get m k' := by
  rw [get_eq, get_eq]
  refine (AList.get_filter m (fun y => decide (y ≠ k)) k').trans ?_
  by_cases h : k' = k
  · rw [if_neg (by simp [h]), if_pos h]
  · rw [if_pos (decide_eq_true h), if_neg h]

@[simp] theorem get_erase_same (m : AMap κ ν) (k : κ) : get (erase m k) k = none := by
  rw [get_erase, if_pos rfl]

theorem get_erase_other {m : AMap κ ν} {k k' : κ} (h : k' ≠ k) : get (erase m k) k' = get m k' := by
  rw [get_erase, if_neg h]

theorem erase_eq_self {m : AMap κ ν} {k : κ} (h : k ∉ keys m) : erase m k = m := by
  induction m with
  | nil => rfl
  | cons e t ih =>
    simp only [keys_cons, List.mem_cons, not_or] at h
    have h1 : ¬ e.1 = k := fun h2 => h.1 h2.symm
    simp [erase_cons, h1, ih h.2]

theorem length_erase_le (m : AMap κ ν) (k : κ) : (erase m k).length ≤ m.length :=
  List.length_filter_le _ _

theorem mem_erase {m : AMap κ ν} {k : κ} {e : κ × ν} (h : e ∈ erase m k) : e ∈ m := (List.mem_filter.1 h).1

theorem get_of_get_erase {m : AMap κ ν} {k k' : κ} {v : ν} (h : get (erase m k) k' = some v) :
    k' ≠ k ∧ get m k' = some v := by
  rw [get_erase] at h
  split at h
  · simp at h
  · rename_i hk; exact ⟨hk, h⟩

theorem keys_map_val (m : AMap κ ν) (f : κ × ν → μ) : keys (m.map fun e => (e.1, f e)) = keys m := by
  simp [keys, List.map_map, Function.comp_def]

theorem get_map_val' (m : AMap κ ν) (f : κ × ν → μ) (k : κ) :
    get (m.map fun e => (e.1, f e)) k = (get m k).map (fun v => f (k, v)) := by
  induction m with
  | nil => rfl
  | cons e t ih =>
    obtain ⟨k', v'⟩ := e
    by_cases h : k' = k
    · subst h; simp
    · simp only [List.map_cons]
      rw [get_cons_ne h, get_cons_ne h, ih]

/-- the form used by `cmdNick` / `maybeDeleteChannel`: `m.map fun e => (e.1, f e.2)` -/
theorem get_map_val (m : AMap κ ν) (f : ν → μ) (k : κ) :
    get (m.map fun e => (e.1, f e.2)) k = (get m k).map f :=
  get_map_val' m (fun e => f e.2) k

theorem get_of_get_map_val {m : AMap κ ν} {f : ν → μ} {k : κ} {w : μ}
    (h : get (m.map fun e => (e.1, f e.2)) k = some w) : ∃ v, get m k = some v ∧ f v = w := by
  rw [get_map_val] at h
  exact Option.map_eq_some_iff.1 h

theorem keys_filter_sublist (m : AMap κ ν) (p : κ × ν → Bool) : (keys (m.filter p)).Sublist (keys m) := by
  unfold keys
  exact List.Sublist.map _ List.filter_sublist

theorem nodup_keys_filter {m : AMap κ ν} (p : κ × ν → Bool) (h : (keys m).Nodup) : (keys (m.filter p)).Nodup :=
  h.sublist (keys_filter_sublist m p)

theorem get_filter {m : AMap κ ν} (p : κ × ν → Bool) (hn : (keys m).Nodup) {k : κ} {v : ν} :
    get (m.filter p) k = some v ↔ get m k = some v ∧ p (k, v) = true := by
  rw [get_iff_mem (nodup_keys_filter p hn), get_iff_mem hn, List.mem_filter]

theorem get_filter' {m : AMap κ ν} (p : κ × ν → Bool) (hn : (keys m).Nodup) (k : κ) :
    get (m.filter p) k = (get m k).bind fun v => if p (k, v) then some v else none := by
  refine Option.ext fun w => ?_
  rw [get_filter p hn]
  cases get m k with
  | none => simp
  | some v =>
    cases hp : p (k, v) <;> simpa [hp] using fun hw : v = w => hw ▸ hp

theorem all_iff_get {m : AMap κ ν} {p : κ × ν → Bool} (hn : (keys m).Nodup) :
    m.all p = true ↔ ∀ k v, get m k = some v → p (k, v) = true := by
  rw [List.all_eq_true]
  constructor
  · intro h k v hg; exact h _ (mem_of_get hg)
  · intro h e he
    exact h e.1 e.2 (get_of_mem_nodup hn he)

end AMap

theorem all_set {κ ν : Type} [DecidableEq κ] {P : ν → Prop} {m : AMap κ ν} (h : ∀ e ∈ m, P e.2) {k : κ} {v : ν}
    (hv : P v) : ∀ e ∈ AMap.set m k v, P e.2 := by
  intro e he
  rcases AMap.mem_set he with rfl | he
  · exact hv
  · exact h e he

theorem all_erase {κ ν : Type} [DecidableEq κ] {P : ν → Prop} {m : AMap κ ν} (h : ∀ e ∈ m, P e.2) (k : κ) :
    ∀ e ∈ AMap.erase m k, P e.2 := fun e he => h e (AMap.mem_erase he)

theorem all_filter {κ ν : Type} {P : ν → Prop} {m : AMap κ ν} (h : ∀ e ∈ m, P e.2) (p : κ × ν → Bool) :
    ∀ e ∈ m.filter p, P e.2 := fun e he => h e (List.mem_filter.1 he).1

theorem all_mapVal {κ ν : Type} {P : ν → Prop} {m : AMap κ ν} (h : ∀ e ∈ m, P e.2) (f : κ × ν → ν)
    (hf : ∀ e ∈ m, P e.2 → P (f e)) : ∀ e ∈ (m.map fun e => (e.1, f e)), P e.2 := by
  intro e he
  obtain ⟨a, ha, rfl⟩ := List.mem_map.1 he
  exact hf a ha (h a ha)

theorem mem_setInsert {l : List String} {x y : String} : y ∈ setInsert l x ↔ y = x ∨ y ∈ l := by
  unfold setInsert
  split
  · rename_i h
    have hx : x ∈ l := by simpa using h
    exact ⟨Or.inr, fun h1 => h1.elim (fun e => e ▸ hx) id⟩
  · simp [or_comm]

theorem nodup_setInsert {l : List String} (x : String) (h : l.Nodup) : (setInsert l x).Nodup := by
  unfold setInsert
  split
  · exact h
  · rename_i hx
    exact nodup_concat h (by simpa using hx)

theorem mem_filter_ne {l : List String} {x y : String} : y ∈ l.filter (· ≠ x) ↔ y ≠ x ∧ y ∈ l := by
  rw [List.mem_filter]
  simp [and_comm]

theorem nodup_filter_ne {l : List String} (x : String) (h : l.Nodup) : (l.filter (· ≠ x)).Nodup :=
  h.sublist List.filter_sublist

theorem not_mem_filter_ne (l : List String) (x : String) : x ∉ l.filter (· ≠ x) := by
  simp

theorem mem_of_not_not_contains {l : List String} {x : String} (h : ¬ (!l.contains x) = true) : x ∈ l := by
  cases hc : l.contains x with
  | true => exact List.contains_iff_mem.1 hc
  | false => rw [hc] at h; exact absurd rfl h

end Robust.Irc
