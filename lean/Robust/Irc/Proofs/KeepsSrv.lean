import Robust.Irc.Proofs.KeepsClientA
/-!
The services (server-to-server) handlers and `cmdServer` keep every predicate that has an `HLogic` (`HLogic.lean`,
where the way a walk reads is explained).

Their lines are server-prefixed, under the stored prefix of a session, or under a prefix taken from the line services
sent (`servicesPrefix m = name!services@services`, `m.pfx` for KILL): `hp : L.cmds → PfxArgOK m` is what a family
that speaks of commands assumes of that prefix.  The steps that only some families survive are hypotheses: a new
member list over a stored channel (`HLogic.SetsMembers I`: MODE, JOIN, SVSJOIN), a new channel (`L.AddsChan`: JOIN, SVSJOIN),
a nick change (`L.NickUpd`: SVSNICK), the new pseudo-client of NICK, the link flag and announced name of SERVER.
-/
namespace Robust.Irc
open Robust AMap

variable {I : Ctx → Prop} (L : HLogic I) {c : Ctx} {sid : Id} {m : IrcMsg}
include L

theorem cmdServerInvite_keeps (hc : I c) (hm : L.Msg m) (hp : L.cmds → PfxArgOK m) : (cmdServerInvite c sid m).Sat I := by
  unfold cmdServerInvite
  refine .andThen hm.param fun nickname hn => .andThen hm.param fun chn hchn => ?_
  cases AMap.get c.st.nicks (nickToLower nickname) with
  | none => exact L.svcReply "401" hc hm ⟨hn, L.lit clean_lit⟩
  | some tid =>
    refine .andThen (L.getS hc) fun t ct => ?_
    extract_lets lc
    cases hch : getChan c lc with
    | none => exact L.svcReply "403" hc hm ⟨hchn, L.lit clean_lit⟩
    | some ch =>
      have cch := L.chan hc hch
      refine .ite' (L.svcReply "443" hc hm ⟨ct.nick, cch.name, L.lit clean_lit⟩) ?_
      refine .andThen (L.modS hc (fun _ => rfl) fun _ _ hs => { hs with }) fun c1 h1 => ?_
      refine .andThen hm.pfxName fun pn hpn => ?_
      extract_lets c2
      have h2 : I c2 := L.srv "341" h1 ⟨hpn, hn, cch.name⟩
      refine .bind fun sp hs => ?_
      extract_lets c3
      have h3 : I c3 := L.svc "INVITE" h2 hm hp hs ⟨ct.nick, cch.name⟩
      refine .bind fun rc _ => .pure (L.srv "NOTICE" h3 ⟨cch.name, ?_⟩)
      exact hpn.append (L.lit clean_lit) |>.append hn |>.append (L.lit clean_lit)

theorem cmdServerKick_keeps (hc : I c) (hm : L.Msg m) (hp : L.cmds → PfxArgOK m) : (cmdServerKick c sid m).Sat I := by
  unfold cmdServerKick
  refine .andThen hm.param fun chn hchn => .andThen hm.param fun target ht => ?_
  extract_lets lc
  cases getChan c lc with
  | none => exact L.svcReply "403" hc hm ⟨hchn, L.lit clean_lit⟩
  | some ch =>
    refine .ite' (L.svcReply "441" hc hm ⟨ht, hchn, L.lit clean_lit⟩) ?_
    cases AMap.get c.st.nicks (nickToLower target) with
    | none => exact .panic _
    | some tid =>
      refine .bind fun sp hs => .bind fun rc _ => ?_
      exact L.leaveChannel (L.svc "KICK" hc hm hp hs ⟨hchn, ht, hm.trailing⟩)

/-- PRIVMSG / NOTICE from services are relayed with the command of the received line.  `hcmd`: it is one (it is a key
of the command table). -/
theorem cmdServerPrivmsg_keeps (hc : I c) (hm : L.Msg m) (hp : L.cmds → PfxArgOK m) (hcmd : L.cmds → GoodCmd m.command) :
    (cmdServerPrivmsg c sid m).Sat I := by
  unfold cmdServerPrivmsg
  refine .ite' (L.svcReply "411" hc hm ((L.lit clean_lit).append hm.command |>.append (L.lit clean_lit))) ?_
  refine .ite' (L.svcReply "412" hc hm (L.lit clean_lit)) <| .andThen hm.param fun p0 hp0 => ?_
  have relay {sp : Prefix} {rc : List Nat} (hs : servicesPrefix m = .ok sp) :
      I (emit c ⟨some sp, m.command, [p0, m.trailing]⟩ rc) :=
    L.emit hc (fun x => .from ((servicesPrefix_clean (hm x)).apply hs) ⟨hp0 x, hm.trailing x⟩ (hm.command x))
      fun y => hc_svc hs (hp y) (hcmd y) _
  refine .ite' ?_ ?_
  · cases getChan c (chanToLower p0) with
    | none => exact L.svcReply "403" hc hm ⟨hp0, L.lit clean_lit⟩
    | some ch => exact .bind fun sp hs => .bind fun rc _ => .pure (relay hs)
  · cases AMap.get c.st.nicks (nickToLower p0) with
    | none => exact L.svcReply "401" hc hm ⟨hp0, L.lit clean_lit⟩
    | some tid => exact .bind fun sp hs => .pure (relay hs)

theorem cmdServerTopic_keeps (hc : I c) (hm : L.Msg m) (hp : L.cmds → PfxArgOK m) : (cmdServerTopic c sid m).Sat I := by
  unfold cmdServerTopic
  refine .andThen hm.param fun chn hchn => ?_
  extract_lets lc
  cases hch : getChan c lc with
  | none => exact L.svcReply "403" hc hm ⟨hchn, L.lit clean_lit⟩
  | some ch =>
    refine .bind fun p2 _ => .bind fun ts? _ => ?_
    cases ts? with
    | none => exact .declined _
    | some ts =>
      refine .andThen hm.param fun p1 hp1 => .ite' (.declined _) ?_
      extract_lets ch1 c1
      have h1 : I c1 := L.putChan hc hch rfl fun x =>
        { (L.chan hc hch).clean x with topicNick := hp1 x, topic := hm.trailing x }
      exact .bind fun sp hs => .bind fun rc _ => .pure (L.svc "TOPIC" h1 hm hp hs ⟨hchn, hm.trailing⟩)

theorem cmdServerSvspart_keeps (hc : I c) (hm : L.Msg m) : (cmdServerSvspart c sid m).Sat I := by
  unfold cmdServerSvspart
  refine .andThen hm.param fun p0 hp0 => .andThen hm.param fun chn hchn => ?_
  extract_lets nick lc
  cases AMap.get c.st.nicks nick with
  | none => exact L.svcReply "401" hc hm ⟨hp0, L.lit clean_lit⟩
  | some tid =>
    dsimp -zeta only
    cases getChan c lc with
    | none => exact L.svcReply "403" hc hm ⟨hchn, L.lit clean_lit⟩
    | some ch =>
      refine .ite' (L.svcReply "442" hc hm ⟨hchn, L.lit clean_lit⟩) ?_
      refine .andThen (L.getS hc) fun t ct => .bind fun rc _ => ?_
      exact L.leaveChannel (L.relay "PART" hc ct hchn)

theorem cmdServerSvshold_keeps (hc : I c) (hm : L.Msg m) : (cmdServerSvshold c sid m).Sat I := by
  unfold cmdServerSvshold
  refine .bind fun s _ => .bind fun p0 _ => ?_
  extract_lets nick
  refine .ite' (.bind fun p1 _ => ?_) ?_
  · cases parseDigits p1 with
    | none => exact .declined _
    | some n =>
      refine .ite' (.declined _) <| .pure (L.frame hc rfl rfl rfl rfl rfl rfl fun x => ?_)
      exact all_set (P := fun h : SvsHold => Clean h.reason) (L.cinv hc x).svsholds (hm.trailing x)
  · refine .pure (L.frame hc rfl rfl rfl rfl rfl rfl fun x => ?_)
    exact all_erase (P := fun h : SvsHold => Clean h.reason) (L.cinv hc x).svsholds _

/-- NICK from services stores a pseudo-client of the link.  `hnew`: `I` survives it — the new id
`⟨link id, fnv64 nick⟩` is not stored, `createSession` has admitted it (the session limit), the blank session is
filled in at once; the index entry is an ordinary update. -/
theorem cmdServerNick_keeps
    (hnew : ∀ {s : Session} {p0 p3 : String} {st1 : St} {c2 : Ctx}, AMap.get c.st.sessions sid = some s →
      isValidNickname p0 = true → L.Str p0 → L.Str p3 → AMap.get c.st.sessions ⟨s.id.id, fnv64 p0⟩ = none →
      createSession c.st ⟨s.id.id, fnv64 p0⟩ "" s.lastActivity = some st1 →
      modS { c with st := st1 } ⟨s.id.id, fnv64 p0⟩
        (fun ss => updateIrcPrefix { ss with nick := p0, username := truncateUsername p3, realname := m.trailing }) =
          .ok c2 → I c2)
    (hc : I c) (hm : L.Msg m) : (cmdServerNick c sid m).Sat I := by
  unfold cmdServerNick
  refine .bind fun s hs => .ite' (.pure hc) <| .andThen hm.param fun p0 hp0 => ?_
  have inUse {rc : List Nat} : I (emit c (srv c "433" ["*", p0, "Nickname is already in use"]) rc) :=
    L.srv "433" hc ⟨L.lit clean_lit, hp0, L.lit clean_lit⟩
  refine .ite (fun _ => .pure (L.srv "432" hc ⟨L.lit clean_lit, hp0, L.lit clean_lit⟩)) fun hv => .ite' (.pure inUse) ?_
  extract_lets id
  refine .ite (fun _ => .pure inUse) fun hfree => ?_
  cases hcs : createSession c.st id "" s.lastActivity with
  | none =>
    have cs := L.sess hc (getS_eq_ok.1 hs)
    exact .pure (L.srv "NOTICE" hc ⟨cs.pname, (L.lit clean_lit).append hp0 |>.append (L.lit clean_lit)⟩)
  | some st1 =>
    refine .andThen hm.param fun p3 hp3 => .bind fun c2 hm2 => ?_
    have h2 : I c2 := hnew (getS_eq_ok.1 hs) (by simpa using hv) hp0 hp3
      (AMap.contains_eq_false_iff.1 (by simpa using hfree)) hcs hm2
    exact .pure (L.frame h2 rfl rfl rfl rfl rfl rfl fun x => (L.cinv h2 x).svsholds)

theorem cmdServerQuit_keeps (hc : I c) (hm : L.Msg m) : (cmdServerQuit c sid m).Sat I := by
  unfold cmdServerQuit
  refine .bind fun s _ => ?_
  cases m.pfx with
  | none =>
    refine .andThen (L.deleteSession hc) fun c1 h1 => ?_
    extract_lets subs
    refine .foldlM _ h1 fun c2 tid _ h2 => .andThen (L.getS h2) fun t ct => .bind fun rc _ => ?_
    exact L.deleteSession (L.relay "QUIT" h2 ct hm.trailing)
  | some p =>
    dsimp -zeta only
    cases he : c.st.sessions.find? (fun e => e.1.id == s.id.id && e.1.reply != 0 &&
        nickToLower e.2.nick == nickToLower p.name) with
    | none => exact .pure hc
    | some e =>
      have ce := L.mem hc (List.mem_of_find?_eq_some he)
      exact .bind fun rc _ => L.deleteSession (L.relay "QUIT" hc ce hm.trailing)

theorem cmdServerKill_keeps (hc : I c) (hm : L.Msg m) (hp : L.cmds → PfxArgOK m) : (cmdServerKill c sid m).Sat I := by
  unfold cmdServerKill
  refine .bind fun s _ => .ite' (.pure (L.srv "461" hc ⟨L.lit clean_lit, hm.command, L.lit clean_lit⟩)) ?_
  extract_lets subs killPrefix
  -- the killer's prefix is that of the line or that of a stored pseudo-client
  refine .andThen (R := OptAll fun kp => (L.text → Clean kp.name ∧ Clean kp.user ∧ Clean kp.host) ∧
    (L.cmds → ∀ ps, HasCommand (IrcMsg.mk (some kp) "KILL" ps).render)) ?_ fun kp? hkp => ?_
  · have ofLine {p : Prefix} (hpx : m.pfx = some p) := And.intro (fun x => (hm x).1 _ hpx)
      fun y => hc_msgPfx (cmd := "KILL") hpx (hp y) (by decide)
    dsimp -zeta only [killPrefix]
    refine .ite' (.ok fun _ => ofLine) ?_
    cases hpx : m.pfx with
    | none => exact .panic _
    | some p =>
      dsimp -zeta only
      cases he : subs.find? (fun e => nickToLower e.2.nick == nickToLower p.name) with
      | none => exact .ok (.some (ofLine hpx))
      | some e =>
        have ce := L.mem hc (List.mem_filter.1 (List.mem_of_find?_eq_some he)).1
        exact .ok (.some ⟨fun x => (ce.clean x).pfx, fun y => (ce.ksess y).hc (by decide)⟩)
  · refine .andThen hm.param fun p0 hp0 => ?_
    cases AMap.get c.st.nicks (nickToLower p0) with
    | none => exact .pure (L.srv "401" hc ⟨L.lit clean_lit, hp0, L.lit clean_lit⟩)
    | some tid =>
      refine .andThen (L.getS hc) fun t ct => ?_
      cases kp? with
      | none => exact .panic _
      | some kp =>
        obtain ⟨ckp, kkp⟩ := hkp kp rfl
        dsimp -zeta only
        extract_lets killPath c1
        have hpath : L.Str killPath := fun x => clean_replaceAll
          (Clean.append clean_lit (ckp x).2.2 |>.append clean_lit |>.append (ckp x).1) clean_lit
        have h1 : I c1 := L.emit hc (fun x => .from (ckp x) ⟨ct.nick x,
          (hpath.append (L.lit clean_lit) |>.append hm.trailing |>.append (L.lit clean_lit)) x⟩) fun y => kkp y _
        refine .bind fun rc _ => ?_
        exact L.deleteSession (L.relay "QUIT" h1 ct ((L.lit clean_lit).append hm.trailing))

theorem serverJoinOne_keeps (hmem : HLogic.SetsMembers I) (hnew : L.AddsChan) {chn : String} (hc : I c) (hm : L.Msg m)
    (hp : L.cmds → PfxArgOK m) (hchn : L.Str chn) : (serverJoinOne c m chn).Sat I := by
  unfold serverJoinOne
  refine .andThen hm.pfxName fun pn hpn => .ite' (.pure (L.srv "403" hc ⟨hpn, hchn, L.lit clean_lit⟩)) ?_
  extract_lets nick lc existed ch ch1 c1
  cases AMap.get c.st.nicks nick with
  | none => exact .pure (L.srv "401" hc ⟨hpn, hchn, L.lit clean_lit⟩)
  | some tid =>
    refine .ite (fun _ => .pure (L.srv "403" hc ⟨hpn, hchn, L.lit clean_lit⟩)) fun hlim => ?_
    have h1 : I c1 := L.putChan_admitted hmem hnew hc hchn hlim _
    refine .andThen (L.modS h1 (fun _ => rfl) fun _ _ hs => { hs with }) fun c2 h2 => ?_
    exact .bind fun sp hs => .bind fun rc _ => .pure (L.svc "JOIN" h2 hm hp hs hchn)

theorem cmdServerJoin_keeps (hmem : HLogic.SetsMembers I) (hnew : L.AddsChan) (hc : I c) (hm : L.Msg m)
    (hp : L.cmds → PfxArgOK m) : (cmdServerJoin c sid m).Sat I := by
  unfold cmdServerJoin
  exact .andThen hm.param fun p0 hp0 => .foldlM _ hc fun c1 ch hch h1 =>
    serverJoinOne_keeps L hmem hnew h1 hm hp fun x => splitChar_clean ',' (hp0 x) ch hch

theorem serverPartOne_keeps {chn : String} (hc : I c) (hm : L.Msg m) (hp : L.cmds → PfxArgOK m) (hchn : L.Str chn) :
    (serverPartOne c m chn).Sat I := by
  unfold serverPartOne
  extract_lets lc
  cases getChan c lc with
  | none => exact L.svcReply "403" hc hm ⟨hchn, L.lit clean_lit⟩
  | some ch =>
    refine .andThen hm.pfxName fun pn hpn => .ite' (.pure (L.srv "442" hc ⟨hpn, hchn, L.lit clean_lit⟩)) ?_
    cases AMap.get c.st.nicks (nickToLower pn) with
    | none => exact .panic _
    | some tid =>
      refine .bind fun sp hs => .bind fun rc _ => ?_
      exact L.leaveChannel (L.svc "PART" hc hm hp hs hchn)

theorem cmdServerPart_keeps (hc : I c) (hm : L.Msg m) (hp : L.cmds → PfxArgOK m) : (cmdServerPart c sid m).Sat I := by
  unfold cmdServerPart
  exact .andThen hm.param fun p0 hp0 => .foldlM _ hc fun c1 ch hch h1 =>
    serverPartOne_keeps L h1 hm hp fun x => splitChar_clean ',' (hp0 x) ch hch

theorem serverModeStep_keeps (hmem : HLogic.SetsMembers I) {chn lc : String} {mc : ModeCmd} (hc : I c) (hm : L.Msg m)
    (hchn : L.Str chn) (hmc : mc ∈ normalizeModes m) : (serverModeStep m chn lc c mc).Sat I := by
  unfold serverModeStep
  cases hch : getChan c lc with
  | none => exact .panic _
  | some ch =>
    dsimp -zeta only
    extract_lets b newvalue
    refine .ite' (.pure (L.putChan hc hch rfl fun x => { (L.chan hc hch).clean x with })) <| .ite' ?_ ?_
    · cases AMap.get ch.nicks (nickToLower mc.param) with
      | none => exact L.svcReply "441" hc hm ⟨fun x => (hm.modes x mc hmc).2, hchn, L.lit clean_lit⟩
      | some perms => exact .ite' (.pure (hmem _ hc hch)) <| .pure hc
    · refine L.svcReply "472" hc hm ⟨fun x => ?_, L.lit clean_lit⟩
      exact clean_singleton (modeByteChar_clean (hm.modes x mc hmc).1)

theorem cmdServerMode_keeps (hmem : HLogic.SetsMembers I) (hc : I c) (hm : L.Msg m) (hp : L.cmds → PfxArgOK m) :
    (cmdServerMode c sid m).Sat I := by
  rw [cmdServerMode_eq]
  refine .andThen hm.param fun chn hchn => ?_
  extract_lets lc modes
  cases getChan c lc with
  | none => exact L.svcReply "403" hc hm ⟨hchn, L.lit clean_lit⟩
  | some _ =>
    refine .andThen (.foldlM _ hc fun c1 mc hmc h1 => serverModeStep_keeps L hmem h1 hm hchn hmc) fun c2 h2 => ?_
    refine .ite' (.pure h2) ?_
    cases getChan c2 lc with
    | none => exact .panic _
    | some ch =>
      have hps : AllStr L.Str (chn :: ircParams modes) :=
        .cons hchn (.of_all fun p hp x => ircParams_clean (hm.modes x) p hp)
      exact .bind fun sp hs => .bind fun rc _ => .pure (L.svc "MODE" h2 hm hp hs hps)

theorem svsmodeStep_keeps {tid : Id} {mc : ModeCmd} (hc : I c) (hm : L.Msg m) (hmc : mc ∈ normalizeModes m) :
    (svsmodeStep tid c mc).Sat I := by
  unfold svsmodeStep
  extract_lets b
  refine .ite' (L.modS hc (fun _ => rfl) fun x _ hs => { hs with svid := (hm.modes x mc hmc).2 }) ?_
  refine .ite' (L.modS hc (fun _ => rfl) fun _ _ hs => { hs with }) ?_
  exact .ok (L.srv "501" hc ⟨L.lit clean_lit, L.lit clean_lit⟩)

theorem cmdServerSvsmode_keeps (hc : I c) (hm : L.Msg m) : (cmdServerSvsmode c sid m).Sat I := by
  rw [cmdServerSvsmode_eq]
  refine .andThen (L.getS hc) fun s cs => .andThen hm.param fun p0 hp0 => ?_
  cases AMap.get c.st.nicks (nickToLower p0) with
  | none => exact .pure (L.srv "401" hc ⟨L.lit clean_lit, hp0, L.lit clean_lit⟩)
  | some tid =>
    refine .bind fun modestr _ => .ite' (.pure (L.srv "501" hc ⟨L.lit clean_lit, L.lit clean_lit⟩)) ?_
    refine .andThen (.foldlM _ hc fun c1 mc hmc h1 => svsmodeStep_keeps L h1 hm hmc) fun c2 h2 => ?_
    exact .andThen (L.getS h2) fun t ct => .pure (L.relay "MODE" h2 cs ⟨ct.nick, L.lit (clean_modeStr _)⟩)

theorem svsnickTail_keeps {tid : Id} {p0 p1 : String} (hnick : L.NickUpd tid p1 c) (hc : I c) (hp1 : L.Str p1)
    (hv : isValidNickname p1 = true) : (svsnickTail c p0 p1 tid).Sat I := by
  unfold svsnickTail
  refine .andThen (L.getS hc) fun t ct => .bind fun c1 hm1 => .bind fun c2 hm2 => ?_
  have h2 : I c2 := hnick _ _ _ hc hp1 hv hm1 hm2
  exact .andThen (L.getS h2) fun t1 ct1 => .bind fun rc _ => .pure (L.relay "NICK" h2 ct ct1.nick)

theorem cmdServerSvsnick_keeps (hnick : ∀ tid n, L.NickUpd tid n c) (hc : I c) (hm : L.Msg m) :
    (cmdServerSvsnick c sid m).Sat I := by
  rw [cmdServerSvsnick_eq]
  refine .andThen hm.param fun p0 hp0 => .andThen hm.param fun p1 hp1 => ?_
  refine .ite (fun _ => .pure (L.srv "432" hc ⟨L.lit clean_lit, hp1, L.lit clean_lit⟩)) fun hv => ?_
  have htail {tid : Id} := svsnickTail_keeps L (p0 := p0) (hnick tid p1) hc hp1 (by simpa using hv)
  cases AMap.get c.st.nicks (nickToLower p0) with
  | none => exact .pure (L.srv "401" hc ⟨L.lit clean_lit, hp0, L.lit clean_lit⟩)
  | some tid =>
    dsimp only
    cases AMap.get c.st.nicks (nickToLower p1) with
    | none => exact htail
    | some other => exact .ite' (.pure (L.srv "433" hc ⟨L.lit clean_lit, hp1, L.lit clean_lit⟩)) htail

theorem cmdServerSvsjoin_keeps (hmem : HLogic.SetsMembers I) (hnew : L.AddsChan) (hc : I c) (hm : L.Msg m) :
    (cmdServerSvsjoin c sid m).Sat I := by
  unfold cmdServerSvsjoin
  refine .andThen hm.param fun p0 hp0 => .andThen hm.param fun chn hchn => ?_
  extract_lets +onlyGivenNames nick
  cases AMap.get c.st.nicks nick with
  | none => exact L.svcReply "401" hc hm ⟨hp0, L.lit clean_lit⟩
  | some tid =>
    refine .ite' (L.svcReply "403" hc hm ⟨hchn, L.lit clean_lit⟩) ?_
    extract_lets +onlyGivenNames lc existed
    refine .ite (fun _ => L.svcReply "403" hc hm ⟨hchn, L.lit clean_lit⟩) fun hlim => ?_
    extract_lets ch c1 ch2 c2
    have h1 : I c1 := L.putChan_admitted hmem hnew hc hchn hlim ch.nicks
    refine .ite' (.pure h1) ?_
    -- the member is added by a second store under the key just stored
    have h2 : I c2 := hmem _ h1 (AMap.get_set_same _ _ _)
    refine .andThen (L.modS h2 (fun _ => rfl) fun _ _ hs => { hs with }) fun c3 h3 => ?_
    refine .andThen (L.getS h3) fun t ct => .bind fun rc _ => ?_
    extract_lets c4 c5
    have h4 : I c4 := L.relay "JOIN" h3 ct hchn
    have h5 : I c5 := L.srv "SJOIN" h4 ⟨L.lit clean_lit, hchn, ((L.lit clean_lit).ite (L.lit clean_lit)).append ct.nick⟩
    have query {cmd : String} (hcmd : Clean cmd) : L.Msg ⟨none, cmd, [chn]⟩ := fun x => .plain (hchn x) hcmd
    exact .andThen (cmdTopic_keeps L h5 (query clean_lit)) fun c6 h6 => cmdNames_keeps L h6 (query clean_lit)

theorem serverBurstChan_keeps {t : Session} {lc : String} (hc : I c) (ct : L.Sess t) : (serverBurstChan t c lc).Sat I := by
  unfold serverBurstChan
  cases hch : getChan c lc with
  | none => exact .panic _
  | some ch =>
    dsimp only
    cases AMap.get ch.nicks (nickToLower t.nick) with
    | none => exact .panic _
    | some mem =>
      exact .ok (L.srv "SJOIN" hc
        ⟨L.lit clean_lit, (L.chan hc hch).name, ((L.lit clean_lit).ite (L.lit clean_lit)).append ct.nick⟩)

theorem serverBurstNick_keeps {nick : String} (hc : I c) : (serverBurstNick c nick).Sat I := by
  unfold serverBurstNick
  cases AMap.get c.st.nicks nick with
  | none => exact .panic _
  | some tid =>
    refine .andThen (L.getS hc) fun t ct => .ite' (.ok hc) ?_
    extract_lets c1
    have h1 : I c1 := L.plain "NICK" hc ⟨ct.nick, L.lit clean_lit, L.lit clean_lit, ct.user, ct.phost, L.serverName hc,
      ct.svid, L.lit (clean_modeStr _), ct.realname⟩
    exact .foldlM _ h1 fun _ _ _ h => serverBurstChan_keeps L h ct

/-- SERVER: `ERROR :Invalid password`, or the actor becomes a services link under the announced name and is sent
the burst `SERVER` / `NICK` / `SJOIN`.  `hsv`: `I` survives the link flag and the new prefix, given that the stored
PASS string is `services=<configured services password>`. -/
theorem cmdServer_keeps
    (hsv : ∀ {s : Session} {p0 : String}, AMap.get c.st.sessions sid = some s → servicesAuth c.st.config s.pass = true →
      m.params[0]? = some p0 → L.Str p0 →
      (modS c sid fun s => { s with server := true, ircPrefix := ⟨p0, "", ""⟩ }).Sat I)
    (hc : I c) (hm : L.Msg m) : (cmdServer c sid m).Sat I := by
  rw [cmdServer_eq]
  refine .bind fun s hs => .ite (fun _ => .pure (L.plain "ERROR" hc (L.lit clean_lit))) fun hauth => .bind fun p0 hp0 => ?_
  have hyes : servicesAuth c.st.config s.pass = true := by
    unfold servicesAuth
    simpa using hauth
  refine .andThen (hsv (getS_eq_ok.1 hs) hyes ((param_sat m 0).apply hp0) (hm.param p0 hp0)) fun c1 h1 => ?_
  extract_lets st1 c2 c3 nicks
  have h2 : I c2 := L.frame h1 rfl rfl rfl rfl rfl rfl fun x => (L.cinv h1 x).svsholds
  have h3 : I c3 := L.plain "SERVER" h2 ⟨L.serverName h2, L.lit clean_lit, L.lit clean_lit⟩
  exact .foldlM _ h3 fun _ _ _ h => serverBurstNick_keeps L h

end Robust.Irc
