import Robust.Irc.Proofs.Dispatch
import Robust.Irc.Proofs.EntrySteps
/-!
The entry-level theorems: one committed entry (`applyEntry`) preserves the full invariant
`GInv = Inv ∧ LInv ∧ NInv ∧ VInv` (`NInv.lean`) and — for entries as the real system produces them (`EntryOk`) whose
services lines are protocol-conforming (`Conforming`) — never panics (`applyEntry_wp`).  `runEntries` and
`WfHistory` are defined here; the same for every history is `run_wp` (`RunEntries.lean`).

Structure: each of the three stages of `processMessage` (`EntrySteps.lean`) is walked once (`addrStage_wp`,
`gateStage_wp` over `dispatchStage_wp`, then `processMessage_wp`); `Dispatch.lean` supplies the handler facts.
-/
namespace Robust.Irc
open Robust AMap

variable {G : Prop}

theorem addrStage_wp {c : Ctx} {e : Entry} {s : Session} (hp : Pre c e.session)
    (hs : AMap.get c.st.sessions e.session = some s) :
    (addrStage c e s).Wp G fun r => (r.2 = true → CPost c r.1 e.session) ∧
      (r.2 = false → CMid c r.1 e.session ∧
        ∃ s1, AMap.get r.1.st.sessions e.session = some s1 ∧ s1.server = s.server) := by
  have hid : s.id = e.session := (hp.inv.sessId _ s hs).1
  unfold addrStage
  refine .ite (fun _ => ?_) fun _ => .pure ⟨nofun, fun _ => ⟨.refl hp, s, hs, rfl⟩⟩
  rw [hid]
  refine .bind (modS_wp _ fun _ => ⟨s, hs⟩) fun c0 hm _ => ?_
  have m0 := (CMid.refl hp).modS_inert hm (fun _ => ⟨rfl, rfl, rfl, rfl⟩) fun _ => rfl
  have hs0 := modS_get_self (f := withAddr e.remoteAddr) hs hid hm
  have stay : ((c0, false).2 = true → CPost c (c0, false).1 e.session) ∧
      ((c0, false).2 = false → CMid c (c0, false).1 e.session ∧
        ∃ s1, AMap.get (c0, false).1.st.sessions e.session = some s1 ∧ s1.server = s.server) :=
    ⟨nofun, fun _ => ⟨m0, _, hs0, rfl⟩⟩
  cases AMap.get c0.st.config.banned e.remoteAddr with
  | none => exact .pure stay
  | some reason =>
    exact .ite (fun _ => .bind ((m0.sendUser _ _).deleteSession hs0 (.inl rfl)) fun _ _ h =>
      .pure ⟨fun _ => h.1, nofun⟩) fun _ => .pure stay

theorem AddrRun.eq {c c1 : Ctx} {e : Entry} {s : Session} {b : Bool} (ha : AddrRun c e s c1 b) :
    addrStage c e s = .ok (c1, b) := by
  unfold addrStage
  cases ha with
  | same h => rw [if_neg h]; rfl
  | stored h hm hb =>
    rw [if_pos h, show modS c s.id (fun s => { s with remoteAddr := e.remoteAddr }) = _ from hm, Res.ok_bind]
    cases hg : AMap.get c1.st.config.banned e.remoteAddr with
    | none => rfl
    | some reason => rw [hb reason hg]; rfl
  | banned h hm hb hre hd =>
    rw [if_pos h, show modS c s.id (fun s => { s with remoteAddr := e.remoteAddr }) = _ from hm, Res.ok_bind]
    dsimp only
    rw [hb]
    dsimp only
    rw [if_pos (bne_iff_ne.2 hre), hd]
    rfl

theorem AddrRun.spec {c c1 : Ctx} {e : Entry} {s : Session} (hp : Pre c e.session) (hn : NI c.st)
    (hs : AMap.get c.st.sessions e.session = some s) (ha : AddrRun c e s c1 false) :
    Pre c1 e.session ∧ OutStep c c1 ∧ NI c1.st ∧
      ∃ s1, AMap.get c1.st.sessions e.session = some s1 ∧ s1.server = s.server :=
  have h := ((addrStage_wp (G := False) hp hs).sat _ ha.eq).2 rfl
  ⟨h.1.pre, h.1.out, h.1.ni hn, h.2⟩

/-- the handler is called in a context where the actor may act, under the id of the entry -/
theorem Called.pre {c c1 c' : Ctx} {e : Entry} {m : IrcMsg} {s s1 : Session} {fname : String} {mp : Nat} {h : Handler}
    (k : Called c e m s c1 s1 fname mp h c') (hp : Pre c e.session) (hn : NI c.st) :
    Pre c1 e.session ∧ NI c1.st ∧ s1.server = s.server ∧ h c1 e.session m = .ok c' := by
  obtain ⟨hp1, _, n1, s1', hs1', hsv⟩ := k.addr.spec hp hn k.stored
  cases hs1'.symm.trans k.actor
  exact ⟨hp1, n1, hsv, (hp1.inv.sessId _ _ k.actor).1 ▸ k.ret⟩

theorem GateOK.loggedIn {s : Session} {command : String} (hg : GateOK s command) (hsv : s.server = false)
    (hk : command ∉ preLogin) : s.loggedIn = true := by
  rcases hg with h | h | h | h | h | h | h
  · rw [hsv] at h; cases h
  · exact h
  all_goals exact absurd (by rw [h]; decide) hk

theorem dispatchStage_wp {c : Ctx} {sid : Id} {s : Session} {m : IrcMsg} {command : String}
    (hp : Pre c sid) (hn : NI c.st) (hs : AMap.get c.st.sessions sid = some s)
    (hup : startsLowerS command = false) (hgate : GateOK s command) :
    (dispatchStage c s m command).Wp (s.server = true → SrvConf m command) fun c' => CPost c c' sid := by
  obtain rfl : s.id = sid := (hp.inv.sessId _ s hs).1
  have reply : ∀ x, CPost c (sendUser c s.id x) s.id := fun _ => ((CMid.refl hp).sendUser _ _).cpost
  unfold dispatchStage
  cases hl : lookupCommand ((if s.server then "server_" else "") ++ command) with
  | none => exact .pure (reply _)
  | some r =>
    obtain ⟨fname, mp⟩ := r
    refine .ite (fun _ => .pure (reply _)) fun hlen => ?_
    cases hh : handlerByName fname with
    | none => exact .declined _
    | some h =>
      rcases dispatch_ok hup hl hh with ⟨hsv, nl, ok, hnl⟩ | ⟨hsv, ok⟩
      · exact (ok c _ m s hp hn hs ⟨hsv, fun e => hgate.loggedIn hsv (hnl e)⟩).gate fun _ => Nat.le_of_not_lt hlen
      · exact (ok c _ m s hp hn hs hsv).gate (· hsv)

theorem gateStage_wp {c : Ctx} {e : Entry} {m : IrcMsg} {command : String} {s : Session}
    (hp : Pre c e.session) (hn : NI c.st) (hs : AMap.get c.st.sessions e.session = some s)
    (hup : startsLowerS command = false) :
    (gateStage c e m command).Wp (s.server = true → SrvConf m command) fun c' => CPost c c' e.session := by
  have hid : s.id = e.session := (hp.inv.sessId _ s hs).1
  unfold gateStage
  refine .bindEq (getS_of_get hs) (.ite (fun _ => ?_) fun hg => dispatchStage_wp hp hn hs hup (gateOK_iff_not_test.2 hg))
  rw [hid]
  have m1 := (CMid.refl hp).sendUser e.session (srv c "451" [command, "You have not registered"])
  exact .ite (fun _ => ((m1.sendUser _ _).deleteSession hs (.inl rfl)).mono fun _ h => h.1) fun _ => .pure m1.cpost

theorem processMessage_wp {c : Ctx} {e : Entry} {im : Option IrcMsg} {s : Session} (hp : Pre c e.session)
    (hn : NI c.st) (hs : AMap.get c.st.sessions e.session = some s) :
    (processMessage c e im).Wp (s.server = true → ∀ m, im = some m → SrvConf m (toUpper m.command)) fun c' => CPost c c' e.session := by
  rw [processMessage_eq]
  refine .bindEq (getS_of_get hs) ?_
  cases im with
  | none => exact .pure ((CMid.refl hp).sendUser _ _).cpost
  | some m =>
    dsimp only
    refine .bind (addrStage_wp hp hs) fun r _ ⟨ht, hf⟩ => ?_
    obtain ⟨c1, b⟩ := r
    cases b with
    | true => exact .pure (ht rfl)
    | false =>
      obtain ⟨m1, s1, hs1, hsv1⟩ := hf rfl
      rw [if_neg Bool.false_ne_true]
      exact ((gateStage_wp m1.pre (m1.ni hn) hs1 (startsLowerS_toUpper _)).gate fun g h =>
        g (by rw [← hsv1]; exact h) m rfl).mono fun _ h => m1.then h

theorem processMessage_post {c c' : Ctx} {e : Entry} {im : Option IrcMsg} (hp : Pre c e.session) (hn : NI c.st)
    (hr : processMessage c e im = .ok c') : Post c c' e.session :=
  have ⟨s, hs⟩ := hp.actor
  ((processMessage_wp (s := s) hp hn hs).sat c' hr).post

/-- entries as the real system produces them: the session named by a DeleteSession (type 1) or
IRCFromClient (type 2) entry has `Reply = 0` (the HTTP API cannot name anything else), and a
CreateSession (type 0) entry's id is fresh (raft indexes are unique): no stored session has that
`id.id` (only `⟨e.id, 0⟩` not being stored is used) -/
def EntryOk (st : St) (e : Entry) : Prop :=
  ((e.type = 1 ∨ e.type = 2) → e.session.reply = 0) ∧
  (e.type = 0 → ∀ id s, AMap.get st.sessions id = some s → id.id ≠ e.id)

theorem Privileged_lastProcessed {st : St} {sid x : Id} :
    Privileged { st with lastProcessed := x } sid ↔ Privileged st sid := Iff.rfl

/-- after the handler: set `lastProcessed`, purge the flagged sessions -/
theorem GInv_finish {c0 c : Ctx} {sid x : Id} (po : Post c0 c sid) (hn : NI c.st) :
    GInv (maybeDeleteSession { c.st with lastProcessed := x } sid) := by
  have hI : HInv { c.st with lastProcessed := x } := (HInv_lastProcessed _ _).2 po.hinv
  have hinv := Inv_maybeDeleteSession (sid := sid) hI (fun id s hg hd => po.flagged id s hg hd)
  exact GInv.of_ni hinv (LInv.maybeDeleteSession sid (po.linv.congr rfl) hI.sessNodup)
    (NI.maybeDeleteSession sid (hn.congr rfl rfl rfl) hI.sessNodup)

theorem GInv_updateLastClientMessageID {st st1 : St} {e : Entry} (h : GInv st)
    (hu : updateLastClientMessageID st e = some st1) : GInv st1 :=
  GInv.of_ni (Inv_updateLastClientMessageID h.inv hu) (h.linv.updateLastClientMessageID hu)
    (h.ni.updateLastClientMessageID hu)

theorem GInv.clientPre {st st1 : St} {e : Entry} (h : GInv st) (he : EntryOk st e) (ht : e.type = 2)
    (hu : updateLastClientMessageID st e = some st1) : GInv st1 ∧ Pre { st := st1, msgid := e.id } e.session := by
  have h1 := GInv_updateLastClientMessageID h hu
  obtain ⟨_, s1, u⟩ := updateLast_run hu
  exact ⟨h1, h1.pre u.get1 (he.1 (Or.inr ht))⟩

theorem parseRest_pfx (p : Option Prefix) (r : List Char) : (parseRest p r).pfx = p := by
  unfold parseRest
  split
  · rfl
  · rfl
  · dsimp only
    split <;> rfl

theorem parseMessage_quit (x : String) {m : IrcMsg} (h : parseMessage ("QUIT :" ++ x) = some m) :
    m.pfx = none ∧ toUpper m.command = "QUIT" := by
  unfold parseMessage at h
  have e : ("QUIT :" ++ x).toList = 'Q' :: 'U' :: 'I' :: 'T' :: ' ' :: ':' :: x.toList := by
    rw [String.toList_append]; rfl
  rw [e] at h
  have d : List.dropWhile isCutset ('Q' :: 'U' :: 'I' :: 'T' :: ' ' :: ':' :: x.toList) =
      'Q' :: 'U' :: 'I' :: 'T' :: ' ' :: ':' :: x.toList := by
    rw [List.dropWhile_cons_of_neg (by decide)]
  rw [d] at h
  rw [trimRight_cons _ (by decide), trimRight_cons _ (by decide), trimRight_cons _ (by decide),
    trimRight_cons _ (by decide), trimRight_cons _ (by decide), trimRight_cons _ (by decide)] at h
  generalize ((x.toList.reverse.dropWhile isCutset).reverse) = rest at h
  dsimp only at h
  split at h
  · cases h
  · split at h
    · rename_i heq
      simp at heq
    · simp only [Option.some.injEq] at h
      subst h
      refine ⟨parseRest_pfx _ _, ?_⟩
      unfold parseRest
      have hi : indexOfChar ('Q' :: 'U' :: 'I' :: 'T' :: ' ' :: ':' :: rest) ' ' = some 4 := by
        simp [indexOfChar, List.findIdx?_cons]
      rw [hi]
      dsimp only
      have hq : toUpper (toUpper (String.ofList (List.take 4 ('Q' :: 'U' :: 'I' :: 'T' :: ' ' :: ':' :: rest)))) = "QUIT" := by
        simp only [List.take_succ_cons, List.take_zero]
        decide
      split
      · rename_i heq; cases heq
      · rename_i heq; cases heq
      · rename_i heq
        cases heq
        split <;> exact hq

/-- lines a services link may send: prefix present and the documented number of parameters
(`docParams`; NICK: one parameter or at least four); everything a *client* session sends is allowed -/
def Conforming (st : St) (e : Entry) : Prop :=
  e.type = 2 → ∀ s m, AMap.get st.sessions e.session = some s → s.server = true →
    parseMessage e.data = some m → m.pfx.isSome = true ∧ ParamsOK (toUpper m.command) m.params.length

/-- One committed entry, from a state that satisfies the invariant: the next state satisfies it, and the entry does
not make the state machine panic if its services line is conforming. -/
theorem applyEntry_wp (st : St) (e : Entry) (h : GInv st) (he : EntryOk st e) :
    (applyEntry st e).Wp (Conforming st e) fun r => GInv r.1 := by
  unfold applyEntry
  refine .ite (fun _ => .ok ?_) fun _ => .ite (fun ht0 => .ok ?_) fun _ => .ite (fun ht1 => ?_) fun _ =>
    .ite (fun ht2 => ?_) fun _ => .ite (fun _ => ?_) fun _ => .ok h
  · cases hu : updateLastClientMessageID st e with
    | none => exact h
    | some st1 => exact GInv_updateLastClientMessageID h hu
  · cases hcs : createSession st ⟨e.id, 0⟩ e.data e.timestamp with
    | none => exact h
    | some st1 =>
      have hfresh : AMap.get st.sessions ⟨e.id, 0⟩ = none :=
        Option.eq_none_iff_forall_ne_some.2 fun s hg => he.2 ht0 _ s hg rfl
      exact GInv.of_ni (Inv_createSession h.inv (h.inv.toWInvCore.unindexed_of_fresh hfresh) hcs) (h.linv.createSession hcs) (h.ni.createSession hcs)
  · cases hs0 : AMap.get st.sessions e.session with
    | none => exact .ok h
    | some s0 =>
      have hp : Pre { st := st, msgid := e.id } e.session := h.pre hs0 (he.1 (Or.inl ht1))
      -- the line is the `QUIT` that the entry generates: no prefix, which the services' QUIT allows
      exact .bind ((processMessage_wp hp h.ni hs0).gate fun _ _ m hm => Or.inr (parseMessage_quit _ hm)) fun _ _ hc =>
        .pure (GInv_finish hc.post (hc.ni h.ni))
  · cases hu : updateLastClientMessageID st e with
    | none => exact .ok h
    | some st1 =>
      obtain ⟨h1, hp⟩ := h.clientPre he ht2 hu
      obtain ⟨s, s1, u⟩ := updateLast_run hu
      exact .bind ((processMessage_wp hp h1.ni u.get1).gate fun hc hsrv m hm =>
        Or.inl (hc ht2 s m u.get (by rw [← u.same.server]; exact hsrv) hm)) fun _ _ hc => .pure (GInv_finish hc.post (hc.ni h1.ni))
  · cases e.cfg with
    | none => exact .ok h
    | some cfg => exact .ok ⟨(Inv_config _ _).2 h.inv, h.linv.congr rfl, h.ninv, h.vinv⟩

theorem applyEntry_preserves (st st' : St) (e : Entry) (out : List Out) (h : GInv st) (he : EntryOk st e)
    (hr : applyEntry st e = .ok (st', out)) : GInv st' :=
  (applyEntry_wp st e h he).sat _ hr

def runEntries (st : St) : List Entry → Res St
  | [] => .ok st
  | e :: es =>
    match applyEntry st e with
    | .ok (st', _) => runEntries st' es
    | .panic site => .panic site
    | .declined why => .declined why

def WfHistory (st : St) : List Entry → Prop
  | [] => True
  | e :: es => EntryOk st e ∧ Conforming st e ∧ ∀ st' out, applyEntry st e = .ok (st', out) → WfHistory st' es

end Robust.Irc
