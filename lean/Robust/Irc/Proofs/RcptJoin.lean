import Robust.Irc.Proofs.RcptTopicMode
/-!
C12, part 2b: JOIN — who receives what, and what the command does to the membership relation `Lists`.
-/
namespace Robust.Irc
open Robust AMap

/-- the lines `joinOne` / `cmdJoin` can produce; `chans` = the channel names given -/
inductive JoinLine (st : St) (sid : Id) (s : Session) (chans : List String) (o : Out) : Prop
  /-- numeric replies (403, 473, 474, 475; 324, 331/332/333, 353, 366 of the implied MODE/TOPIC/NAMES): to the
  joining session only -/
  | reply (h : ToOnly sid o)
  /-- the `SJOIN` for the services links only -/
  | svc (h : o.rcpt = st.serverSessions)
  /-- the JOIN, under the joiner's prefix: to exactly the joiner and the sessions that list the channel -/
  | join (chn : String) (hmem : chn ∈ chans) (hv : isValidChannel chn = true)
      (hd : o.data = (IrcMsg.mk (some s.ircPrefix) "JOIN" [chn]).render)
      (hr : RcptIs o (fun id => id = sid ∨ Lists st (chanToLower chn) id) [])
  /-- the server's `MODE #chan +nt` for a channel that did not exist: same recipients (i.e. the joiner) -/
  | mode (chn : String) (hmem : chn ∈ chans)
      (hr : RcptIs o (fun id => id = sid ∨ Lists st (chanToLower chn) id) [])

theorem JoinLine.rebase {st0 st : St} {sid : Id} {s s0 : Session} {chans chans' : List String} {o : Out}
    (h : JoinLine st sid s chans o) (d : Drift (· = sid) st0 st) (hpfx : s.ircPrefix = s0.ircPrefix)
    (hsub : ∀ x, x ∈ chans → x ∈ chans') : JoinLine st0 sid s0 chans' o := by
  cases h with
  | reply h => exact .reply h
  | svc h => exact .svc (h.trans d.svc)
  | join chn hmem hv hd hr => exact .join chn (hsub _ hmem) hv (by rw [← hpfx]; exact hd) (d.rebase_joined (fun _ h => h) hr)
  | mode chn hmem hr => exact .mode chn (hsub _ hmem) (d.rebase_joined (fun _ h => h) hr)

theorem joinAdmit_out {c c1 : Ctx} {sid : Id} {s : Session} {chn key : String} {mm : Option (Option IrcMsg)}
    (hr : joinAdmit c sid s chn key = .ok (c1, mm)) :
    NewOut (ToOnly sid) c c1 ∧ c1.st.serverSessions = c.st.serverSessions := by
  refine Res.Sat.apply (P := fun r => NewOut (ToOnly sid) c r.1 ∧ r.1.st.serverSessions = c.st.serverSessions) ?_ hr
  exact joinAdmit_cases (Q := fun r => r.Sat _) (fun _ => .ok ⟨(NewOut.refl _ c).sendUser fun _ _ => rfl, rfl⟩)
    (fun _ _ => .ok ⟨.of_out rfl, rfl⟩) (fun _ _ => .ok ⟨.refl _ c, rfl⟩) fun _ => .declined _

/-- the announcements: JOIN (+ MODE) to the members (= the joiner and the former members), SJOIN to the services
links, the implied MODE/TOPIC/NAMES answers to the joiner -/
theorem joinAnnounce_out {c : Ctx} {sid : Id} {s3 : Session} {chn : String} {ch : Channel} {ex : Bool}
    {mm : Option IrcMsg} {st0 : St} {s0 : Session}
    (hp : Pre c sid) (hn : NI c.st) (hs : AMap.get c.st.sessions sid = some s3)
    (hon : chanToLower chn ∈ s3.channels)
    (hch : AMap.get c.st.channels (chanToLower chn) = some ch)
    (hv : isValidChannel chn = true)
    (hpfx : s3.ircPrefix = s0.ircPrefix) (hsv : c.st.serverSessions = st0.serverSessions)
    (hL : ∀ id, Lists c.st (chanToLower chn) id ↔ (id = sid ∨ Lists st0 (chanToLower chn) id)) :
    (joinAnnounce c sid chn ch ex mm).Sat fun c' => c'.st = c.st ∧ NewOut (JoinLine st0 sid s0 [chn]) c c' := by
  unfold joinAnnounce
  refine .bindEq (getS_of_get hs) (.bind fun rc hrc => ?_)
  dsimp only
  have hrcI : ∀ (i k : Nat) (d : Bytes) (rc' : List Nat), rcChannel c.st ch = .ok rc' →
      RcptIs ⟨i, k, d, rc'⟩ (fun id => id = sid ∨ Lists st0 (chanToLower chn) id) [] :=
    fun i k d rc' h => (rcChannel_lists hp.inv hn hch h).rcptIs_nil.congr hL
  have hmem : chn ∈ [chn] := List.mem_singleton.2 rfl
  have n0 : NewOut (JoinLine st0 sid s0 [chn]) c (emit c ⟨some s3.ircPrefix, "JOIN", [chn]⟩ rc) :=
    (NewOut.refl _ c).emit fun _ _ => .join chn hmem hv (by rw [hpfx]) (hrcI _ _ _ _ hrc)
  refine .andThen (R := fun c1 => c1.st = c.st ∧ NewOut (JoinLine st0 sid s0 [chn]) c c1) ?_ fun c1 ⟨e1, n1⟩ => ?_
  · cases mm with
    | none => exact .pure ⟨rfl, n0⟩
    | some m => exact .bind fun rc2 hrc2 => .pure ⟨rfl, n0.emit fun _ _ => .mode chn hmem (hrcI _ _ _ _ hrc2)⟩
  have e1' : (emit c1 (srv c1 "SJOIN" ["1", chn, (if (!ex) = true then "@" else "") ++ s3.nick])
      (rcServices c1.st)).st = c.st := e1
  have hs1' : AMap.get (emit c1 (srv c1 "SJOIN" ["1", chn, (if (!ex) = true then "@" else "") ++ s3.nick])
      (rcServices c1.st)).st.sessions sid = some s3 := by rw [e1']; exact hs
  have n1' : NewOut (JoinLine st0 sid s0 [chn]) c
      (emit c1 (srv c1 "SJOIN" ["1", chn, (if (!ex) = true then "@" else "") ++ s3.nick]) (rcServices c1.st)) :=
    n1.emit fun _ _ => .svc (by show c1.st.serverSessions = _; rw [e1, hsv])
  generalize emit c1 (srv c1 "SJOIN" ["1", chn, (if (!ex) = true then "@" else "") ++ s3.nick])
      (rcServices c1.st) = c1' at e1' hs1' n1' ⊢
  refine .bind fun c2 h2 => .bind fun c3 h3 c4 hr => ?_
  obtain ⟨e2, n2⟩ := cmdMode_query_out hs1' hon h2
  obtain ⟨e3, n3⟩ := cmdTopic_query_out h3
  obtain ⟨e4, n4⟩ := cmdNames_wp.out hr
  refine ⟨by rw [e4, e3, e2, e1'], ?_⟩
  exact ((n1'.trans (n2.mono fun _ h => .reply h)).trans (n3.mono fun _ h => .reply h)).trans
    (n4.mono fun _ h => .reply h)

theorem joinTail_out {c c' : Ctx} {sid : Id} {s : Session} {chn : String} {ex : Bool} {mm : Option IrcMsg}
    (hj : JPre c sid (chanToLower chn)) (hs : AMap.get c.st.sessions sid = some s) (hl : s.loggedIn = true)
    (hn : NI c.st) (hv : isValidChannel chn = true) (hr : joinTail c sid s chn ex mm = .ok c') :
    NewOut (JoinLine c.st sid s [chn]) c c' ∧ c'.st.serverSessions = c.st.serverSessions ∧
    (∃ s', AMap.get c'.st.sessions sid = some s' ∧ s'.ircPrefix = s.ircPrefix) ∧
    (SameLists c.st c'.st ∨ Joins c.st c'.st sid (chanToLower chn)) := by
  revert c' hr
  show (joinTail c sid s chn ex mm).Sat _
  unfold joinTail
  dsimp only
  cases hch : getChan c (chanToLower chn) with
  | none => exact .panic _
  | some ch =>
    refine .bind fun c2 h2 => ?_
    obtain ⟨hj2, f2, n2, hch2, hu2⟩ := joinInvite_spec hj h2
    obtain ⟨inv, hs2⟩ := hu2.get sid s hs
    have o2 : NewOut (JoinLine c.st sid s [chn]) c c2 := .of_out f2.out
    rw [getChan_eq, ← hch2] at hch
    refine .ite (fun _ => .pure ⟨o2, f2.serverSessions, ⟨_, hs2, rfl⟩, Or.inl (.sessUpTo hu2)⟩) fun _ => .bind fun c3 h3 => ?_
    obtain ⟨hp3, n3, sp⟩ := joinAdd_spec hj2 hs2 hl hch h3
    have hg3 := sp.get_self hs2
    have hL3 : Joins c.st c3.st sid (chanToLower chn) := fun lc id =>
      (sp.joins lc id).trans (or_congr_left (SameLists.sessUpTo hu2).lists)
    have hsv3 := sp.frame.serverSessions.trans f2.serverSessions
    refine (joinAnnounce_out (st0 := c.st) (s0 := s) hp3 (n3 (n2 hn)) hg3 (Robust.Irc.mem_setInsert.2 (Or.inl rfl)) sp.chan hv
      rfl hsv3 hL3.members).mono fun c' ⟨e4, no4⟩ => ?_
    rw [← e4] at hsv3 hg3 hL3
    exact ⟨(o2.frame sp.frame).trans no4, hsv3, ⟨_, hg3, rfl⟩, Or.inr hL3⟩

theorem joinOne_step {c c' : Ctx} {sid : Id} {chn key : String} {s : Session} (hp : Pre c sid) (hn : NI c.st)
    (hs : AMap.get c.st.sessions sid = some s) (hl : s.loggedIn = true)
    (hr : joinOne c sid chn key = .ok c') :
    NewOut (JoinLine c.st sid s [chn]) c c' ∧ c'.st.serverSessions = c.st.serverSessions ∧
    (∃ s', AMap.get c'.st.sessions sid = some s' ∧ s'.ircPrefix = s.ircPrefix) ∧
    (SameLists c.st c'.st ∨ Joins c.st c'.st sid (chanToLower chn)) := by
  revert c' hr
  show (joinOne c sid chn key).Sat _
  rw [joinOne_eq]
  refine .bindEq (getS_of_get hs) (.ite (fun _ => .pure ⟨(NewOut.refl _ c).sendUser fun _ _ => .reply rfl, rfl,
    ⟨s, hs, rfl⟩, Or.inl (.refl _)⟩) fun hvc => .bind fun r hadm => ?_)
  have hv : isValidChannel chn = true := by simpa using hvc
  obtain ⟨c1, mm⟩ := r
  have n1 := joinAdmit_ni hn hv hadm
  obtain ⟨no1, hsv1⟩ := joinAdmit_out hadm
  obtain ⟨_, hsess, hcase⟩ := joinAdmit_spec hp hadm
  have hs1 : AMap.get c1.st.sessions sid = some s := by rw [hsess]; exact hs
  have hsl1 : SameLists c.st c1.st := SameLists.of_eq hsess
  have no1' : NewOut (JoinLine c.st sid s [chn]) c c1 := no1.mono fun _ h => .reply h
  rcases hcase with ⟨rfl, e⟩ | ⟨m, rfl, hj, _⟩
  · exact .pure ⟨no1', hsv1, ⟨s, hs1, rfl⟩, Or.inl hsl1⟩
  · intro c' hr
    obtain ⟨no2, hsv2, hk, hcase2⟩ := joinTail_out hj hs1 hl n1 hv hr
    refine ⟨no1'.trans (no2.mono fun o h => h.rebase ((Drift.refl _ _).same hsv1 hsl1) rfl fun _ h => h),
      hsv2.trans hsv1, hk, ?_⟩
    rcases hcase2 with h | h
    · exact Or.inl (hsl1.trans h)
    · exact Or.inr fun lc id => (h lc id).trans (or_congr_left hsl1.lists)

theorem joinOne_out {c c' : Ctx} {sid : Id} {chn key : String} {s : Session} (hp : Pre c sid) (hn : NI c.st)
    (hs : AMap.get c.st.sessions sid = some s) (hl : s.loggedIn = true)
    (hr : joinOne c sid chn key = .ok c') :
    NewOut (JoinLine c.st sid s [chn]) c c' := (joinOne_step hp hn hs hl hr).1

/-- the loop; `st0`, `s0` = the state and the joiner's session value when the command started -/
theorem joinLoop_out {keys chans all : List String} {idx : Nat} {st0 : St} {s0 : Session} {c c' : Ctx} {sid : Id}
    {s : Session} (hp : Pre c sid) (hn : NI c.st) (hs : AMap.get c.st.sessions sid = some s)
    (hl : s.loggedIn = true) (hpfx : s.ircPrefix = s0.ircPrefix) (d : Drift (· = sid) st0 c.st)
    (hsub : ∀ x, x ∈ chans → x ∈ all)
    (hr : joinLoop c sid keys chans idx = .ok c') : NewOut (JoinLine st0 sid s0 all) c c' := by
  induction chans generalizing c idx s with
  | nil => cases hr; exact NewOut.refl _ _
  | cons ch rest ih =>
    unfold joinLoop at hr
    obtain ⟨c1, h1, hr⟩ := Res.bind_eq_ok.1 hr
    obtain ⟨hm1, s1, hs1, hl1⟩ := (joinOne_wp (G := False) (.refl hp) ⟨s, hs, hl⟩).sat c1 h1
    obtain ⟨no1, hsv1, ⟨s1', hs1', hpfx1⟩, hcase⟩ := joinOne_step hp hn hs hl h1
    rw [hs1] at hs1'
    cases hs1'
    have no1' : NewOut (JoinLine st0 sid s0 all) c c1 :=
      no1.mono fun o h => h.rebase d hpfx fun x hx => by
        rw [List.mem_singleton] at hx
        subst hx
        exact hsub _ (List.mem_cons_self ..)
    exact no1'.trans (ih hm1.pre (hm1.ni hn) hs1 hl1 (hpfx1.trans hpfx)
      (hcase.elim (d.same hsv1) fun h => d.step hsv1 rfl h.onlyAt)
      (fun x hx => hsub x (List.mem_cons_of_mem _ hx)) hr)

/-- the whole command (several channels): recipients relative to the state in which the command starts -/
theorem cmdJoin_out {c c' : Ctx} {sid : Id} {m : IrcMsg} {s : Session} {p0 : String} (hp : Pre c sid) (hn : NI c.st)
    (hs : AMap.get c.st.sessions sid = some s) (hl : s.loggedIn = true) (hp0 : m.params[0]? = some p0)
    (hr : cmdJoin c sid m = .ok c') :
    NewOut (JoinLine c.st sid s (splitChar p0 ',')) c c' := by
  unfold cmdJoin at hr
  rw [param_of_some hp0] at hr
  exact joinLoop_out hp hn hs hl rfl (.refl _ _) (fun _ h => h) hr

end Robust.Irc
