import Robust.Irc.Proofs.RcptSvcA
import Robust.Irc.Proofs.RcptSvcB
import Robust.Irc.Proofs.RcptSvcC
import Robust.Irc.Proofs.RcptApply
/-!
C12: every line that any command of a *services link* can produce, with its exact recipients — the union of the
per-handler classifications (`RcptSrv.lean`, `RcptSvcA/B/C.lean`), the case split over the `server_…` keys of the
command table, and that split in the form the entry-level theorems of `RcptApply.lean` take it (`classifies_services`).
-/
namespace Robust.Irc
open Robust AMap

/-- every line a command of a *services link* can produce, by handler; `st` is the state in which the handler
starts, `sid`/`s` the acting link and its stored value, `m` the parsed message.  (`SVSHOLD` produces no line.) -/
inductive ServiceLine (st : St) (sid : Id) (s : Session) (m : IrcMsg) (o : Out) : Prop
  /-- a line for the acting link only: `PONG`.  (The gate's 421/461 never reach a handler: at entry level they are the
  `ToOnly` alternative beside `ServiceLine`.) -/
  | self (h : ToOnly sid o)
  /-- a numeric reply for the services links only (all numerics of `NICK`) -/
  | reply (h : o.rcpt = st.serverSessions)
  | privmsg (h : SrvPrivmsgLine st m o)
  | join (h : SrvJoinLine st m o)
  | part (h : SrvPartLine st m o)
  | kick (h : SrvKickLine st m o)
  | mode (h : SrvModeLine st m o)
  | topic (h : SrvTopicLine st m o)
  | invite (h : SrvInviteLine st m o)
  | svsjoin (h : SrvSvsjoinLine st m o)
  | svspart (h : SrvSvspartLine st m o)
  | svsnick (h : SrvSvsnickLine st m o)
  | svsmode (h : SrvSvsmodeLine st s m o)
  | kill (h : SrvKillLine st m o)
  | quit (h : SrvQuitLine st sid m o)

/-- **the services part of the command table**: whatever handler a `server_…` key selects, all its lines are
classified -/
theorem services_handler_out {key cmd fname : String} {mp : Nat} {h : Handler}
    (hmem : (key, fname, mp, false) ∈ Gen.Commands.commands) (hkey : key = "server_" ++ cmd)
    (hh : handlerByName fname = some h)
    {c c' : Ctx} {sid : Id} {m : IrcMsg} {s : Session} (hp : Pre c sid) (hn : NI c.st)
    (hs : AMap.get c.st.sessions sid = some s) (hsrv : s.server = true)
    (hr : h c sid m = .ok c') : NewOut (ServiceLine c.st sid s m) c c' := by
  have hi := hp.inv
  subst hkey
  cases ServicesHandler.of_table hmem hh with
  | invite => exact (cmdServerInvite_out hi hn hr).1.mono fun _ => .invite
  | join => exact (cmdServerJoin_out hi hn hr).mono fun _ => .join
  | kick => exact ((cmdServerKick_step hi hn).apply hr).1.mono fun _ => .kick
  | kill => exact (cmdServerKill_out hi hn hr).1.mono fun _ => .kill
  | mode => exact (cmdServerMode_out hi hn hr).1.mono fun _ => .mode
  | nick => exact (cmdServerNick_out hr).1.mono fun _ => .reply
  | privmsg => exact (cmdServerPrivmsg_out hi hn hr).2.mono fun _ => .privmsg
  | part => exact (cmdServerPart_out hi hn hr).mono fun _ => .part
  | ping => exact (cmdPing_wp.out hr).2.mono fun _ => .self
  | quit => exact (cmdServerQuit_spec hp hn hs hsrv hr).1.mono fun _ => .quit
  | svshold => exact NewOut.of_out (cmdServerSvshold_out hr).1
  | svsjoin => exact (cmdServerSvsjoin_out hi hn hr).mono fun _ => .svsjoin
  | svsmode => exact (cmdServerSvsmode_out hi hs hr).1.mono fun _ => .svsmode
  | svsnick => exact (cmdServerSvsnick_out hp.inv hn hr).1.mono fun _ => .svsnick
  | svspart => exact ((cmdServerSvspart_step hi hn).apply hr).1.mono fun _ => .svspart
  | topic => exact (cmdServerTopic_out hi hn hr).1.mono fun _ => .topic

theorem classifies_services : Classifies ServiceLine true := fun hp hn hs hsrv _ hl _ hh hr => by
  rw [if_pos hsrv] at hl
  exact services_handler_out (lookupCommand_mem hl) rfl hh hp hn hs hsrv hr

end Robust.Irc
