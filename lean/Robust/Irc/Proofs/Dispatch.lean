import Robust.Irc.Proofs.H1
import Robust.Irc.Proofs.H2
import Robust.Irc.Proofs.H3
import Robust.Irc.Proofs.Clean
import Robust.Irc.Proofs.CommandTable
/-!
The dispatch of `processMessage`: every entry of the regenerated command table
(`Gen.Commands.commands`, 55 entries outside the test-only environment guard) leads to a handler
for which the per-handler theorems of the groups H1/H2/H3 apply.

* `lookupCommand_mem`   – a successful lookup is an entry of the table;
* `startsLowerS_toUpper` – an upper-cased client command does not start with a lower-case `s`, as the keys of
                          services commands do (`startsLowerS`, `CommandTable.lean`);
* `RowOK`               – what the dispatch needs from the handler found, in `Wp` form: `CPost` for every line, no
                          panic after the test the dispatch has made; `ClientOK` and `ServerOK` are its two
                          instances, each row is the handler's one theorem (directly, or through
                          `ClientWp.clientOK`, `InertWp.clientOK`, `ClientOK.of_inert`, `SrvWp.serverOK`);
* `dispatch_ok`         – the case split over the rows of the table (`CommandTable.lean`).
-/
namespace Robust.Irc
open Robust AMap

theorem lookupCommand_mem {key fname : String} {mp : Nat} (h : lookupCommand key = some (fname, mp)) :
    (key, fname, mp, false) ∈ Gen.Commands.commands := by
  unfold lookupCommand at h
  cases he : Gen.Commands.commands.find? (fun e => e.1 == key && !e.2.2.2) with
  | none => rw [he] at h; cases h
  | some e =>
    rw [he] at h
    have hp := List.find?_some he
    simp only [Bool.and_eq_true, beq_iff_eq, Bool.not_eq_true'] at hp
    obtain ⟨k, f, n, b⟩ := e
    cases h
    obtain ⟨rfl, rfl⟩ := hp
    exact List.mem_of_find?_eq_some he

theorem upperChar_ne_s (c : Char) : upperChar c ≠ 's' := by
  unfold upperChar
  split
  · split
    · rename_i h1 h2
      rw [Char.le_def, Char.le_def] at h2
      have ha : 97 ≤ c.toNat := UInt32.le_iff_toNat_le.mp h2.1
      have hz : c.toNat ≤ 122 := UInt32.le_iff_toNat_le.mp h2.2
      intro he
      have := congrArg Char.toNat he
      rw [toNat_ofNat_valid _ (by omega)] at this
      have h115 : ('s' : Char).toNat = 115 := by decide
      omega
    · rename_i h1 h2
      intro he
      subst he
      exact h2 (by decide)
  · split
    · rename_i v hv
      obtain ⟨k, hk⟩ := lookupTable_mem _ _ _ hv
      have h1 := List.all_eq_true.mp
        (by decide +kernel : Gen.Unicode.toUpperTable.toList.all (fun p => p.2 != 115) = true) (k, v) hk
      have h2 := List.all_eq_true.mp upperTable_ok (k, v) hk
      simp only [Bool.and_eq_true, Bool.or_eq_true, bne_iff_ne, decide_eq_true_eq] at h1 h2
      intro he
      have := congrArg Char.toNat he
      rw [toNat_ofNat_valid v h2.2] at this
      have h115 : ('s' : Char).toNat = 115 := by decide
      omega
    · rename_i h1 _ _
      intro he
      subst he
      exact h1 (by decide)

theorem startsLowerS_toUpper (x : String) : startsLowerS (toUpper x) = false := by
  unfold startsLowerS toUpper
  rw [String.toList_ofList]
  cases x.toList with
  | nil => rfl
  | cons c t =>
    simp only [List.map_cons, beq_eq_false_iff_ne, ne_eq]
    exact upperChar_ne_s c

/-- the documented number of parameters of the services commands (the header comment of each scmd_*.go; the numbers
of `H3_summary`) -/
def docParams : String → Nat
  | "NICK" => 4 | "QUIT" => 0 | "KILL" => 2 | "JOIN" => 1 | "PART" => 1 | "KICK" => 2 | "MODE" => 1
  | "PRIVMSG" => 1 | "NOTICE" => 1 | "INVITE" => 2 | "TOPIC" => 3 | "SVSHOLD" => 1 | "SVSJOIN" => 2
  | "SVSMODE" => 2 | "SVSNICK" => 2 | "SVSPART" => 2 | _ => 0

/-- `n` parameters are acceptable for the services command `cmd`: the documented number, where NICK
also has the one-parameter form (a no-op) -/
def ParamsOK (cmd : String) (n : Nat) : Prop :=
  if cmd = "NICK" then n = 1 ∨ 4 ≤ n else docParams cmd ≤ n

/-- the row of a handler as the dispatch uses it: called for a stored actor of whom it knows `A`, after the test `G`
of the line, the handler keeps the invariant and reaches no panic site.  `ClientOK`: a client handler registered with
`mp` parameters (`nl`: only dispatched for registered sessions); `ServerOK`: a services handler under its key -/
def RowOK (A : Session → Prop) (G : IrcMsg → Prop) (h : Ctx → Id → IrcMsg → Res Ctx) : Prop :=
  ∀ c sid m s, Pre c sid → NI c.st → AMap.get c.st.sessions sid = some s → A s →
    (h c sid m).Wp (G m) fun c' => CPost c c' sid

abbrev ClientOK (h : Ctx → Id → IrcMsg → Res Ctx) (mp : Nat) (nl : Bool) : Prop :=
  RowOK (fun s => s.server = false ∧ (nl = true → s.loggedIn = true)) (mp ≤ ·.params.length) h

theorem NI.of_inert {c c' : Ctx} (h : NI c.st) (he : Inert c c') : NI c'.st := h.sim he.sim

theorem ClientOK.of_inert {h : Ctx → Id → IrcMsg → Res Ctx} {mp : Nat} {nl : Bool}
    (hi : ∀ {c c' : Ctx} {sid : Id} {m : IrcMsg}, WInvCore c.st → h c sid m = .ok c' → Inert c c')
    (hs : ClientSafe h mp nl) : ClientOK h mp nl :=
  fun c sid m s hp _ hg ha => ⟨fun _ hr => have i := hi hp.inv.toWInvCore hr; ⟨i.post hp, fun hn => hn.of_inert i⟩,
    hs c sid m s hp hg ha.1 ha.2⟩

theorem ClientOK.of_emits {h : Ctx → Id → IrcMsg → Res Ctx} {mp : Nat} {nl : Bool}
    (he : ∀ {c c' : Ctx} {sid : Id} {m : IrcMsg}, h c sid m = .ok c' → Emits c c') (hs : ClientSafe h mp nl) :
    ClientOK h mp nl :=
  .of_inert (fun hw hr => Inert.of_emits hw (he hr)) hs

theorem ClientWp.clientOK {h : Ctx → Id → IrcMsg → Res Ctx} {mp : Nat} (H : ClientWp h mp) (nl : Bool) :
    ClientOK h mp nl :=
  fun c sid m _ hp _ _ _ => (H c sid m hp).mono fun _ => CMid.cpost

theorem InertWp.clientOK {h : Ctx → Id → IrcMsg → Res Ctx} {mp : Nat} (H : InertWp h (Gated mp)) (nl : Bool) :
    ClientOK h mp nl :=
  .of_inert H.inert (H.safe nl)

/-- NICK: that a nickless actor is unindexed and in no channel is what `NInv` says -/
theorem clientOK_nick : ClientOK cmdNick 0 false :=
  fun _ sid _ s hp hn hs _ => ((cmdNick_wp hp hs).gate fun _ => trivial).mono fun _ h =>
    (h fun he => have h := (hn.ninv hp.inv.toWInvCore).2 sid s hs he; ⟨h.2, h.1⟩).cpost

/-- the commands that the registration gate lets through before login -/
def preLogin : List String := ["NICK", "USER", "PASS", "QUIT", "SERVER"]

/-- the row of a client command `key`: either the handler needs no registered session, or the gate
does not let `key` through before login -/
def ClientRow (key : String) (mp : Nat) (h : Ctx → Id → IrcMsg → Res Ctx) : Prop :=
  ∃ nl, ClientOK h mp nl ∧ (nl = true → key ∉ preLogin)

theorem ClientRow.gated {key : String} {mp : Nat} {h : Ctx → Id → IrcMsg → Res Ctx} (ok : ClientOK h mp true)
    (hk : key ∉ preLogin) : ClientRow key mp h := ⟨true, ok, fun _ => hk⟩

theorem ClientRow.ungated {key : String} {mp : Nat} {h : Ctx → Id → IrcMsg → Res Ctx} (ok : ClientOK h mp false) :
    ClientRow key mp h := ⟨false, ok, nofun⟩

/-- what a services line must be for the command `command`: prefix present and the documented number of
parameters; or the line that a DeleteSession entry generates for the link itself (`QUIT` without prefix) -/
def SrvConf (m : IrcMsg) (command : String) : Prop :=
  (m.pfx.isSome = true ∧ ParamsOK command m.params.length) ∨ (m.pfx = none ∧ command = "QUIT")

theorem Mid.cpost {c c' : Ctx} {sid : Id} (h : Mid c c' sid) : CPost c c' sid := ⟨h.post, h.ninv⟩

abbrev ServerOK (h : Ctx → Id → IrcMsg → Res Ctx) (cmd : String) : Prop := RowOK (·.server = true) (SrvConf · cmd) h

theorem SrvWp.serverOK {h : Ctx → Id → IrcMsg → Res Ctx} {cmd : String} {d : Nat} (H : SrvWp h d)
    (hd : cmd ≠ "NICK" ∧ cmd ≠ "QUIT" ∧ docParams cmd = d) : ServerOK h cmd :=
  fun c sid m _ hpre _ hg hsrv => ((H c c sid m (.of_pre hpre hg hsrv)).gate fun hconf => by
    rcases hconf with ⟨hpfx, hpar⟩ | ⟨_, e⟩
    · unfold ParamsOK at hpar
      rw [if_neg hd.1, hd.2.2] at hpar
      exact ⟨hpfx, hpar⟩
    · exact absurd e hd.2.1).mono fun _ => Mid.cpost

theorem serverOK_nick : ServerOK cmdServerNick "NICK" :=
  fun _ _ _ _ hpre _ hg hsrv => ((cmdServerNick_wp (.of_pre hpre hg hsrv)).gate fun hconf => by
    rcases hconf with ⟨_, hpar⟩ | ⟨_, e⟩
    · unfold ParamsOK at hpar
      rwa [if_pos rfl] at hpar
    · exact absurd e (by decide +kernel)).mono fun _ => Mid.cpost

theorem serverOK_quit : ServerOK cmdServerQuit "QUIT" :=
  fun _ _ _ _ hpre _ hg hsrv => ((cmdServerQuit_wp (.of_pre hpre hg hsrv)).gate fun _ => trivial).mono fun _ h => h.1.cpost

/-- `server_PING` is served by the client handler -/
theorem serverOK_ping : ServerOK cmdPing "PING" :=
  fun _ _ m _ hpre _ hg _ => ⟨fun _ hr => ⟨Emits.post hpre (cmdPing_emits hr), fun hn => by rw [(cmdPing_emits hr).st]; exact hn⟩,
    fun _ => cmdPing_noPanic m hg⟩

theorem ClientHandler.row {key : String} {mp : Nat} {h : Handler} (hc : ClientHandler key mp h) :
    ClientRow key mp h := by
  cases hc with
  | away => exact .gated (cmdAway_wp.clientOK true) (by decide +kernel)
  | alias hk =>
    exact .gated (cmdServiceAlias_wp.inertWp.clientOK true)
      fun hp => absurd hk ((by decide +kernel : ∀ k ∈ preLogin, k ∉ ["BOTSERV", "BS", "CHANSERV", "CS", "HOSTSERV",
        "HS", "MEMOSERV", "MS", "NICKSERV", "NS", "OPERSERV", "OS"]) _ hp)
  | gline => exact .gated (fun _ _ _ _ hp _ _ _ => cmdGline_wp (.refl hp)) (by decide +kernel)
  | invite => exact .gated (cmdInvite_wp.clientOK true) (by decide +kernel)
  | ison => exact .gated (cmdIson_wp.inertWp.clientOK true) (by decide +kernel)
  | join =>
    exact .gated (fun _ _ _ _ hp _ hs hl => (cmdJoin_wp hp hs (hl.2 rfl)).mono fun _ => CMid.cpost) (by decide +kernel)
  | kick => exact .gated (cmdKick_wp.clientOK true) (by decide +kernel)
  | kill => exact .gated (fun _ _ _ _ hp _ _ _ => cmdKill_wp (.refl hp)) (by decide +kernel)
  | knock => exact .gated (cmdKnock_wp.inertWp.clientOK true) (by decide +kernel)
  | list => exact .gated (cmdList_wp.inertWp.clientOK true) (by decide +kernel)
  | mode => exact .gated (.of_inert cmdMode_inert cmdMode_safe) (by decide +kernel)
  | motd => exact .gated (cmdMotd_wp.clientOK true) (by decide +kernel)
  | names => exact .gated (.of_emits cmdNames_emits cmdNames_safe) (by decide +kernel)
  | nick => exact .ungated clientOK_nick
  | oper => exact .gated (cmdOper_wp.clientOK true) (by decide +kernel)
  | part =>
    exact .gated (fun _ _ _ _ hp _ hs hl => (cmdPart_wp hp hs (hl.2 rfl)).mono fun _ => CMid.cpost) (by decide +kernel)
  | pass => exact .ungated (cmdPass_wp.clientOK false)
  | ping => exact .gated (.of_emits cmdPing_emits cmdPing_safe) (by decide +kernel)
  | privmsg hk =>
    exact .gated (cmdPrivmsg_wp.inertWp.clientOK true)
      fun hp => absurd hk ((by decide +kernel : ∀ k ∈ preLogin, k ∉ ["PRIVMSG", "NOTICE"]) _ hp)
  | quit => exact .ungated fun _ _ _ _ hp _ _ _ => cmdQuit_wp (.refl hp)
  | server => exact .ungated (cmdServer_wp.clientOK false)
  | topic => exact .gated (.of_inert cmdTopic_inert cmdTopic_safe) (by decide +kernel)
  | user => exact .ungated (cmdUser_wp.clientOK false)
  | userhost => exact .gated (cmdUserhost_wp.inertWp.clientOK true) (by decide +kernel)
  | who => exact .gated (cmdWho_wp.inertWp.clientOK true) (by decide +kernel)
  | whois => exact .gated (cmdWhois_wp.inertWp.clientOK true) (by decide +kernel)

theorem ServicesHandler.serverOK {cmd : String} {mp : Nat} {h : Handler} (hs : ServicesHandler cmd mp h) :
    ServerOK h cmd := by
  cases hs with
  | invite => exact cmdServerInvite_wp.serverOK (by decide +kernel)
  | join => exact cmdServerJoin_wp.serverOK (by decide +kernel)
  | kick => exact cmdServerKick_wp.serverOK (by decide +kernel)
  | kill => exact cmdServerKill_wp.serverOK (by decide +kernel)
  | mode => exact cmdServerMode_wp.serverOK (by decide +kernel)
  | nick => exact serverOK_nick
  | privmsg hk =>
    exact cmdServerPrivmsg_wp.serverOK
      ((by decide +kernel : ∀ k ∈ ["PRIVMSG", "NOTICE"], k ≠ "NICK" ∧ k ≠ "QUIT" ∧ docParams k = 1) _ hk)
  | part => exact cmdServerPart_wp.serverOK (by decide +kernel)
  | ping => exact serverOK_ping
  | quit => exact serverOK_quit
  | svshold => exact cmdServerSvshold_wp.serverOK (by decide +kernel)
  | svsjoin => exact cmdServerSvsjoin_wp.serverOK (by decide +kernel)
  | svsmode => exact cmdServerSvsmode_wp.serverOK (by decide +kernel)
  | svsnick => exact cmdServerSvsnick_wp.serverOK (by decide +kernel)
  | svspart => exact cmdServerSvspart_wp.serverOK (by decide +kernel)
  | topic => exact cmdServerTopic_wp.serverOK (by decide +kernel)

theorem dispatch_ok {s : Session} {command fname : String} {mp : Nat} {h : Handler}
    (hup : startsLowerS command = false)
    (hl : lookupCommand ((if s.server then "server_" else "") ++ command) = some (fname, mp))
    (hh : handlerByName fname = some h) :
    (s.server = false ∧ ClientRow command mp h) ∨ (s.server = true ∧ ServerOK h command) := by
  have hmem := lookupCommand_mem hl
  cases hsv : s.server with
  | false =>
    rw [hsv, if_neg Bool.false_ne_true, String.empty_append] at hmem
    exact .inl ⟨rfl, (ClientHandler.of_table hmem hh hup).row⟩
  | true =>
    rw [hsv, if_pos rfl] at hmem
    exact .inr ⟨rfl, (ServicesHandler.of_table hmem hh).serverOK⟩

end Robust.Irc
