import Robust.Irc.Proofs.CmdHandlers
import Robust.Irc.Proofs.UlenEntry
import Robust.Irc.Proofs.KeepsTable
import Robust.Irc.Proofs.KeepsEntry
/-!
C15, "has a command": from the handlers to `processMessage` and `applyEntry`.

* `handler_kstep`: every handler, by its name, keeps `KStep` (given `HArgs`, the facts about the message that the
  dispatch of `processMessage` provides or that are assumed of lines sent by services): the table `handler_keeps`
  of `KeepsTable.lean` at `HLogic.kstep c0`, with `HArgs.special`;
* `processMessage_kstep`, `applyEntry_kinv`; histories are in `CmdHistory.lean`.
-/
namespace Robust.Irc
open Robust AMap

structure HArgs (fname : String) (c : Ctx) (sid : Id) (m : IrcMsg) : Prop where
  /-- the command (relayed by PRIVMSG / NOTICE) is a word of at most 330 bytes -/
  cmd : GoodCmd m.command
  /-- only the trailing parameter can contain a space (true of every parsed line) -/
  mid : MidOK m
  /-- PRIVMSG / NOTICE and the service aliases are client commands -/
  actor : (fname = "cmdPrivmsg" ∨ fname = "cmdServiceAlias") →
    ∀ s, AMap.get c.st.sessions sid = some s → s.server = false
  /-- USER has at least two parameters (its table entry demands three) -/
  user : fname = "cmdUser" → 2 ≤ m.params.length
  /-- the name a `SERVER` line announces: no space, at most 300 bytes -/
  server : fname = "cmdServer" → ∀ x, m.params[0]? = some x → Spaceless x ∧ x.utf8ByteSize ≤ 300
  /-- the user name in a `NICK` line of services: no space -/
  svcNick : fname = "cmdServerNick" → ∀ x, m.params[3]? = some x → Spaceless x
  /-- the prefix of a line of services: no space, at most 160 bytes -/
  pfx : usesMsgPfx fname = true → PfxArgOK m

/-- `KInv` survives the steps that the walks take as hypotheses, and the lines relayed under the prefix of the acting
session have a command, given what `HArgs` says of the line: of those steps only the new user name, the new nick, the
name a `SERVER` line announces and the pseudo-client of the services' NICK touch what `KSess` reads -/
theorem HArgs.special {c0 c : Ctx} {fname : String} {sid : Id} {m : IrcMsg} (A : HArgs fname c sid m)
    (hc : KStep c0 c) : (HLogic.kstep c0).Special fname c sid m where
  «alias» e _ _ ha _ hpm s hs ps :=
    (hc.inv.get hs).hc_client (A.actor (.inr e) s hs) (by rw [serviceAlias_command ha hpm]; decide) ps
  -- the relayed line carries the command of the message under the prefix of the acting session, which is no services
  -- link (178 bytes)
  privmsg e _ s hs ps := (hc.inv.get hs).hc_client (A.actor (.inl e) s hs) A.cmd ps
  pfx e _ := A.pfx e
  svcCmd _ _ := A.cmd
  gline _ := fun h _ => h.same rfl rfl rfl
  members _ := KStep.setsMembers
  addsChan _ := KStep.addsChan
  nick _ _ _ _ := KStep.nickUpd ..
  svsnick _ _ _ := KStep.nickUpd ..
  login _ _ _ h := h.modS_keep
  oper _ _ _ h := h.modS_keep
  pass _ _ h := h.modS_keep
  -- the stored user name is the first word of the first parameter, cut to 30 characters; the prefix is rebuilt
  user _ u _ _ h := h.modS fun _ hs => (hs.setUser u m.trailing).update
  -- the announced name becomes the prefix of the link
  server e := fun _ _ hp0 _ => hc.modS fun _ hs => hs.setServer (A.server e _ hp0).1 (A.server e _ hp0).2
  -- the id of the pseudo-client has the numeric part of the link's; its nickname was checked by the handler and its
  -- user name is cut to 30 characters
  serverNick _ := fun {s p0 p3 _ _} hs hv _ _ _ hcs h2 =>
    have h1 := hc.setSt (hc.inv.createSession (id := ⟨s.id.id, fnv64 p0⟩) (hc.inv.get hs).id64 hcs)
    Res.Sat.of_ok h2 <| h1.modS fun ss h =>
      (KSess.setUser (s := { ss with nick := p0 }) (h.setNick hv) p3 m.trailing).update

theorem handler_kstep {fname : String} {h : Handler} (hh : handlerByName fname = some h) {c0 c c' : Ctx}
    {sid : Id} {m : IrcMsg} (hc : KStep c0 c) (ha : HArgs fname c sid m) (hr : h c sid m = .ok c') :
    KStep c0 c' :=
  (handler_keeps (.kstep c0) hh (ha.special hc) hc (.of_not id)).apply hr

/-- what is assumed of a `SERVER` line: the announced name has at most 300 bytes -/
def ServerLineOK (m : IrcMsg) : Prop :=
  toUpper m.command = "SERVER" → ∀ x, m.params[0]? = some x → x.utf8ByteSize ≤ 300

/-- what is assumed of a line sent by a services link: its prefix has no space and at most 160 bytes, and the
user name in a `NICK` line has no space -/
structure SvcLineOK (m : IrcMsg) : Prop where
  pfx : PfxArgOK m
  nickUser : toUpper m.command = "NICK" → ∀ x, m.params[3]? = some x → Spaceless x

theorem goodCmd_of_key {x K : String} {b : Bool} (h : (if b = true then "server_" else "") ++ toUpper x = K)
    (hg : K ≠ "" ∧ K ≠ "server_" ∧ Spaceless K ∧ K.toList.length ≤ 82) : GoodCmd x := by
  obtain ⟨hne, hns, hsp, hlen⟩ := hg
  have hl : K.toList = (if b = true then "server_" else "").toList ++ x.toList.map upperChar := by
    rw [← h, String.toList_append]; unfold toUpper; rw [String.toList_ofList]
  refine ⟨?_, ?_, ?_⟩
  · -- an empty command would leave the bare prefix as key
    rintro rfl
    cases b
    · exact hne (by rw [← h]; decide)
    · exact hns (by rw [← h]; decide)
  · intro c hc he
    subst he
    exact hsp _ (by rw [hl]; exact List.mem_append_right _ (List.mem_map_of_mem hc)) (by decide)
  · have := utf8ByteSize_le x
    have e : x.toList.length ≤ K.toList.length := by rw [hl, List.length_append, List.length_map]; omega
    omega

variable {c0 c : Ctx}

/-- **`ProcessMessage`**: the 421 / 451 / 461 replies, the `ERROR` lines of a banned or never-registered
session and everything the handler produces have a command; the invariant is kept.  `hsvc`: what is assumed of
the line if the acting session is a services link. -/
theorem processMessage_kstep {c' : Ctx} {e : Entry} {im : Option IrcMsg} (hc : KStep c0 c)
    (hp : Pre c e.session) (hn : NI c.st) (hmid : ∀ m, im = some m → MidOK m)
    (hsvc : ∀ m s, im = some m → AMap.get c.st.sessions e.session = some s → s.server = true → SvcLineOK m)
    (hr : processMessage c e im = .ok c') :
    NewOut HC c0 c' ∧ ((∀ m, im = some m → ServerLineOK m) → KInv c'.st) := by
  refine processMessage_keeps (.kstep c0) hc (fun _ _ => .of_not id)
    (Q := fun c' => NewOut HC c0 c' ∧ ((∀ m, im = some m → ServerLineOK m) → KInv c'.st))
    (fun _ k => ⟨k.out, fun _ => k.inv⟩) (fun {m s s1 c1 fname mp h} him k h1 => ?_) hr
  obtain ⟨hp1, _, hsv, hr⟩ := k.pre hp hn
  have ra := registered_key k.row
  have hmid := hmid m him
  -- what the handlers ask of the line comes from the row that the key selected, but for the length of the name a
  -- `SERVER` line announces
  have args (hsl : fname = "cmdServer" → ServerLineOK m) : HArgs fname c1 e.session m :=
    { cmd := goodCmd_of_key rfl ra.good
      mid := hmid
      actor := fun hf _ hs' => by
        cases k.actor.symm.trans hs'
        exact (client_key (ra.client hf) rfl).1
      user := fun hf => Nat.le_trans (ra.user hf).2 k.params
      server := fun hf x hx =>
        ⟨hmid.param (i := 0) (Nat.le_trans (ra.server hf).2 k.params) hx,
          hsl hf (client_key (by decide) (ra.server hf).1).2 x hx⟩
      svcNick := fun hf =>
        have ⟨hsrv, hcmd⟩ := server_key (startsLowerS_toUpper _) (ra.serverNick hf)
        (hsvc m s him k.stored (hsv ▸ hsrv)).nickUser hcmd
      pfx := fun hf => by
        cases hsrv : s1.server with
        | true => exact (hsvc m s him k.stored (hsv ▸ hsrv)).pfx
        | false =>
          have := ra.pfx hf
          rw [hsrv, if_neg Bool.false_ne_true, String.empty_append, startsLowerS_toUpper] at this
          cases this }
  by_cases hf : fname = "cmdServer"
  · -- SERVER: the lines need nothing of the name, the invariant its length
    subst hf
    cases (show some cmdServer = some h from k.handler)
    exact ⟨((cmdServer_nstep ⟨h1.inv.name, h1.out⟩).apply hr).out,
      fun hsl => (handler_kstep k.handler h1 (args fun _ => hsl m him) hr).inv⟩
  · have k1 := handler_kstep k.handler h1 (args fun h => absurd h hf) hr
    exact ⟨k1.out, fun _ => k1.inv⟩

/-- what is assumed of the lines of services links (needed for the lines they cause) -/
def SvcEntryOK (st : St) (e : Entry) : Prop :=
  e.type = 2 → ∀ m s, parseMessage e.data = some m → AMap.get st.sessions e.session = some s →
    s.server = true → SvcLineOK m

/-- what is assumed of the names an entry introduces (needed for the invariant only): session ids are Raft
indexes (`uint64`), a `SERVER` line announces a name of at most 300 bytes -/
structure EntryNamesOK (e : Entry) : Prop where
  create : e.type = 0 → e.id < 2 ^ 64
  server : e.type = 2 → ∀ m, parseMessage e.data = some m → ServerLineOK m

theorem KInv.updateLastClientMessageID {st st' : St} {e : Entry} (h : KInv st)
    (hr : updateLastClientMessageID st e = some st') : KInv st' := by
  obtain ⟨s, _, _, hg, rfl⟩ := updateLastClientMessageID_eq hr
  exact h.setSession ((h.get hg).congr rfl)

/-- after the handler: set `lastProcessed`, purge the flagged sessions -/
theorem KInv.finish {st : St} (h : KInv st) (x sid : Id) :
    KInv (Robust.Irc.maybeDeleteSession { st with lastProcessed := x } sid) := by
  obtain ⟨p, e⟩ := maybeDeleteSession_eq { st with lastProcessed := x } sid
  rw [e]
  exact h.of_sessions (all_filter h.sessions p) rfl

/-- **one committed entry**: every line of its output batch has a command, and the invariant is kept (given
`EntryNamesOK`) -/
theorem applyEntry_kinv (st st' : St) (e : Entry) (out : List Out) (h : GInv st) (hk : KInv st)
    (he : EntryOk st e) (hs : SvcEntryOK st e) (hr : applyEntry st e = .ok (st', out)) :
    (∀ o ∈ out, HasCommand o.data) ∧ (EntryNamesOK e → KInv st') := by
  cases applyEntry_run hr with
  | skip => exact ⟨nofun, fun _ => hk⟩
  | death _ hu => exact ⟨nofun, fun _ => hk.updateLastClientMessageID hu⟩
  | create ht0 hcs => exact ⟨nofun, fun hn => hk.createSession (id := ⟨e.id, 0⟩) (hn.create ht0) hcs⟩
  | delete ht1 hs0 hpm =>
    have hp : Pre { st := st, msgid := e.id } e.session := h.pre hs0 (he.1 (Or.inl ht1))
    -- the line is `QUIT :…`: no prefix, not `NICK`, not `SERVER`
    obtain ⟨ho, hi⟩ := processMessage_kstep (c0 := { st := st, msgid := e.id }) (KStep.start hk) hp h.ni
      (fun _ hm => parseMessage_midOK hm)
      (fun m s hm _ _ => by
        obtain ⟨hpx, hq⟩ := parseMessage_quit _ hm
        exact ⟨fun p hp' => (by rw [hpx] at hp'; cases hp'),
          fun hc => (by rw [hq] at hc; exact absurd hc (by decide))⟩)
      hpm
    refine ⟨ho.elim (by simp), fun _ => KInv.finish (hi fun m hm hc => ?_) _ _⟩
    obtain ⟨_, hq⟩ := parseMessage_quit _ hm
    rw [hq] at hc
    exact absurd hc (by decide)
  | @client st1 _ ht2 hu hpm =>
    obtain ⟨h1, hp⟩ := h.clientPre he ht2 hu
    obtain ⟨s, s1, u⟩ := updateLast_run hu
    obtain ⟨ho, hi⟩ := processMessage_kstep (c0 := { st := st1, msgid := e.id })
      (KStep.start (hk.updateLastClientMessageID hu)) hp h1.ni (fun _ hm => parseMessage_midOK hm)
      (fun m s2 hm hs2 hsrv2 => by
        rw [u.get1] at hs2; cases hs2
        exact hs ht2 m s hm u.get (by rw [← u.same.server]; exact hsrv2))
      hpm
    exact ⟨ho.elim (by simp), fun hn => KInv.finish (hi fun m hm => hn.server ht2 m hm) _ _⟩
  | config => exact ⟨nofun, fun _ => hk.same rfl rfl⟩

/-- a state-independent form of the assumptions: session ids are `uint64`; every posted line that parses has a
prefix — if it has one — without space and of at most 160 bytes, a `SERVER` line announces a name of at most 300
bytes, and the fourth parameter of a `NICK` line contains no space (the last two matter only for `SERVER` by a
client and `NICK` by services) -/
structure EntryLineOK (e : Entry) : Prop where
  create : e.type = 0 → e.id < 2 ^ 64
  line : e.type = 2 → ∀ m, parseMessage e.data = some m → ServerLineOK m ∧ SvcLineOK m

/-- what is assumed of the sessions whose prefix or user name comes from services — links (`server = true`) and
pseudo-clients (`reply ≠ 0`): the stored prefix has no space and at most 300 bytes, the stored user name has no
space -/
def SrvPrefixOK (st : St) : Prop :=
  ∀ id s, AMap.get st.sessions id = some s → (s.server = true ∨ id.reply ≠ 0) →
    Spaceless s.ircPrefix.str ∧ s.ircPrefix.str.utf8ByteSize ≤ 300 ∧ Spaceless s.username

/-- session ids are Raft indexes (`uint64`) -/
def Ids64 (st : St) : Prop := ∀ id s, AMap.get st.sessions id = some s → id.id < 2 ^ 64

/-- under `GInv`, `PInv`, `UInv`, a short server name and the two assumptions above, every stored prefix is
bounded: `KInv` -/
theorem KInv.of_gpu {st : St} (h : GPUInv st) (hn : SrvNameOK st) (hs : SrvPrefixOK st) (hid : Ids64 st) :
    KInv st := by
  refine ⟨fun e he => ?_, hn⟩
  obtain ⟨id, s⟩ := e
  have hg : AMap.get st.sessions id = some s := (AMap.get_iff_mem h.ginv.inv.sessNodup).2 he
  have eid : s.id = id := (h.ginv.inv.sessId id s hg).1
  obtain ⟨nl, ns⟩ := nick_bounds (h.ginv.ni.sess id s hg).2
  have hu := h.uinv id s hg
  have hi64 : s.id.id < 2 ^ 64 := eid ▸ hid id s hg
  show KSess s
  cases hsrv : s.server with
  | true =>
    obtain ⟨a, b, c⟩ := hs id s hg (Or.inl hsrv)
    exact ⟨a, by unfold pfxCap; rw [hsrv]; exact b, ns, nl, c, hu.1, hi64⟩
  | false =>
    have husp : Spaceless s.username := by
      by_cases h0 : id.reply = 0
      · exact hu.2 (eid ▸ h0)
      · exact (hs id s hg (Or.inr h0)).2.2
    have hcap : pfxCap s = 178 := by unfold pfxCap; rw [hsrv]; rfl
    -- the stored prefix is the derived one, or blank
    rcases h.pinv id s hg hsrv with hp | ⟨_, _, hp⟩
    · obtain ⟨a, b⟩ := sessPrefix_bounds nl ns hu.1 husp hi64
      exact ⟨hp ▸ b, by rw [hp, hcap]; exact a, ns, nl, husp, hu.1, hi64⟩
    · exact ⟨by rw [hp]; decide, by rw [hp, hcap]; decide, ns, nl, husp, hu.1, hi64⟩

/-- conversely `KInv` gives the assumption back: it is kept by every handler and entry -/
theorem KInv.srvPrefixOK {st : St} (h : KInv st) : SrvPrefixOK st := by
  intro id s hg _
  have k := h.get hg
  have := k.pfxLen
  have := pfxCap_le s
  exact ⟨k.pfxSp, by omega, k.userSp⟩

instance (s : Session) : Decidable (KSess s) :=
  decidable_of_iff (Spaceless s.ircPrefix.str ∧ s.ircPrefix.str.utf8ByteSize ≤ pfxCap s ∧ Spaceless s.nick ∧
      s.nick.utf8ByteSize ≤ 31 ∧ Spaceless s.username ∧ s.username.toList.length ≤ 30 ∧ s.id.id < 2 ^ 64)
    ⟨fun ⟨a, b, c, d, e, f, g⟩ => ⟨a, b, c, d, e, f, g⟩, fun ⟨a, b, c, d, e, f, g⟩ => ⟨a, b, c, d, e, f, g⟩⟩

/-- a checkable form for concrete states -/
theorem KInv.of_all {st : St} (h : st.sessions.all (fun e => decide (KSess e.2)) = true)
    (hn : Spaceless st.serverName ∧ st.serverName.utf8ByteSize ≤ 63) : KInv st := by
  refine ⟨fun e he => ?_, ⟨hn.1, hn.2⟩⟩
  have := List.all_eq_true.1 h _ he
  simpa using this

def clientHandler (fname : String) : Bool := !hasPrefix fname "cmdServer"

theorem clientHandler_spec {fname : String} (h : clientHandler fname = true) :
    usesMsgPfx fname = false ∧ fname ≠ "cmdServer" ∧ fname ≠ "cmdServerNick" := by
  refine ⟨?_, ?_, ?_⟩
  · cases hu : usesMsgPfx fname with
    | false => rfl
    | true =>
      have := List.all_eq_true.1 (by decide +kernel : (List.all _ fun f => !clientHandler f) = true) fname
        (List.contains_iff_mem.1 hu)
      rw [h] at this
      cases this
  · rintro rfl; exact absurd h (by decide +kernel)
  · rintro rfl; exact absurd h (by decide +kernel)

/-- **client handlers**: for every handler of the table but the services handlers and the clients' `SERVER`, called for a stored
session that is not a services link with a message whose command is good (the dispatch provides that) and whose
middle parameters contain no space (true of every parsed line), every new line has a command -/
theorem client_handler_hc {fname : String} {h : Handler} (hh : handlerByName fname = some h)
    (hcl : clientHandler fname = true) {c c' : Ctx} {sid : Id} {m : IrcMsg} {s : Session} (hk : KInv c.st)
    (hs : AMap.get c.st.sessions sid = some s) (hsrv : s.server = false) (hg : GoodCmd m.command) (hmid : MidOK m)
    (hu : fname = "cmdUser" → 2 ≤ m.params.length) (hr : h c sid m = .ok c') :
    KInv c'.st ∧ NewOut HC c c' := by
  obtain ⟨h1, h2, h3⟩ := clientHandler_spec hcl
  have k := handler_kstep hh (KStep.start hk) (sid := sid) (m := m)
    ⟨hg, hmid, fun _ s' hs' => by rw [hs] at hs'; cases hs'; exact hsrv, hu, fun h' => absurd h' h2,
      fun h' => absurd h' h3, fun h' => by rw [h1] at h'; cases h'⟩ hr
  exact ⟨k.inv, k.out⟩

theorem indexOfChar_take {cs : List Char} {i : Nat} (h : indexOfChar cs ' ' = some i) :
    ∀ c ∈ cs.take i, c ≠ ' ' := by
  obtain ⟨_, _, hbefore⟩ := List.findIdx?_eq_some_iff_getElem.1 h
  intro c hc he
  obtain ⟨j, hj, rfl⟩ := List.mem_take_iff_getElem.1 hc
  exact hbefore j (Nat.lt_of_lt_of_le hj (Nat.min_le_left _ _)) (beq_iff_eq.2 he)

theorem parseMessage_pfx_spaceless {raw : String} {m : IrcMsg} (hp : parseMessage raw = some m) :
    ∀ p, m.pfx = some p → Spaceless p.str := by
  intro p hpx
  obtain ⟨cs, _, hm⟩ := parseMessage_cases hp
  rcases hm with rfl | ⟨i, hi, _, rfl⟩
  · rw [parseRest_pfx] at hpx
    cases hpx
  · rw [parseRest_pfx] at hpx
    cases hpx
    obtain ⟨a, b, c⟩ := parsePrefix_all (P := (· ≠ ' ')) ((List.take i cs).drop 1)
      (fun c hc => indexOfChar_take hi c (List.mem_of_mem_drop hc))
    have e0 : ∀ s : String, s.utf8ByteSize ≤ s.utf8ByteSize := fun _ => Nat.le_refl _
    exact (prefix_str_bounds _ (e0 _) (e0 _) (e0 _) a b c).2

theorem PfxArgOK.of_parsed {raw : String} {m : IrcMsg} (hp : parseMessage raw = some m)
    (hl : ∀ p, m.pfx = some p → p.str.utf8ByteSize ≤ 160) : PfxArgOK m :=
  fun p hpx => ⟨parseMessage_pfx_spaceless hp p hpx, hl p hpx⟩

/-- **a parsed line of services**: its prefix contains no space (it ends at the first space), and the user name of
a `NICK` line with at least five parameters is not the trailing parameter; what remains an assumption is the
length of the prefix -/
theorem SvcLineOK.of_parsed {raw : String} {m : IrcMsg} (hp : parseMessage raw = some m)
    (hl : ∀ p, m.pfx = some p → p.str.utf8ByteSize ≤ 160)
    (hn : toUpper m.command = "NICK" → 5 ≤ m.params.length) : SvcLineOK m :=
  ⟨PfxArgOK.of_parsed hp hl, fun hc _ hx => (parseMessage_midOK hp).param (hn hc) hx⟩

end Robust.Irc
