import Robust.Irc.Proofs.H2a
import Robust.Irc.Proofs.H2b
import Robust.Irc.Proofs.H2c
import Robust.Irc.Proofs.H2d
import Robust.Irc.Proofs.H2e
/-!
Group H2: the client handlers that are read-only or make only inert updates.

* `H2Base` – `Emits` (output only), `Inert` (inert updates), `Inert.post`, `EmitsWp` / `InertWp` and the gates;
* `H2a`    – PING, AWAY, ISON, USERHOST, LIST, KNOCK;
* `H2b`    – NAMES, WHO, WHOIS;
* `H2c`    – PRIVMSG/NOTICE, the service aliases, INVITE;
* `H2d`    – TOPIC;
* `H2e`    – MODE (`applyChanMode`, `applyChanModes`, `banOne`, `banBoth`).

For every handler `h` one walk `h_wp`: on normal return `Refused` (the seven that only answer their sender, `RepliesWp`),
`Emits` or `Inert`, and no panic under its gate.  `Preserves h` and `ClientSafe h n true` (`H2_summary`) are its
projections, and so are `h_emits : h c sid m = .ok c' → Emits c c'` and
`h_inert : WInvCore c.st → h c sid m = .ok c' → Inert c c'`, which the other families use.
-/
namespace Robust.Irc

theorem H2_summary :
    (Preserves cmdNames ∧ ClientSafe cmdNames 0 true) ∧
    (Preserves cmdTopic ∧ ClientSafe cmdTopic 1 true) ∧
    (Preserves cmdMode ∧ ClientSafe cmdMode 1 true) ∧
    (Preserves cmdPrivmsg ∧ ClientSafe cmdPrivmsg 0 true) ∧
    (Preserves cmdServiceAlias ∧ ClientSafe cmdServiceAlias 0 true) ∧
    (Preserves cmdAway ∧ ClientSafe cmdAway 0 true) ∧
    (Preserves cmdIson ∧ ClientSafe cmdIson 1 true) ∧
    (Preserves cmdKnock ∧ ClientSafe cmdKnock 1 true) ∧
    (Preserves cmdList ∧ ClientSafe cmdList 0 true) ∧
    (Preserves cmdPing ∧ ClientSafe cmdPing 0 true) ∧
    (Preserves cmdUserhost ∧ ClientSafe cmdUserhost 1 true) ∧
    (Preserves cmdWho ∧ ClientSafe cmdWho 0 true) ∧
    (Preserves cmdWhois ∧ ClientSafe cmdWhois 1 true) ∧
    (Preserves cmdInvite ∧ ClientSafe cmdInvite 2 true) :=
  ⟨⟨cmdNames_wp.inertWp.preserves, cmdNames_safe⟩, ⟨.of_inert fun _ _ _ _ => cmdTopic_inert, cmdTopic_safe⟩,
   ⟨cmdMode_wp.preserves, cmdMode_safe⟩,
   ⟨cmdPrivmsg_wp.inertWp.preserves, cmdPrivmsg_wp.inertWp.safe true⟩,
   ⟨cmdServiceAlias_wp.inertWp.preserves, cmdServiceAlias_wp.inertWp.safe true⟩,
   ⟨cmdAway_wp.preserves, cmdAway_wp.safe true⟩, ⟨cmdIson_wp.inertWp.preserves, cmdIson_wp.inertWp.safe true⟩,
   ⟨cmdKnock_wp.inertWp.preserves, cmdKnock_wp.inertWp.safe true⟩,
   ⟨cmdList_wp.inertWp.preserves, cmdList_wp.inertWp.safe true⟩, ⟨cmdPing_wp.inertWp.preserves, cmdPing_safe⟩,
   ⟨cmdUserhost_wp.inertWp.preserves, cmdUserhost_wp.inertWp.safe true⟩,
   ⟨cmdWho_wp.inertWp.preserves, cmdWho_wp.inertWp.safe true⟩,
   ⟨cmdWhois_wp.inertWp.preserves, cmdWhois_wp.inertWp.safe true⟩, ⟨cmdInvite_wp.preserves, cmdInvite_wp.safe true⟩⟩

end Robust.Irc
