import Robust.Irc.Proofs.H3a
/-!
Services-link handlers with loops: MODE, SVSMODE, JOIN, PART.
-/
namespace Robust.Irc
open Robust AMap

variable {G : Prop}

/-- fold invariant of `cmdServerMode`: the channel stays stored -/
def ModeInv (c0 : Ctx) (sid : Id) (lc : String) (c : Ctx) : Prop :=
  Mid c0 c sid ∧ ∃ ch, AMap.get c.st.channels lc = some ch

theorem ModeInv.putChan {c0 c : Ctx} {sid : Id} {lc : String} {ch ch' : Channel} (h : ModeInv c0 sid lc c)
    (hg : AMap.get c.st.channels lc = some ch) (hname : ch'.name = ch.name)
    (hkeys : AMap.keys ch'.nicks = AMap.keys ch.nicks) : ModeInv c0 sid lc (putChan c lc ch') :=
  ⟨h.1.putChan_inert hg hname hkeys, ch', by rw [putChan_channels]; exact AMap.get_set_same _ _ _⟩

theorem ModeInv.reply_wp {c0 c : Ctx} {sid : Id} {lc : String} {m : IrcMsg} (h : ModeInv c0 sid lc c)
    (hg : G → m.pfx.isSome = true) (f : String → IrcMsg) :
    (pfxName m >>= fun pn => pure (sendSvc c (f pn))).Wp G (ModeInv c0 sid lc) :=
  .bind (pfxName_wp hg) fun _ _ _ => .pure ⟨h.1.sendSvc _, h.2⟩

theorem serverModeStep_wp {c0 c : Ctx} {sid : Id} {m : IrcMsg} {chn lc : String} {mc : ModeCmd}
    (hP : ModeInv c0 sid lc c) (hg : G → m.pfx.isSome = true) :
    (serverModeStep m chn lc c mc).Wp G (ModeInv c0 sid lc) := by
  obtain ⟨ch, hch⟩ := hP.2
  unfold serverModeStep
  -- the fold keeps the channel stored: the panic site is dead
  rw [getChan_eq, hch]
  refine .ite (fun _ => .pure (hP.putChan hch rfl rfl)) fun _ => .ite (fun _ => ?_) fun _ => hP.reply_wp hg _
  cases hperms : AMap.get ch.nicks (nickToLower mc.param) with
  | none => exact hP.reply_wp hg _
  | some perms => exact .ite (fun _ => .pure (hP.putChan hch rfl (AMap.keys_set_of_mem _ (AMap.mem_keys_of_get hperms)))) fun _ => .pure hP

theorem cmdServerMode_wp : SrvWp cmdServerMode 1 := fun c0 c sid m h => by
  rw [cmdServerMode_eq]
  refine .bind (param_wp And.right) fun chn _ _ => ?_
  dsimp only
  cases hch0 : getChan c (chanToLower chn) with
  | none => exact h.reply_wp And.left _
  | some ch0 =>
    refine .bind (.foldlM _ (I := ModeInv c0 sid (chanToLower chn)) ⟨h, ch0, hch0⟩ fun _ _ _ hP =>
      serverModeStep_wp hP And.left) fun c1 _ h1 => .ite (fun _ => .pure h1.1) fun _ => ?_
    obtain ⟨ch, hch⟩ := h1.2
    rw [getChan_eq, hch]
    exact .bind (servicesPrefix_wp And.left) fun _ _ _ =>
      .bind (rcChannel_wp (fun _ => h1.1.hinv.toWInvCore) hch) fun _ _ _ => .pure (h1.1.emit _ _)

def SvsInv (c0 : Ctx) (sid tid : Id) (c : Ctx) : Prop :=
  Mid c0 c sid ∧ ∃ t, AMap.get c.st.sessions tid = some t

theorem SvsInv.modS_wp {c0 c : Ctx} {sid tid : Id} {f : Session → Session} (hP : SvsInv c0 sid tid c)
    (hf : InertFn f) : (modS c tid f).Wp G (SvsInv c0 sid tid) :=
  hP.2.elim fun _ ht => .of_sat (fun _ hr => ⟨hP.1.modS_inert hf hr, modS_keeps hr ⟨_, ht⟩⟩) fun _ => ⟨_, modS_of_get f ht⟩

theorem svsmodeStep_wp {c0 c : Ctx} {sid tid : Id} {mc : ModeCmd} (hP : SvsInv c0 sid tid c) :
    (svsmodeStep tid c mc).Wp G (SvsInv c0 sid tid) := by
  unfold svsmodeStep
  exact .ite (fun _ => hP.modS_wp fun _ => ⟨rfl, rfl, rfl, rfl, rfl, rfl⟩) fun _ =>
    .ite (fun _ => hP.modS_wp fun _ => ⟨rfl, rfl, rfl, rfl, rfl, rfl⟩) fun _ => .ok ⟨hP.1.sendSvc _, hP.2⟩

theorem cmdServerSvsmode_wp : SrvWp cmdServerSvsmode 2 := fun c0 c sid m h => by
  rw [cmdServerSvsmode_eq]
  refine .bind (getS_wp fun _ => h.post.actorKept) fun s _ _ =>
    .bind (param_wp fun g => Nat.lt_of_succ_lt g.2) fun p0 _ _ => ?_
  cases hidx : AMap.get c.st.nicks (nickToLower p0) with
  | none => exact .pure (h.sendSvc _)
  | some tid =>
    exact .bind (param_wp And.right) fun modestr _ _ => .ite (fun _ => .pure (h.sendSvc _)) fun _ =>
      .bind (.foldlM _ (I := SvsInv c0 sid tid) ⟨h, h.hinv.toWInvCore.indexed_stored hidx⟩ fun _ _ _ hP =>
        svsmodeStep_wp hP) fun c1 _ h1 => .bind (getS_wp fun _ => h1.2) fun t _ _ => .pure (h1.1.sendUser _ _)

theorem serverJoinOne_wp {c0 c : Ctx} {sid : Id} {m : IrcMsg} {chn : String} (h : Mid c0 c sid)
    (hg : G → m.pfx.isSome = true) : (serverJoinOne c m chn).Wp G fun c' => Mid c0 c' sid := by
  unfold serverJoinOne
  refine .bind (pfxName_wp hg) fun pn _ _ => .ite (fun _ => .pure (h.sendSvc _)) fun hvc => ?_
  dsimp only
  cases hidx : AMap.get c.st.nicks (nickToLower pn) with
  | none => exact .pure (h.sendSvc _)
  | some tid =>
    exact .ite (fun _ => .pure (h.sendSvc _)) fun _ =>
      .bind (h.addMember_wp hidx (.getD c.st rfl) (getD_chan_valid hvc)) fun c1 _ ⟨h1, hl, _⟩ =>
        .bind (servicesPrefix_wp hg) fun _ _ _ =>
          .bind (rcChannel_wp (fun _ => h1.hinv.toWInvCore) hl) fun _ _ _ => .pure (h1.emit _ _)

theorem cmdServerJoin_wp : SrvWp cmdServerJoin 1 := fun c0 c sid m h => by
  unfold cmdServerJoin
  exact .bind (param_wp And.right) fun _ _ _ => .foldlM _ h fun _ _ _ h1 => serverJoinOne_wp h1 And.left

theorem serverPartOne_wp {c0 c : Ctx} {sid : Id} {m : IrcMsg} {chn : String} (h : Mid c0 c sid)
    (hg : G → m.pfx.isSome = true) : (serverPartOne c m chn).Wp G fun c' => Mid c0 c' sid := by
  have hw := h.hinv.toWInvCore
  unfold serverPartOne
  dsimp only
  cases hch : getChan c (chanToLower chn) with
  | none => exact h.reply_wp hg _
  | some ch =>
    refine .bind (pfxName_wp hg) fun pn _ _ => .ite (fun _ => .pure (h.sendSvc _)) fun hcont => ?_
    -- a member of a stored channel is indexed: the panic site is dead
    obtain ⟨tid, hidx⟩ := hw.membersIndexed hch _ (AMap.contains_iff_mem_keys.1 (by simpa using hcont))
    rw [hidx]
    exact .bind (servicesPrefix_wp hg) fun _ _ _ => .bind (rcChannel_wp (fun _ => hw) hch) fun _ _ _ =>
      (h.emit _ _).leaveChannel_wp hidx hch

theorem cmdServerPart_wp : SrvWp cmdServerPart 1 := fun c0 c sid m h => by
  unfold cmdServerPart
  exact .bind (param_wp And.right) fun _ _ _ => .foldlM _ h fun _ _ _ h1 => serverPartOne_wp h1 And.left

end Robust.Irc
