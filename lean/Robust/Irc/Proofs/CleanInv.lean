import Robust.Irc.Proofs.CleanStr
import Robust.Irc.Proofs.FrameBasic
import Robust.Irc.Apply
/-!
C15, state level: the invariant `CInv` (every stored string that can reach an output line contains
no CR / LF / NUL), the context predicate `CCtx` (`CInv` of the state and every output emitted so far
is one clean line of at most 510 bytes), and what the primitives of `Send.lean` / `Cmds.lean` do to them.

Fields covered by `CInv`:

* sessions: `nick`, `username`, `realname`, `awayMsg`, `svid`, `pass`, `ircPrefix.{name,user,host}`;
* channels: `name`, `topicNick`, `topic`, `key`, the mask of every ban;
* SVSHOLDs: `reason`;
* config: the reasons of `banned` (GLINE);
* `serverName`.

Not covered because no handler copies them into a line: `Session.auth`, `Session.remoteAddr`
(only matched against ban patterns / used as a key of `config.banned`), `Ban.re` (only compiled),
the lower-cased keys of the maps and the `channels` / `invitedTo` lists (only used for look-ups),
the remaining `Config` strings (operators, services passwords, captcha settings: only compared).
The invariant is stated over *membership* in the association lists (not `AMap.get`), so that it
needs no key-uniqueness side condition: it holds of every state, reachable or not, whose strings
are clean.

A handler `h` keeps `CCtx` on a clean message: `(h c sid m).Sat CCtx`.  `CCtx` is kept step by step, so it is an
instance of `HLogic` (`HLogic.clean`, `HLogic.lean`), and the statement is the one walk of the handler
(`KeepsClient*.lean`, `KeepsSrv.lean`) read at that instance; each line of a walk is one step of the handler and
names where the strings of that step come from: a stored session or channel (`CleanSess`, `CleanChan`), the
incoming message (`CleanMsg`), a literal (`clean_lit`), a rendered number.  What is proved of `CCtx` here is what
the instance needs.  An updated record is clean by the record update of the proof (`{ hs with awayMsg := … }`).
-/
namespace Robust.Irc
open Robust AMap

structure CleanSess (s : Session) : Prop where
  nick : Clean s.nick
  username : Clean s.username
  realname : Clean s.realname
  awayMsg : Clean s.awayMsg
  svid : Clean s.svid
  pass : Clean s.pass
  pname : Clean s.ircPrefix.name
  puser : Clean s.ircPrefix.user
  phost : Clean s.ircPrefix.host

structure CleanChan (ch : Channel) : Prop where
  name : Clean ch.name
  topicNick : Clean ch.topicNick
  topic : Clean ch.topic
  key : Clean ch.key
  bans : ∀ b ∈ ch.bans, Clean b.mask

structure CInv (st : St) : Prop where
  sessions : ∀ e ∈ st.sessions, CleanSess e.2
  channels : ∀ e ∈ st.channels, CleanChan e.2
  svsholds : ∀ e ∈ st.svsholds, Clean e.2.reason
  banned : ∀ e ∈ st.config.banned, Clean e.2
  serverName : Clean st.serverName

def COut (o : Out) : Prop := CleanBytes o.data ∧ o.data.length ≤ 510

def COuts (l : List Out) : Prop := ∀ o ∈ l, COut o

structure CCtx (c : Ctx) : Prop where
  inv : CInv c.st
  out : COuts c.out

theorem CInv_init : CInv ({} : St) :=
  ⟨(fun _ h => nomatch h), (fun _ h => nomatch h), (fun _ h => nomatch h), (fun _ h => nomatch h), clean_lit⟩

theorem CCtx.start {st : St} (h : CInv st) (msgid : Nat) : CCtx { st := st, msgid := msgid } :=
  ⟨h, (fun _ ho => nomatch ho)⟩

theorem CInv.get {st : St} (h : CInv st) {sid : Id} {s : Session} (hs : AMap.get st.sessions sid = some s) :
    CleanSess s := h.sessions _ (AMap.mem_of_get hs)

theorem chan_of_getChan {c : Ctx} {lc : String} {ch : Channel} (hc : Robust.Irc.getChan c lc = some ch)
    (h : CInv c.st) : CleanChan ch := h.channels _ (AMap.mem_of_get hc)

theorem CleanSess.pfx {s : Session} (h : CleanSess s) :
    Clean s.ircPrefix.name ∧ Clean s.ircPrefix.user ∧ Clean s.ircPrefix.host := ⟨h.pname, h.puser, h.phost⟩

theorem COuts.append {l : List Out} (h : COuts l) {o : Out} (ho : COut o) : COuts (l ++ [o]) := by
  intro x hx
  rcases List.mem_append.1 hx with hx | hx
  · exact h x hx
  · rw [List.mem_singleton] at hx; subst hx; exact ho

theorem COut.render (id reply : Nat) {m : IrcMsg} (hm : CleanMsg m) (r : List Nat) : COut ⟨id, reply, m.render, r⟩ :=
  ⟨render_clean m hm, render_length m⟩

/-- also for `sendUser` and `sendSvc`, which unfold to `emit` -/
theorem CCtx.emit {c : Ctx} {m : IrcMsg} {r : List Nat} (h : CCtx c) (hm : CleanMsg m) : CCtx (emit c m r) :=
  ⟨h.inv, h.out.append (COut.render _ _ hm r)⟩

/-- variants that hand the invariant of the (possibly opaque) context to the message proof -/
theorem CCtx.emit' {c : Ctx} {m : IrcMsg} {r : List Nat} (h : CCtx c) (hm : CInv c.st → CleanMsg m) :
    CCtx (Robust.Irc.emit c m r) := h.emit (hm h.inv)
theorem CCtx.sendSvc' {c : Ctx} {m : IrcMsg} (h : CCtx c) (hm : CInv c.st → CleanMsg m) :
    CCtx (Robust.Irc.sendSvc c m) := h.emit (hm h.inv)

theorem CCtx.setSt {c : Ctx} (h : CCtx c) {st : St} (hs : CInv st) : CCtx { c with st := st } := ⟨hs, h.out⟩

theorem CCtx.congr {c c' : Ctx} (h : CCtx c) (hs : c'.st = c.st) (ho : c'.out = c.out) : CCtx c' :=
  ⟨by rw [hs]; exact h.inv, by rw [ho]; exact h.out⟩

theorem CCtx.putS {c : Ctx} (h : CCtx c) {s : Session} (hs : CleanSess s) : CCtx (putS c s) :=
  h.setSt { h.inv with sessions := all_set h.inv.sessions hs }

theorem CCtx.putChan {c : Ctx} {lc : String} {ch : Channel} (h : CCtx c) (hc : CleanChan ch) : CCtx (putChan c lc ch) :=
  h.setSt { h.inv with channels := all_set h.inv.channels hc }

/-- An update `f` that keeps the string fields, or sets them to clean strings, is given as
`fun _ hs => { hs with … }`.  A new value that is a compound term is made a variable first (`generalize`,
`clear_value`): the record update of the proof compares it with the old field, which unfolds it as far as it goes. -/
theorem CCtx.modS {c : Ctx} {tid : Id} {f : Session → Session} (h : CCtx c)
    (hf : ∀ s, CleanSess s → CleanSess (f s)) : (Robust.Irc.modS c tid f).Sat CCtx :=
  (modS_sat c tid f).mono fun _ ⟨s, hs, e⟩ => e ▸ h.putS (hf s (h.inv.get hs))

theorem CleanSess.updateIrcPrefix {s : Session} (h : CleanSess s) : CleanSess (updateIrcPrefix s) :=
  { h with pname := h.nick, puser := h.username, phost := Clean.append clean_lit (clean_hexNat _) }

/-- a nick change re-keys the member map of every channel; the strings of the channels stay -/
theorem CInv.mapNicks {st : St} (h : CInv st) (g : String × Channel → AMap String Member) (n : AMap String Id) :
    CInv { st with nicks := n, channels := st.channels.map fun e => (e.1, { e.2 with nicks := g e }) } :=
  { h with channels := all_mapVal h.channels (fun e => { e.2 with nicks := g e }) fun _ _ he => { he with } }

theorem CCtx.maybeDeleteChannel {c : Ctx} (h : CCtx c) (lc : String) : CCtx (maybeDeleteChannel c lc) := by
  unfold Robust.Irc.maybeDeleteChannel
  split
  · exact h
  · split
    · exact h
    · refine h.setSt { h.inv with sessions := ?_, channels := all_erase h.inv.channels _ }
      exact all_mapVal h.inv.sessions (fun e => { e.2 with invitedTo := _ }) fun _ _ he => { he with }

theorem CCtx.leaveChannel {c : Ctx} {lc lcn : String} {tid : Id} (h : CCtx c) :
    (leaveChannel c lc lcn tid).Sat CCtx := by
  unfold Robust.Irc.leaveChannel
  cases hch : Robust.Irc.getChan c lc with
  | none => exact .panic _
  | some ch =>
    have hch' : CleanChan { ch with nicks := AMap.erase ch.nicks lcn } := { chan_of_getChan hch h.inv with }
    exact ((h.putChan hch').maybeDeleteChannel lc).modS fun _ hs => { hs with }

theorem CCtx.deleteSession {c : Ctx} {sid : Id} (h : CCtx c) : (deleteSession c sid).Sat CCtx := by
  unfold Robust.Irc.deleteSession
  refine .bind fun s _ => ?_
  extract_lets lcn c1 st1 c2
  have h1 : CCtx c1 := by
    refine foldl_invariant _ h fun c e _ hc => ?_
    split
    · exact hc
    · rename_i ch hch
      have hch' : CleanChan { ch with nicks := AMap.erase ch.nicks lcn } := { chan_of_getChan hch hc.inv with }
      exact (hc.putChan hch').maybeDeleteChannel _
  have h2 : CCtx c2 := h1.setSt { h1.inv with }
  exact h2.modS fun _ hs => { hs with }

def OptAll {α : Type} (P : α → Prop) (o : Option α) : Prop := ∀ x, o = some x → P x

theorem OptAll.none {α : Type} {P : α → Prop} : OptAll P none := fun _ h => nomatch h
theorem OptAll.some {α : Type} {P : α → Prop} {x : α} (h : P x) : OptAll P (some x) := fun _ e => Option.some.inj e ▸ h

theorem clean_list_nil : ∀ p ∈ ([] : List String), Clean p := fun _ h => nomatch h

@[simp] theorem putChan_serverName (c : Ctx) (lc : String) (ch : Channel) :
    (Robust.Irc.putChan c lc ch).st.serverName = c.st.serverName := rfl
@[simp] theorem putS_serverName (c : Ctx) (s : Session) : (Robust.Irc.putS c s).st.serverName = c.st.serverName := rfl

theorem bans_nil : ∀ b ∈ ([] : List Ban), Clean b.mask := fun _ hb => nomatch hb

/-! ## tactics -/

/-- `CleanSess s` from the context -/
syntax "csess" : tactic
macro_rules | `(tactic| csess) => `(tactic| first
  | assumption
  | exact sess_of_getS (by assumption) (by assumption)
  | exact sess_of_get (by assumption) (by assumption))

/-- `CleanChan ch` from the context -/
syntax "cchan" : tactic
macro_rules | `(tactic| cchan) => `(tactic| first
  | assumption
  | exact chan_of_get (by assumption) (by assumption)
  | exact chan_of_getChan (by assumption) (by assumption))

/-- `Clean x` for a string built from literals, fields of stored sessions / channels, parts of a
clean message, numbers, mode strings, `++` and `if` -/
syntax "clean_atom" : tactic
macro_rules | `(tactic| clean_atom) => `(tactic| first
  | with_reducible assumption
  | decide
  | ((with_reducible refine CleanSess.nick ?_); csess)
  | ((with_reducible refine CleanSess.pname ?_); csess)
  | ((with_reducible refine CleanSess.puser ?_); csess)
  | ((with_reducible refine CleanSess.phost ?_); csess)
  | ((with_reducible refine CleanSess.username ?_); csess)
  | ((with_reducible refine CleanSess.realname ?_); csess)
  | ((with_reducible refine CleanSess.awayMsg ?_); csess)
  | ((with_reducible refine CleanSess.svid ?_); csess)
  | ((with_reducible refine CleanSess.pass ?_); csess)
  | ((with_reducible refine CleanChan.name ?_); cchan)
  | ((with_reducible refine CleanChan.topic ?_); cchan)
  | ((with_reducible refine CleanChan.topicNick ?_); cchan)
  | ((with_reducible refine CleanChan.key ?_); cchan)
  | ((with_reducible refine CInv.serverName ?_); assumption)
  | ((with_reducible refine CleanMsg.trailing ?_); assumption)
  | ((with_reducible refine CleanMsg.command ?_); assumption)
  | ((with_reducible refine CleanMsg.upperCommand ?_); assumption)
  | with_reducible exact clean_toString_nat _
  | with_reducible exact clean_toString_int _
  | with_reducible exact clean_modeStr _
  | with_reducible exact clean_hexNat _
  | ((with_reducible refine clean_trimSpace ?_); clean_atom)
  | ((with_reducible refine prefix_str_clean _ ?_ ?_ ?_) <;> clean_atom)
  | ((with_reducible refine CleanMsg.joinParams ?_); assumption)
  | ((with_reducible refine CleanMsg.joinDrop ?_ _); assumption)
  | ((with_reducible refine CleanMsg.headD ?_); assumption)
  | ((with_reducible refine CleanMsg.getD ?_ _); assumption)
  | ((with_reducible refine clean_append_iff.2 ⟨?_, ?_⟩) <;> clean_atom)
  | (with_reducible exact clean_of_param (by assumption) (by assumption))
  | (with_reducible exact clean_of_head (by assumption) (by assumption))
  | (with_reducible exact clean_of_pfxName (by assumption) (by assumption))
  | (with_reducible exact spfx_name (by assumption) (by assumption))
  | (with_reducible exact spfx_user (by assumption) (by assumption))
  | (with_reducible exact spfx_host (by assumption) (by assumption))
  | ((with_reducible refine clean_ite ?_ ?_) <;> clean_atom)
  | (split <;> clean_atom))

/-- `∀ p ∈ [a, b, …], Clean p` -/
syntax "clean_list" : tactic
macro_rules | `(tactic| clean_list) => `(tactic| first
  | exact clean_list_nil
  | assumption
  | (refine clean_list_cons ?_ ?_ <;> first | clean_atom | clean_list | skip)
  | exact ircParams_clean (by assumption)
  | exact CleanMsg.params (by assumption))

/-- `CleanMsg m` for the message forms the handlers build; unsolved parts are left as goals -/
syntax "clean_msg" : tactic
macro_rules | `(tactic| clean_msg) => `(tactic| focus (
  first
    | assumption
    | (rw [cleanMsg_srv]; refine ⟨?_, ?_, ?_⟩)
    | (rw [cleanMsg_some]; refine ⟨⟨?_, ?_, ?_⟩, ?_, ?_⟩)
    | (rw [cleanMsg_none]; refine ⟨?_, ?_⟩)
  all_goals (try simp only [putChan_serverName, putS_serverName, sendUser_st, emit_st, sendSvc_st])
  all_goals (try dsimp only)
  all_goals (first | clean_atom | clean_list | skip)))

/-- the string fields of an updated session / channel -/
syntax "clean_rec" : tactic
macro_rules | `(tactic| clean_rec) => `(tactic| focus (
  (first | refine CleanChan.mk ?_ ?_ ?_ ?_ ?_ | refine CleanSess.mk ?_ ?_ ?_ ?_ ?_ ?_ ?_ ?_ ?_) <;>
  (try dsimp only) <;> first
    | clean_atom
    | exact CleanChan.bans (by cchan)
    | exact bans_nil
    | skip))

/-- `CCtx (sendUser (emit (putChan … c …) …) …)` from `CCtx c` in the context; unsolved parts are left -/
syntax "cctx_tac" : tactic
macro_rules | `(tactic| cctx_tac) => `(tactic| repeat' (first
  | assumption
  | apply CCtx.sendUser
  | apply CCtx.sendSvc
  | apply CCtx.emit
  | apply CCtx.putChan
  | apply CCtx.ite
  | (with_reducible exact CleanChan.setNicks (by cchan) _)
  | (with_reducible exact CleanChan.setModes (by cchan) _)
  | clean_msg
  | clean_rec))

/-- forward step of the walk: `h : prim … = .ok c1` for a state-changing primitive gives `CCtx c1`
and `CInv c1.st` (as anonymous hypotheses, found by `assumption`) -/
syntax "cfwd" ident : tactic
macro_rules | `(tactic| cfwd $h:ident) => `(tactic| first
  | ((with_reducible have _hg : Robust.Irc.deleteSession _ _ = Res.ok _ := $h);
     have hc1 := CCtx.deleteSession ?side $h; case side => cctx_tac
     have hI1 := CCtx.inv hc1)
  | ((with_reducible have _hg : Robust.Irc.leaveChannel _ _ _ _ = Res.ok _ := $h);
     have hc1 := CCtx.leaveChannel ?side $h; case side => cctx_tac
     have hI1 := CCtx.inv hc1)
  | ((with_reducible have _hg : Robust.Irc.modS _ _ _ = Res.ok _ := $h);
     first
      | (have hc1 := CCtx.modS_keep ?side $h (fun _ => ⟨rfl, rfl, rfl, rfl, rfl, rfl, rfl⟩); case side => cctx_tac
         have hI1 := CCtx.inv hc1)
      | (have hc1 := CCtx.modS ?side $h ?fn; case side => cctx_tac
         case fn => (intro _ hs; clean_rec)
         have hI1 := CCtx.inv hc1)))

/-- brute-force walk through a handler: `cwalk hr` with `hr : … = .ok c'`, `CCtx c`, `CInv c.st` and
`CleanMsg m` in the context; what it cannot close is left as goals -/
macro "cwalk" hr:ident : tactic =>
  `(tactic| repeat' (first
      | split at $hr:ident
      | (obtain ⟨_, h1, $hr:ident⟩ := Res.bind_eq_ok.1 $hr:ident; try cfwd h1)
      | dsimp only at $hr:ident
      | (cases $hr:ident; cctx_tac)
      | (refine CCtx.leaveChannel ?_ $hr:ident; cctx_tac)
      | (refine CCtx.deleteSession ?_ $hr:ident; cctx_tac)
      | (refine CCtx.modS_keep ?_ $hr:ident (fun _ => ⟨rfl, rfl, rfl, rfl, rfl, rfl, rfl⟩); cctx_tac)))

end Robust.Irc
