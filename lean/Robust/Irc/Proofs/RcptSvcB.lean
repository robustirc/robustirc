import Robust.Irc.Proofs.RcptSvcBase
import Robust.Irc.Proofs.H3
/-!
C12 for the services handlers, part B: JOIN, PART (several channels; recipients relative to the state in
which the COMMAND started) and SVSJOIN.

The pseudo-client on whose behalf a services JOIN/PART acts is the one indexed under the name of the message
prefix (`SvcActor`); the nick index does not change during the loops, so it is the same session `tid` in every step.
Loop invariant: `Drift` — the memberships of every session other than `tid` are those of the start state; `tid`'s
only grow (JOIN) resp. shrink (PART).
-/
namespace Robust.Irc
open Robust AMap

/-! ### the member-adding step of `serverJoinOne` / `cmdServerSvsjoin`, from a state between entries -/

theorem svcB_addMember {c c' : Ctx} {tid : Id} {lc lcn : String} {ch : Channel} {mem : Member}
    (hi : Inv c.st) (hn : NI c.st) (hidx : AMap.get c.st.nicks lcn = some tid)
    (hch : ChanOrNew c.st lc ch)
    (hvn : AMap.get c.st.channels lc = none → isValidChannel ch.name = true)
    (hr : modS (putChan c lc { ch with nicks := AMap.set ch.nicks lcn mem }) tid
            (fun t => { t with channels := setInsert t.channels lc }) = Res.ok c') :
    Inv c'.st ∧ NI c'.st ∧ c'.st.nicks = c.st.nicks ∧ c'.st.serverSessions = c.st.serverSessions ∧
    c'.out = c.out ∧
    AMap.get c'.st.channels lc = some { ch with nicks := AMap.set ch.nicks lcn mem } ∧
    Joins c.st c'.st tid lc ∧
    ∃ t, AMap.get c.st.sessions tid = some t ∧
      AMap.get c'.st.sessions tid = some { t with channels := setInsert t.channels lc } := by
  have sp := addMember_spec hi.toWInv hidx hch hr
  obtain ⟨t, ht, _⟩ := sp.self
  exact ⟨⟨⟨sp.winv, sp.nonempty (hi.nonempty.but lc)⟩, sp.live hi.noDeleted⟩, hn.addMember hi.toWInvCore hidx hch hvn hr,
    sp.nicks, sp.frame.serverSessions, sp.frame.out, sp.chan, sp.joins, t, ht, sp.get_self ht⟩

inductive SrvJoinLine (st : St) (m : IrcMsg) (o : Out) : Prop
  /-- numeric reply (403, 401): to the services links only -/
  | reply (h : o.rcpt = st.serverSessions)
  /-- the JOIN, under the prefix the link supplies: to exactly the joining pseudo-client and the sessions
  listing the channel -/
  | join (p0 chn pn : String) (tid : Id) (hp0 : m.params[0]? = some p0) (hmem : chn ∈ splitChar p0 ',')
      (hv : isValidChannel chn = true) (hpn : pfxName m = .ok pn)
      (hi : AMap.get st.nicks (nickToLower pn) = some tid)
      (hd : o.data = (IrcMsg.mk (some ⟨pn, "services", "services"⟩) "JOIN" [chn]).render)
      (hr : RcptIs o (fun id => id = tid ∨ Lists st (chanToLower chn) id) [])

def SvcActor (st : St) (m : IrcMsg) (id : Id) : Prop :=
  ∃ pn, pfxName m = .ok pn ∧ AMap.get st.nicks (nickToLower pn) = some id

theorem SvcActor.eq {st : St} {m : IrcMsg} {id tid : Id} {pn : String} (h : SvcActor st m id)
    (hpn : pfxName m = .ok pn) (hidx : AMap.get st.nicks (nickToLower pn) = some tid) : id = tid := by
  obtain ⟨pn', hpn', hid⟩ := h
  rw [hpn] at hpn'
  cases hpn'
  rw [hidx] at hid
  cases hid
  rfl

/-- one channel of a services JOIN; the lines are those of the command as soon as `chn` is one of its channels -/
theorem serverJoinOne_step {c : Ctx} {m : IrcMsg} {chn : String} (hi : Inv c.st) (hn : NI c.st) :
    (serverJoinOne c m chn).Sat fun c' =>
      Inv c'.st ∧ NI c'.st ∧ c'.st.nicks = c.st.nicks ∧ c'.st.serverSessions = c.st.serverSessions ∧
      (∀ p0, m.params[0]? = some p0 → chn ∈ splitChar p0 ',' → NewOut (SrvJoinLine c.st m) c c') ∧
      (SameLists c.st c'.st ∨
        ∃ pn tid, pfxName m = .ok pn ∧ AMap.get c.st.nicks (nickToLower pn) = some tid ∧
          Joins c.st c'.st tid (chanToLower chn)) := by
  have reply : ∀ msg p0, m.params[0]? = some p0 → chn ∈ splitChar p0 ',' →
      NewOut (SrvJoinLine c.st m) c (sendSvc c msg) :=
    fun _ _ _ _ => (NewOut.refl _ c).sendSvc fun _ _ => .reply rfl
  unfold serverJoinOne
  refine .bind fun pn hpn => .ite (fun _ => .pure ⟨hi, hn, rfl, rfl, reply _, Or.inl (.refl _)⟩) fun hvc => ?_
  dsimp only
  cases hidx : AMap.get c.st.nicks (nickToLower pn) with
  | none => exact .pure ⟨hi, hn, rfl, rfl, reply _, Or.inl (.refl _)⟩
  | some tid =>
    refine .ite (fun _ => .pure ⟨hi, hn, rfl, rfl, reply _, Or.inl (.refl _)⟩) fun _ => .bind fun c1 h1 =>
      .bind fun sp hsp => .bind fun rc hrc => .pure ?_
    obtain ⟨pn', hpn', rfl⟩ := servicesPrefix_eq_ok hsp
    rw [hpn] at hpn'
    cases hpn'
    obtain ⟨hi1, hn1, hnk, hsv, hout, hl, hL, _⟩ :=
      svcB_addMember hi hn hidx (.getD c.st rfl) (getD_chan_valid hvc) h1
    refine ⟨hi1, hn1, hnk, hsv, fun p0 hp0 hmem => (NewOut.of_out hout).emit fun _ _ => ?_,
      Or.inr ⟨pn, tid, hpn, hidx, hL⟩⟩
    exact .join p0 chn pn tid hp0 hmem (by simpa using hvc) hpn hidx rfl
      ((rcChannel_lists hi1 hn1 hl hrc).rcptIs_nil.congr hL.members)

/-- **services JOIN** (several channels): recipients relative to the state in which the command starts -/
theorem cmdServerJoin_out {c c' : Ctx} {sid : Id} {m : IrcMsg} (hi : Inv c.st) (hn : NI c.st)
    (hr : cmdServerJoin c sid m = .ok c') : NewOut (SrvJoinLine c.st m) c c' := by
  refine Res.Sat.apply ?_ hr
  unfold cmdServerJoin
  refine .andThen (param_sat m 0) fun p0 hp0 => ?_
  refine (Res.Sat.foldlM (I := fun ci => Inv ci.st ∧ NI ci.st ∧ ci.st.nicks = c.st.nicks ∧
      Drift (SvcActor c.st m) c.st ci.st ∧ NewOut (SrvJoinLine c.st m) c ci) _
    ⟨hi, hn, rfl, .refl _ _, .refl _ _⟩ fun ci chn hmem ⟨hi', hn', hnk, d, ho⟩ => ?_).mono fun _ h => h.2.2.2.2
  refine (serverJoinOne_step hi' hn').mono fun c1 ⟨hi1, hn1, hnk1, hsv1, no1, hcase⟩ => ?_
  refine ⟨hi1, hn1, hnk1.trans hnk, ?_, ho.trans ((no1 p0 hp0 hmem).mono fun o hline => ?_)⟩
  · rcases hcase with h | ⟨pn, tid, hpn, hidx, h⟩
    · exact d.same hsv1 h
    · exact d.step hsv1 ⟨pn, hpn, hnk ▸ hidx⟩ h.onlyAt
  · cases hline with
    | reply h => exact .reply (h.trans d.svc)
    | join p0' chn' pn tid hp0' hmem' hv hpn hidx hd hrc =>
      rw [hnk] at hidx
      exact .join p0' chn' pn tid hp0' hmem' hv hpn hidx hd (d.rebase_joined (fun _ ha => ha.eq hpn hidx) hrc)

inductive SrvPartLine (st : St) (m : IrcMsg) (o : Out) : Prop
  /-- numeric reply (403, 442): to the services links only -/
  | reply (h : o.rcpt = st.serverSessions)
  /-- the PART, under the prefix the link supplies: to exactly the sessions listing the channel (the leaving
  pseudo-client included) -/
  | part (p0 chn pn : String) (tid : Id) (hp0 : m.params[0]? = some p0) (hmem : chn ∈ splitChar p0 ',')
      (hpn : pfxName m = .ok pn) (hi : AMap.get st.nicks (nickToLower pn) = some tid)
      (hon : Lists st (chanToLower chn) tid)
      (hd : o.data = (IrcMsg.mk (some ⟨pn, "services", "services"⟩) "PART" [chn]).render)
      (hr : RcptIs o (Lists st (chanToLower chn)) [])

theorem serverPartOne_step {c : Ctx} {m : IrcMsg} {chn : String} (hi : Inv c.st) (hn : NI c.st) :
    (serverPartOne c m chn).Sat fun c' =>
      Inv c'.st ∧ NI c'.st ∧ c'.st.nicks = c.st.nicks ∧ c'.st.serverSessions = c.st.serverSessions ∧
      (∀ p0, m.params[0]? = some p0 → chn ∈ splitChar p0 ',' → NewOut (SrvPartLine c.st m) c c') ∧
      (SameLists c.st c'.st ∨
        ∃ pn tid, pfxName m = .ok pn ∧ AMap.get c.st.nicks (nickToLower pn) = some tid ∧
          Leaves c.st c'.st tid (chanToLower chn)) := by
  have reply : ∀ msg p0, m.params[0]? = some p0 → chn ∈ splitChar p0 ',' →
      NewOut (SrvPartLine c.st m) c (sendSvc c msg) :=
    fun _ _ _ _ => (NewOut.refl _ c).sendSvc fun _ _ => .reply rfl
  unfold serverPartOne
  dsimp only
  cases hch : getChan c (chanToLower chn) with
  | none => exact .bind fun _ _ => .pure ⟨hi, hn, rfl, rfl, reply _, Or.inl (.refl _)⟩
  | some ch =>
    refine .bind fun pn hpn => .ite (fun _ => .pure ⟨hi, hn, rfl, rfl, reply _, Or.inl (.refl _)⟩) fun hon => ?_
    cases hidx : AMap.get c.st.nicks (nickToLower pn) with
    | none => exact .panic _
    | some tid =>
      refine .bind fun sp hsp => .bind fun rc hrc c' hl => ?_
      obtain ⟨pn', hpn', rfl⟩ := servicesPrefix_eq_ok hsp
      rw [hpn] at hpn'
      cases hpn'
      have h : LeaveRun c (chanToLower chn) (nickToLower pn) tid ch rc []
          ⟨some ⟨pn, "services", "services"⟩, "PART", [chn]⟩ c' :=
        ⟨hch, by simpa using hon, hidx, hrc, by rw [List.append_nil]; exact hl⟩
      exact ⟨leaveChannel_inv (c := emit _ _ _) hi hidx hl, NI.leaveChannel (c := emit _ _ _) hn hl, (h.spec hi).nicks,
        (h.spec hi).frame.serverSessions,
        fun p0 hp0 hmem => h.out hi hn fun _ hd hr => .part p0 chn pn tid hp0 hmem hpn hidx (h.member hi) hd hr,
        Or.inr ⟨pn, tid, hpn, hidx, h.lists hi⟩⟩

/-- **services PART** (several channels): recipients relative to the state in which the command starts -/
theorem cmdServerPart_out {c c' : Ctx} {sid : Id} {m : IrcMsg} (hi : Inv c.st) (hn : NI c.st)
    (hr : cmdServerPart c sid m = .ok c') : NewOut (SrvPartLine c.st m) c c' := by
  refine Res.Sat.apply ?_ hr
  unfold cmdServerPart
  refine .andThen (param_sat m 0) fun p0 hp0 => ?_
  refine (Res.Sat.foldlM (I := fun ci => Inv ci.st ∧ NI ci.st ∧ ci.st.nicks = c.st.nicks ∧
      Drift (SvcActor c.st m) c.st ci.st ∧
      (∀ lc id, Lists ci.st lc id → Lists c.st lc id) ∧ NewOut (SrvPartLine c.st m) c ci) _
    ⟨hi, hn, rfl, .refl _ _, fun _ _ h => h, .refl _ _⟩ fun ci chn hmem ⟨hi', hn', hnk, d, hsub, ho⟩ => ?_).mono
    fun _ h => h.2.2.2.2.2
  refine (serverPartOne_step hi' hn').mono fun c1 ⟨hi1, hn1, hnk1, hsv1, no1, hcase⟩ => ?_
  refine ⟨hi1, hn1, hnk1.trans hnk, ?_, fun lc id hh => hsub lc id
      (hcase.elim (fun h => h.lists.1 hh) fun ⟨_, _, _, _, h⟩ => h.sub hh),
    ho.trans ((no1 p0 hp0 hmem).mono fun o hline => ?_)⟩
  · rcases hcase with h | ⟨pn, tid, hpn, hidx, h⟩
    · exact d.same hsv1 h
    · exact d.step hsv1 ⟨pn, hpn, hnk ▸ hidx⟩ h.onlyAt
  · cases hline with
    | reply h => exact .reply (h.trans d.svc)
    | part p0' chn' pn tid hp0' hmem' hpn hidx hon hd hrc =>
      rw [hnk] at hidx
      exact .part p0' chn' pn tid hp0' hmem' hpn hidx (hsub _ _ hon) hd
        (d.rebase_listing (fun _ ha => ha.eq hpn hidx) hon (hsub _ _ hon) hrc)

inductive SrvSvsjoinLine (st : St) (m : IrcMsg) (o : Out) : Prop
  /-- numeric reply (401, 403) and the `SJOIN`: to the services links only -/
  | reply (h : o.rcpt = st.serverSessions)
  /-- the JOIN, under the TARGET's own stored prefix: to exactly the target and the sessions listing the channel -/
  | join (p0 chn : String) (tid : Id) (t : Session) (hp0 : m.params[0]? = some p0) (hp1 : m.params[1]? = some chn)
      (hi : AMap.get st.nicks (nickToLower p0) = some tid) (ht : AMap.get st.sessions tid = some t)
      (hv : isValidChannel chn = true)
      (hd : o.data = (IrcMsg.mk (some t.ircPrefix) "JOIN" [chn]).render)
      (hr : RcptIs o (fun id => id = tid ∨ Lists st (chanToLower chn) id) [])
  /-- the answers of the implied `TOPIC` / `NAMES` (331/332/333, 353, 366): to the target only -/
  | self (p0 : String) (tid : Id) (hp0 : m.params[0]? = some p0)
      (hi : AMap.get st.nicks (nickToLower p0) = some tid) (h : ToOnly tid o)

/-- **SVSJOIN**: the JOIN goes to exactly the target and the sessions listing the channel, the `SJOIN` to the
services links, the implied `TOPIC` / `NAMES` answers to the target only -/
theorem cmdServerSvsjoin_out {c c' : Ctx} {sid : Id} {m : IrcMsg} (hi : Inv c.st) (hn : NI c.st)
    (hr : cmdServerSvsjoin c sid m = .ok c') : NewOut (SrvSvsjoinLine c.st m) c c' := by
  refine Res.Sat.apply ?_ hr
  have reply : ∀ f : String → IrcMsg, (do let pn ← pfxName m; pure (sendSvc c (f pn))).Sat
      (NewOut (SrvSvsjoinLine c.st m) c) :=
    fun _ => .bind fun _ _ => .pure ((NewOut.refl _ c).sendSvc fun _ _ => .reply rfl)
  unfold cmdServerSvsjoin
  refine .andThen (param_sat m 0) fun p0 hp0 => .andThen (param_sat m 1) fun chn hp1 => ?_
  dsimp only
  cases hidx : AMap.get c.st.nicks (nickToLower p0) with
  | none => exact reply _
  | some tid =>
    refine .ite (fun _ => reply _) fun hvc => .ite (fun _ => reply _) fun _ => ?_
    rw [putChan_putChan]
    refine .ite (fun _ => .pure (NewOut.of_out rfl)) fun _ => .bind fun c1 h1 => ?_
    simp only [getChan_eq] at h1
    obtain ⟨hi1, hn1, hnk, hsv, hout, hl, hL, t0, ht0, ht1⟩ :=
      svcB_addMember hi hn hidx (.getD c.st rfl) (getD_chan_valid hvc) h1
    refine .bindEq (getS_of_get ht1) (.bind fun rc hrc => .bind fun c2 h2 c' h3 => ?_)
    simp only [getChan_eq] at hrc
    have n1 : NewOut (SrvSvsjoinLine c.st m) c (emit c1 ⟨some t0.ircPrefix, "JOIN", [chn]⟩ rc) :=
      (NewOut.of_out hout).emit fun _ _ => .join p0 chn tid t0 hp0 hp1 hidx ht0 (by simpa using hvc) rfl
        ((rcChannel_lists hi1 hn1 hl hrc).rcptIs_nil.congr hL.members)
    exact ((n1.sendSvc fun _ _ => .reply hsv).trans
      ((cmdTopic_query_out h2).2.mono fun _ h => .self p0 tid hp0 hidx h)).trans
      ((cmdNames_wp.out h3).2.mono fun _ h => .self p0 tid hp0 hidx h)

end Robust.Irc
