import Robust.Irc.Proofs.HandlerSpec
import Robust.Irc.Proofs.NoPanic
import Robust.Irc.Proofs.NInv
import Robust.Irc.Proofs.WpCore
/-!
Shared tools of the client handlers that change state (group H1).  `OutStep`: output only appended; transfer
lemmas for `Pre`; `PreservesPre`; `Stored`; `SessKept`: every stored session stays stored with its flags.

What holds between the primitives of a client handler (`CMid`, the twin of `Mid` of the services handlers) and at
its end (`CPost`), and what the two primitives that take a member out of a channel or a session out of the
network do to it: `CMid.leaveChannel`, `CMid.deleteSession`.  `Reg`: the actor is registered (PART, JOIN); `LStep`: a
step on the registration path, which needs no more than a stored actor.  `ClientWp` is the form the theorem takes for
a handler that re-establishes `Pre` whatever the actor (MOTD, OPER, USER, PASS, KICK, SERVER); QUIT, KILL and GLINE
end in `CPost` (a session stays flagged), PART and JOIN need a registered actor, NICK a nickless actor that is inert:
their theorems say so, and the row of the dispatch table (`ClientOK`, `Dispatch.lean`) is each with the postcondition
weakened to `CPost`.
-/
namespace Robust.Irc
open AMap

variable {G : Prop}

structure OutStep (c c' : Ctx) : Prop where
  outGrows : ∃ extra, c'.out = c.out ++ extra
  msgid : c'.msgid = c.msgid

theorem OutStep.refl (c : Ctx) : OutStep c c := ⟨⟨[], by simp⟩, rfl⟩

theorem OutStep.trans {a b c : Ctx} (h1 : OutStep a b) (h2 : OutStep b c) : OutStep a c := by
  obtain ⟨⟨e1, h1o⟩, h1m⟩ := h1
  obtain ⟨⟨e2, h2o⟩, h2m⟩ := h2
  exact ⟨⟨e1 ++ e2, by rw [h2o, h1o, List.append_assoc]⟩, h2m.trans h1m⟩

theorem OutStep.emit {a c : Ctx} (h : OutStep a c) (m : IrcMsg) (r : List Nat) : OutStep a (emit c m r) :=
  h.trans ⟨⟨_, rfl⟩, rfl⟩

theorem OutStep.sendUser {a c : Ctx} (h : OutStep a c) (sid : Id) (m : IrcMsg) : OutStep a (sendUser c sid m) :=
  h.emit m _

theorem OutStep.of_eq {a c c' : Ctx} (h : OutStep a c) (ho : c'.out = c.out) (hm : c'.msgid = c.msgid) : OutStep a c' :=
  h.trans ⟨⟨[], by simp [ho]⟩, hm⟩

theorem OutStep.frame {a c c' : Ctx} (h : OutStep a c) (hf : CtxFrame c c') : OutStep a c' :=
  h.of_eq hf.out hf.msgid

theorem Pre.congr_st {c c' : Ctx} {sid : Id} (h : Pre c sid) (e : c'.st = c.st) : Pre c' sid :=
  ⟨by rw [e]; exact h.inv, by rw [e]; exact h.linv, by rw [e]; exact h.actor, h.reply0⟩

theorem Pre.emit {c : Ctx} {sid : Id} (h : Pre c sid) (m : IrcMsg) (r : List Nat) : Pre (emit c m r) sid :=
  h.congr_st rfl

theorem Pre.sendUser {c : Ctx} {sid : Id} (h : Pre c sid) (tid : Id) (m : IrcMsg) : Pre (sendUser c tid m) sid :=
  h.congr_st rfl

theorem Pre.ite {c1 c2 : Ctx} {sid : Id} (b : Bool) (h1 : Pre c1 sid) (h2 : Pre c2 sid) :
    Pre (if b = true then c1 else c2) sid := by
  cases b
  · exact h2
  · exact h1

theorem Pre.live {c : Ctx} {sid : Id} (h : Pre c sid) {id : Id} {s : Session}
    (hs : AMap.get c.st.sessions id = some s) : s.deleted = false := h.inv.noDeleted id s hs

theorem Post.of_pre {c c' : Ctx} {sid : Id} (hp : Pre c' sid) (ho : OutStep c c') : Post c c' sid where
  hinv := hp.inv.toHInv
  linv := hp.linv
  actorKept := hp.actor
  flagged := fun id s hg hd => by
    have := hp.inv.noDeleted id s hg
    rw [this] at hd; cases hd
  outGrows := ho.outGrows
  msgid := ho.msgid

theorem Post.outStep {c c' : Ctx} {sid : Id} (h : Post c c' sid) : OutStep c c' := ⟨h.outGrows, h.msgid⟩

theorem Post.after {c c1 c' : Ctx} {sid : Id} (ho : OutStep c c1) (h : Post c1 c' sid) : Post c c' sid :=
  { h with outGrows := (ho.trans h.outStep).outGrows, msgid := (ho.trans h.outStep).msgid }

/-- stronger than `Preserves`: the result satisfies `Pre` again (no session is flagged) -/
def PreservesPre (h : Ctx → Id → IrcMsg → Res Ctx) : Prop :=
  ∀ c sid m c', Pre c sid → h c sid m = .ok c' → Pre c' sid ∧ OutStep c c'

theorem PreservesPre.preserves {h : Ctx → Id → IrcMsg → Res Ctx} (hh : PreservesPre h) : Preserves h :=
  fun c sid m c' hp hr => Post.of_pre (hh c sid m c' hp hr).1 (hh c sid m c' hp hr).2

theorem modS_keeps {c c' : Ctx} {tid : Id} {f : Session → Session} (hr : modS c tid f = .ok c') {id : Id}
    (h : ∃ s, AMap.get c.st.sessions id = some s) : ∃ s, AMap.get c'.st.sessions id = some s := by
  obtain ⟨t, ht, rfl⟩ := modS_eq_ok.1 hr
  obtain ⟨s, hs⟩ := h
  rw [putS_sessions, AMap.get_set]
  split
  · exact ⟨_, rfl⟩
  · exact ⟨s, hs⟩

theorem Pre.modS_inert' {c c' : Ctx} {sid tid : Id} {f : Session → Session} (hp : Pre c sid)
    (hr : modS c tid f = .ok c') (hf : CoreKeep f)
    (hl : ∀ s, AMap.get c.st.sessions tid = some s → (f s).loggedIn = true → (f s).nick ≠ "") : Pre c' sid :=
  ⟨hp.inv.sim (StSim.modS hp.inv.toWInvCore hf hr), hp.linv.modS hr hl, modS_keeps hr hp.actor, hp.reply0⟩

theorem Pre.modS_inert {c c' : Ctx} {sid tid : Id} {f : Session → Session} (hp : Pre c sid)
    (hr : modS c tid f = .ok c') (hf : CoreKeep f)
    (hl : ∀ s, (f s).loggedIn = s.loggedIn) : Pre c' sid :=
  hp.modS_inert' hr hf (fun s hs hli => by rw [(hf s).2.2.1]; exact hp.linv tid s hs (by rw [← hl s]; exact hli))

theorem clientSafe_iff {h : Ctx → Id → IrcMsg → Res Ctx} {n : Nat} {l : Bool} :
    ClientSafe h n l ↔ ∀ c sid m s, Pre c sid → AMap.get c.st.sessions sid = some s → s.server = false →
      (l = true → s.loggedIn = true) → n ≤ m.params.length → NoPanic (h c sid m) := Iff.rfl

/-- the session is stored under its own id (all that panic-freedom of the login path needs) -/
def Stored (c : Ctx) (sid : Id) : Prop := ∃ s, AMap.get c.st.sessions sid = some s ∧ s.id = sid

theorem Pre.stored {c : Ctx} {sid : Id} (hp : Pre c sid) : Stored c sid := by
  obtain ⟨s, hs⟩ := hp.actor
  exact ⟨s, hs, (hp.inv.sessId sid s hs).1⟩

theorem Stored.congr_st {c c' : Ctx} {sid : Id} (h : Stored c sid) (e : c'.st = c.st) : Stored c' sid := by
  unfold Stored; rw [e]; exact h

theorem Stored.modS {c c' : Ctx} {sid tid : Id} {f : Session → Session} (h : Stored c sid)
    (hr : modS c tid f = .ok c') (hf : ∀ s, (f s).id = s.id) : Stored c' sid := by
  obtain ⟨t, ht, rfl⟩ := modS_eq_ok.1 hr
  obtain ⟨s, hs, hid⟩ := h
  unfold Stored
  rw [putS_sessions, hf t]
  by_cases he : t.id = sid
  · rw [he]; exact ⟨f t, AMap.get_set_same _ _ _, by rw [hf t]; exact he⟩
  · exact ⟨s, by rw [AMap.get_set_other _ (Ne.symm he)]; exact hs, hid⟩

theorem modS_noDeleted {c c' : Ctx} {tid : Id} {f : Session → Session}
    (hd : ∀ id s, AMap.get c.st.sessions id = some s → s.deleted = false)
    (hf : ∀ s, (f s).deleted = s.deleted) (hr : modS c tid f = .ok c') :
    ∀ id s, AMap.get c'.st.sessions id = some s → s.deleted = false := by
  obtain ⟨s, hs, rfl⟩ := modS_eq_ok.1 hr
  intro id x hx
  rw [putS_sessions, AMap.get_set] at hx
  split at hx
  · cases hx
    rw [hf]; exact hd _ s hs
  · exact hd _ _ hx

def SessKept (c c' : Ctx) : Prop :=
  ∀ id s, AMap.get c.st.sessions id = some s →
    ∃ s', AMap.get c'.st.sessions id = some s' ∧ s'.loggedIn = s.loggedIn ∧ s'.server = s.server ∧
      s'.operator = s.operator

theorem LeaveSpec.sessKept {c c' : Ctx} {lc lcn : String} {tid : Id} (sp : LeaveSpec c c' lc lcn tid) :
    SessKept c c' := by
  intro id s hs
  by_cases hid : id = tid
  · subst hid
    obtain ⟨inv, h⟩ := sp.self s hs
    exact ⟨_, h, rfl, rfl, rfl⟩
  · obtain ⟨inv, h⟩ := sp.others id s hid hs
    exact ⟨_, h, rfl, rfl, rfl⟩

theorem DelSpec.sessKept {c c' : Ctx} {sid : Id} {s : Session} (sp : DelSpec c c' sid s)
    (hs : AMap.get c.st.sessions sid = some s) : SessKept c c' := by
  intro id t ht
  by_cases hid : id = sid
  · subst hid
    rw [hs] at ht; cases ht
    obtain ⟨inv, h⟩ := sp.self
    exact ⟨_, h, rfl, rfl, rfl⟩
  · obtain ⟨inv, h⟩ := sp.others id t hid ht
    exact ⟨_, h, rfl, rfl, rfl⟩

/-- between the primitives of a client handler that started in `c0`: `Pre` again (so no session is flagged),
output only appended, and nickless sessions still inert (`NInv.lean`) if they were at the start -/
structure CMid (c0 c : Ctx) (sid : Id) : Prop where
  pre : Pre c sid
  out : OutStep c0 c
  ni : NI c0.st → NI c.st

theorem CMid.refl {c : Ctx} {sid : Id} (hp : Pre c sid) : CMid c c sid := ⟨hp, .refl c, id⟩

theorem CMid.emit {c0 c : Ctx} {sid : Id} (h : CMid c0 c sid) (m : IrcMsg) (r : List Nat) : CMid c0 (emit c m r) sid :=
  ⟨h.pre.emit m r, h.out.emit m r, h.ni⟩

theorem CMid.sendUser {c0 c : Ctx} {sid : Id} (h : CMid c0 c sid) (tid : Id) (m : IrcMsg) :
    CMid c0 (sendUser c tid m) sid := h.emit m _

theorem CMid.of_st {c0 c c' : Ctx} {sid : Id} (h : CMid c0 c sid) (e : c'.st = c.st) (ho : OutStep c c') :
    CMid c0 c' sid :=
  ⟨h.pre.congr_st e, h.out.trans ho, fun h0 => by rw [e]; exact h.ni h0⟩

theorem CMid.modS_inert' {c0 c c' : Ctx} {sid tid : Id} {f : Session → Session} (h : CMid c0 c sid)
    (hr : modS c tid f = .ok c') (hf : CoreKeep f)
    (hl : ∀ s, AMap.get c.st.sessions tid = some s → (f s).loggedIn = true → (f s).nick ≠ "") : CMid c0 c' sid :=
  ⟨h.pre.modS_inert' hr hf hl, h.out.frame (.modS hr), fun h0 => (h.ni h0).modS_keep hr fun s => ⟨(hf s).2.2.1, (hf s).2.2.2⟩⟩

theorem CMid.modS_inert {c0 c c' : Ctx} {sid tid : Id} {f : Session → Session} (h : CMid c0 c sid)
    (hr : modS c tid f = .ok c') (hf : CoreKeep f)
    (hl : ∀ s, (f s).loggedIn = s.loggedIn) : CMid c0 c' sid :=
  h.modS_inert' hr hf fun s hs hli => by rw [(hf s).2.2.1]; exact h.pre.linv tid s hs (by rw [← hl s]; exact hli)

structure CPost (c c' : Ctx) (sid : Id) : Prop where
  post : Post c c' sid
  ni : NI c.st → NI c'.st

theorem CMid.cpost {c0 c : Ctx} {sid : Id} (h : CMid c0 c sid) : CPost c0 c sid := ⟨Post.of_pre h.pre h.out, h.ni⟩

theorem CMid.then {c0 c1 c2 : Ctx} {sid : Id} (h1 : CMid c0 c1 sid) (h2 : CPost c1 c2 sid) : CPost c0 c2 sid :=
  ⟨Post.after h1.out h2.post, fun h0 => h2.ni (h1.ni h0)⟩

theorem CPost.emit {c c1 : Ctx} {sid : Id} (h : CPost c c1 sid) (m : IrcMsg) (r : List Nat) : CPost c (emit c1 m r) sid :=
  ⟨{ h.post with outGrows := (h.post.outStep.emit m r).outGrows }, h.ni⟩

theorem CPost.sendUser {c c1 : Ctx} {sid : Id} (h : CPost c c1 sid) (tid : Id) (m : IrcMsg) :
    CPost c (sendUser c1 tid m) sid := h.emit m _

theorem CMid.leaveChannel {c0 c : Ctx} {sid tid : Id} {lc lcn : String} {ch : Channel} (h : CMid c0 c sid)
    (hidx : AMap.get c.st.nicks lcn = some tid) (hch : AMap.get c.st.channels lc = some ch) :
    (Robust.Irc.leaveChannel c lc lcn tid).Wp G fun c' => CMid c0 c' sid ∧ SessKept c c' := by
  obtain ⟨t, ht, _⟩ := h.pre.inv.index lcn tid hidx
  refine .of_sat (fun c' hr => ?_) fun _ => leaveChannel_ok h.pre.inv.toWInvCore hch ht
  have hp := h.pre
  have sp := leaveChannel_spec hp.inv.toWInv hidx hr
  refine ⟨⟨⟨⟨leaveChannel_HInv hp.inv.toHInv hidx hr, fun id s' hg => ?_⟩,
    LInv.leaveChannel hp.linv hp.inv.toWInv hidx hr, ?_, hp.reply0⟩,
    h.out.frame sp.frame, fun h0 => (h.ni h0).leaveChannel hr⟩, sp.sessKept⟩
  · obtain ⟨s, hs, e⟩ := sp.stored hg
    rw [e]; exact hp.inv.noDeleted id s hs
  · obtain ⟨s, hs⟩ := hp.actor
    obtain ⟨s', hs', _⟩ := sp.sessKept sid s hs
    exact ⟨s', hs'⟩

/-- a stored session is deleted, by itself or by an actor who is privileged afterwards (QUIT, KILL, GLINE): the
deleted session is the only one flagged -/
theorem CMid.deleteSession {c0 c : Ctx} {sid tid : Id} {t : Session} (h : CMid c0 c sid)
    (ht : AMap.get c.st.sessions tid = some t) (hpriv : tid = sid ∨ ∀ c1, SessKept c c1 → Privileged c1.st sid) :
    (Robust.Irc.deleteSession c tid).Wp G fun c1 => CPost c0 c1 sid ∧ SessKept c c1 ∧ WInvCore c1.st := by
  have hl := h.pre.live ht
  refine .of_sat (fun c1 h1 => ?_) fun _ => deleteSession_ok h.pre.inv.toWInv ht
  have sp := deleteSession_spec h.pre.inv.toWInv ht (.of_live hl) h1
  have hk := sp.sessKept ht
  have ho := h.out.trans ((OutStep.refl c).frame sp.frame)
  refine ⟨⟨⟨deleteSession_HInv h.pre.inv.toHInv ht (.of_live hl) h1,
    LInv.deleteSession h.pre.linv h.pre.inv.toWInv ht (.of_live hl) h1, ?_, fun id x hx hd => ?_, ho.outGrows, ho.msgid⟩,
    fun h0 => (h.ni h0).deleteSession h1⟩, hk, sp.winv.toWInvCore⟩
  · obtain ⟨s, hs⟩ := h.pre.actor
    obtain ⟨s', hs', _⟩ := hk sid s hs
    exact ⟨s', hs'⟩
  · by_cases hid : id = tid
    · exact hpriv.imp (fun e => hid.trans e) fun hp => hp c1 hk
    · obtain ⟨t0, ht0, _, e⟩ := sp.stored ht hx
      rw [e hid, h.pre.live ht0] at hd; cases hd

/-- the actor is registered: PART and JOIN are dispatched for registered sessions only, and `LInv` then gives the
actor the nickname under which it is a member -/
def Reg (c : Ctx) (sid : Id) : Prop := ∃ s, AMap.get c.st.sessions sid = some s ∧ s.loggedIn = true

theorem Reg.kept {c c' : Ctx} {sid : Id} (h : Reg c sid) (hk : SessKept c c') : Reg c' sid := by
  obtain ⟨s, hs, hl⟩ := h
  obtain ⟨s', hs', e, _⟩ := hk sid s hs
  exact ⟨s', hs', by rw [e]; exact hl⟩

/-! ### what else a client handler does between its primitives: GLINE's ban, NICK's dropped hold -/

theorem Pre.setConfig {c : Ctx} {sid : Id} (hp : Pre c sid) (cfg : Config) :
    Pre { c with st := { c.st with config := cfg } } sid :=
  ⟨(Inv_config _ _).2 hp.inv, hp.linv.congr rfl, hp.actor, hp.reply0⟩

theorem CMid.setConfig {c0 c : Ctx} {sid : Id} (h : CMid c0 c sid) (cfg : Config) :
    CMid c0 { c with st := { c.st with config := cfg } } sid :=
  ⟨h.pre.setConfig cfg, h.out.of_eq rfl rfl, fun h0 => (h.ni h0).congr rfl rfl rfl⟩

theorem Pre.holdCtx {c : Ctx} {sid : Id} (hp : Pre c sid) (k : String) (held : Option SvsHold) :
    Pre (holdCtx c k held) sid := by
  have f := holdCtx_frame c k held
  exact ⟨hp.inv.congr f.sessions f.nicks f.channels, hp.linv.congr f.sessions, by rw [f.sessions]; exact hp.actor,
    hp.reply0⟩

theorem CMid.holdCtx {c0 c : Ctx} {sid : Id} (h : CMid c0 c sid) (k : String) (held : Option SvsHold) :
    CMid c0 (holdCtx c k held) sid :=
  have f := holdCtx_frame c k held
  ⟨h.pre.holdCtx k held, h.out.of_eq f.out f.msgid, fun h0 => (h.ni h0).congr f.sessions f.nicks f.channels⟩

/-- a step on the registration path (OPER, MOTD, `maybeLogin`).  All it needs in order not to panic is that the actor
is stored under its id: NICK, which calls `maybeLogin`, cannot promise `Pre` before it knows that a nickless actor
was inert.  Where the calling handler has its mid-state, the step keeps it. -/
structure LStep (c c' : Ctx) (sid : Id) : Prop where
  stored : Stored c' sid
  mid : ∀ {c0 : Ctx}, CMid c0 c sid → CMid c0 c' sid

theorem LStep.refl {c : Ctx} {sid : Id} (h : Stored c sid) : LStep c c sid := ⟨h, id⟩

theorem LStep.trans {a b c : Ctx} {sid : Id} (h1 : LStep a b sid) (h2 : LStep b c sid) : LStep a c sid :=
  ⟨h2.stored, fun h => h2.mid (h1.mid h)⟩

theorem LStep.of_st {c c1 c' : Ctx} {sid : Id} (h : LStep c c1 sid) (e : c'.st = c1.st) (ho : OutStep c1 c') :
    LStep c c' sid :=
  ⟨h.stored.congr_st e, fun h0 => (h.mid h0).of_st e ho⟩

theorem LStep.emit {c c1 : Ctx} {sid : Id} (h : LStep c c1 sid) (m : IrcMsg) (r : List Nat) : LStep c (emit c1 m r) sid :=
  h.of_st rfl ((OutStep.refl c1).emit m r)

theorem LStep.sendUser {c c1 : Ctx} {sid : Id} (h : LStep c c1 sid) (tid : Id) (m : IrcMsg) :
    LStep c (sendUser c1 tid m) sid := h.emit m _

theorem LStep.modS' {c c1 c2 : Ctx} {sid tid : Id} {f : Session → Session} (h : LStep c c1 sid)
    (hr : modS c1 tid f = .ok c2) (hf : CoreKeep f)
    (hl : ∀ s, AMap.get c1.st.sessions tid = some s → (f s).loggedIn = true → (f s).nick ≠ "") : LStep c c2 sid :=
  ⟨h.stored.modS hr fun s => (hf s).1, fun h0 => (h.mid h0).modS_inert' hr hf hl⟩

theorem LStep.modS {c c1 c2 : Ctx} {sid tid : Id} {f : Session → Session} (h : LStep c c1 sid)
    (hr : modS c1 tid f = .ok c2) (hf : CoreKeep f)
    (hl : ∀ s, (f s).loggedIn = s.loggedIn) : LStep c c2 sid :=
  ⟨h.stored.modS hr fun s => (hf s).1, fun h0 => (h.mid h0).modS_inert hr hf hl⟩

def ClientWp (h : Ctx → Id → IrcMsg → Res Ctx) (n : Nat) : Prop :=
  ∀ c sid m, Pre c sid → (h c sid m).Wp (n ≤ m.params.length) fun c' => CMid c c' sid

theorem ClientWp.of_lstep {h : Ctx → Id → IrcMsg → Res Ctx} {n : Nat}
    (H : ∀ {c sid m}, Stored c sid → (h c sid m).Wp (n ≤ m.params.length) fun c' => LStep c c' sid) : ClientWp h n :=
  fun _ _ _ hp => (H hp.stored).mono fun _ l => l.mid (.refl hp)

end Robust.Irc
