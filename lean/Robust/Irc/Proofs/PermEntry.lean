import Robust.Irc.Proofs.PermInv
import Robust.Irc.Proofs.PermAll
import Robust.Irc.Proofs.Along
/-!
Order-independence, part 9: from the handlers (`allHandlersCongr`) to `processMessage`, `applyEntry`, histories.
-/
namespace Robust.Irc
open Robust
attribute [local irreducible] IrcMsg.render emit sendUser sendSvc

theorem addrStage_congr {c c' : Ctx} (h : CEq c c') (e : Entry) {s s' : Session} (hs : SessEq s s') :
    RRel (fun r r' => CEq r.1 r'.1 ∧ r'.2 = r.2) (addrStage c e s) (addrStage c' e s') := by
  unfold addrStage
  obtain ⟨chs, inv, rfl⟩ := hs.exists_with
  apply RRel.ite
  · refine RRel.bind (modS_congr_upd h s.id _) (fun c1 c1' h1 => ?_)
    rw [h1.config]
    split
    · apply RRel.ite
      · refine RRel.bind (deleteSession_congr (sendUser_congr h1 s.id rfl) s.id) (fun c2 c2' h2 => ?_)
        exact .ok ⟨h2, rfl⟩
      · exact .ok ⟨h1, rfl⟩
    · exact .ok ⟨h1, rfl⟩
  · exact .ok ⟨h, rfl⟩

/-- a run of the address stage that goes on to the gate has at most overwritten the stored address -/
theorem addrStage_inv {c c1 : Ctx} {e : Entry} {s : Session} (hI : Inv c.st)
    (hr : addrStage c e s = .ok (c1, false)) : Inv c1.st := by
  cases addrStage_run hr with
  | same => exact hI
  | stored _ hm =>
    exact hI.sim (StSim.modS (f := withAddr e.remoteAddr) hI.toWInvCore (fun _ => ⟨rfl, rfl, rfl, rfl⟩) hm)

theorem dispatchStage_congr {c c' : Ctx} (h : CEq c c') (hu : UniqNick c.st)
    {s s' : Session} (hs : SessEq s s') {m : IrcMsg} (hm : MsgPfxOK m) (command : String) :
    RRel CEq (dispatchStage c s m command) (dispatchStage c' s' m command) := by
  unfold dispatchStage
  obtain ⟨chs, inv, rfl⟩ := hs.exists_with
  -- `+instances`: the `Decidable` argument of the `if` in the scrutinee mentions the session as well, and `split`
  -- looks for the scrutinee syntactically
  dsimp +instances only
  split
  · ceqs
  · apply RRel.ite
    · ceqs
    · split
      · exact .declined
      · rename_i hh
        exact allHandlersCongr hh c c' s.id m hu hm h

theorem gateStage_congr {c c' : Ctx} (h : CEq c c') (hu : UniqNick c.st) (e : Entry)
    {m : IrcMsg} (hm : MsgPfxOK m) (command : String) :
    RRel CEq (gateStage c e m command) (gateStage c' e m command) := by
  unfold gateStage
  refine getS_bind h e.session (fun s chs inv hs => ?_)
  apply RRel.ite
  · apply RRel.ite
    · exact deleteSession_congr (by ceqs) s.id
    · ceqs
  · exact dispatchStage_congr h hu hs hm command

theorem processMessage_congr {c c' : Ctx} (h : CEq c c') (hI : Inv c.st) (e : Entry)
    {im : Option IrcMsg} (hm : ∀ m, im = some m → MsgPfxOK m) :
    RRel CEq (processMessage c e im) (processMessage c' e im) := by
  rw [processMessage_eq, processMessage_eq]
  unfold getS
  rcases h.st.sess_cases e.session with ⟨h1, h2⟩ | ⟨s, chs, inv, h1, h2, hs⟩
  · rw [h1, h2]; exact .panic
  · simp only [h1, h2]
    simp only [Res.ok_bind]
    cases im with
    | none =>
      ceqs
    | some m =>
      dsimp only
      refine RRel.bind_eq (addrStage_congr h e hs) (fun r r' hr hr' hrr => ?_)
      obtain ⟨c1, b⟩ := r
      obtain ⟨c1', b'⟩ := r'
      obtain ⟨hc1, hb⟩ := hrr
      simp only at hc1 hb
      subst hb
      cases b' with
      | true => exact .ok hc1
      | false =>
        simp only [Bool.false_eq_true, if_false]
        exact gateStage_congr hc1 (.of_inv (addrStage_inv hI hr)) e (hm m rfl) _

theorem updateLastClientMessageID_congr {st st' : St} (h : StEq st st') (e : Entry) :
    ORel StEq (updateLastClientMessageID st e) (updateLastClientMessageID st' e) := by
  unfold updateLastClientMessageID
  rcases h.sess_cases e.session with ⟨h1, h2⟩ | ⟨s, chs, inv, h1, h2, hs⟩
  · rw [h1, h2]; exact .nn
  · simp only [h1, h2]
    refine .ss (h.withSessions (h.sessions.set e.session ?_))
    exact hs.upd
      (fun t =>
        { t with
          lastActivity := e.timestamp
          lastClientMessageId := e.cmid
          lastNonPing := (if (!hasPrefix (toLower e.data) "ping") = true then e.timestamp else t.lastNonPing) })
     

theorem maybeDeleteSession_congr {st st' : St} (h : StEq st st') (sid : Id) :
    StEq (maybeDeleteSession st sid) (maybeDeleteSession st' sid) := by
  unfold maybeDeleteSession
  rcases h.sess_cases sid with ⟨h1, h2⟩ | ⟨s, chs, inv, h1, h2, hs⟩
  · rw [h1, h2]; exact h
  · simp only [h1, h2]
    have hf : StEq { st with sessions := st.sessions.filter (fun e => !e.2.deleted) }
        { st' with sessions := st'.sessions.filter (fun e => !e.2.deleted) } :=
      h.withSessions (h.sessions.filter (fun k v v' _ _ hv => by rw [hv.deleted]))
    cases (s.server || s.operator) <;> cases s.deleted
    · exact h
    · exact h.withSessions (h.sessions.erase sid)
    · exact hf
    · exact hf.withSessions (hf.sessions.erase sid)

def EntryResEq (r r' : St × List Out) : Prop := StEq r.1 r'.1 ∧ OutsEq r.2 r'.2

/-- run one line and finish the entry: the common tail of the DeleteSession and IRCFromClient entries -/
theorem runLine_congr {st st' : St} (hI : Inv st) (h : StEq st st') (e : Entry) (line : String)
    (lp : Id) :
    RRel EntryResEq
      (processMessage { st := st, msgid := e.id } e (parseMessage line) >>= fun c =>
        pure (maybeDeleteSession { c.st with lastProcessed := lp } e.session, c.out))
      (processMessage { st := st', msgid := e.id } e (parseMessage line) >>= fun c =>
        pure (maybeDeleteSession { c.st with lastProcessed := lp } e.session, c.out)) :=
  RRel.bind
    (processMessage_congr (c := { st := st, msgid := e.id }) (c' := { st := st', msgid := e.id }) ⟨h, rfl, rfl, .nil⟩
      hI e
      (fun _ hm => parseMessage_pfxOK hm))
    (fun _ _ hcc => .ok ⟨maybeDeleteSession_congr (hcc.st.withLastProcessed _) e.session, hcc.out⟩)

/-- one committed entry: equivalent states give the same kind of result, equivalent states and
the same outputs up to recipient order -/
theorem applyEntry_congr {st st' : St} (hI : Inv st) (h : StEq st st') (e : Entry) :
    RRel EntryResEq (applyEntry st e) (applyEntry st' e) := by
  unfold applyEntry
  apply RRel.ite
  · exact .ok ⟨(updateLastClientMessageID_congr h e).getD h, .nil⟩
  apply RRel.ite
  · exact .ok ⟨(createSession_congr h _ _ _).getD h, .nil⟩
  apply RRel.ite
  · -- DeleteSession
    rcases h.sess_cases e.session with ⟨h1, h2⟩ | ⟨s, chs, inv, h1, h2, hs⟩
    · rw [h1, h2]; exact .ok ⟨h, .nil⟩
    · rw [h1, h2]
      exact runLine_congr hI h e _ _
  apply RRel.ite
  · -- IRCFromClient
    rcases (updateLastClientMessageID_congr h e).cases' with ⟨h1, h2⟩ | ⟨st1, st1', h1, h2, hs1⟩
    · rw [h1, h2]; exact .ok ⟨h, .nil⟩
    · rw [h1, h2]
      exact runLine_congr (Inv_updateLastClientMessageID hI h1) hs1 e _ _
  apply RRel.ite
  · split
    · exact .ok ⟨h, .nil⟩
    · exact .ok ⟨h.withConfig _, .nil⟩
  · exact .ok ⟨h, .nil⟩

/-- apply a list of entries, keeping the output batch of every entry -/
def runOut (st : St) : List Entry → Res (St × List (List Out))
  | [] => .ok (st, [])
  | e :: es =>
    match applyEntry st e with
    | .ok (st', out) =>
      match runOut st' es with
      | .ok (st'', outs) => .ok (st'', out :: outs)
      | .panic site => .panic site
      | .declined why => .declined why
    | .panic site => .panic site
    | .declined why => .declined why

theorem runOut_fst (st : St) (es : List Entry) :
    RRel (fun (r : St × List (List Out)) (s : St) => r.1 = s) (runOut st es) (runEntries st es) := by
  induction es generalizing st with
  | nil => exact .ok rfl
  | cons e es ih =>
    unfold runOut runEntries
    cases applyEntry st e with
    | panic s => exact .panic
    | declined s => exact .declined
    | ok r =>
      obtain ⟨st1, out⟩ := r
      dsimp only
      have := ih st1
      generalize runOut st1 es = x at this
      generalize runEntries st1 es = y at this
      cases this with
      | ok hr => rename_i a b; obtain ⟨a1, a2⟩ := a; exact .ok hr
      | panic => exact .panic
      | declined => exact .declined

/-- every entry is one that the real system can produce, with respect to the state it is applied to -/
def OkHistory (st : St) : List Entry → Prop
  | [] => True
  | e :: es => EntryOk st e ∧ ∀ st' out, applyEntry st e = .ok (st', out) → OkHistory st' es

theorem okHistory_iff {st : St} {es : List Entry} : OkHistory st es ↔ Along (fun st e => EntryOk st e) st es :=
  along_iff (fun _ => trivial) Iff.rfl

theorem WfHistory.ok {st : St} {es : List Entry} (h : WfHistory st es) : OkHistory st es :=
  okHistory_iff.2 ((wfHistory_iff.1 h).mono fun _ _ h => h.1)

theorem runOut_congr {st st' : St} (hG : GInv st) (h : StEq st st') (es : List Entry)
    (hw : OkHistory st es) :
    RRel (fun r r' => StEq r.1 r'.1 ∧ All2 OutsEq r.2 r'.2) (runOut st es) (runOut st' es) := by
  induction es generalizing st st' with
  | nil => exact .ok ⟨h, .nil⟩
  | cons e es ih =>
    unfold runOut
    have ha := applyEntry_congr hG.inv h e
    cases hr : applyEntry st e with
    | panic x => rw [hr] at ha; generalize applyEntry st' e = y at ha; cases ha; exact .panic
    | declined x => rw [hr] at ha; generalize applyEntry st' e = y at ha; cases ha; exact .declined
    | ok r =>
      rw [hr] at ha
      obtain ⟨r', hr', hs1, ho⟩ := ha.of_ok
      rw [hr']
      obtain ⟨st1, out⟩ := r
      obtain ⟨st1', out'⟩ := r'
      dsimp only
      have hG1 := applyEntry_preserves st st1 e out hG hw.1 hr
      have := ih hG1 hs1 (hw.2 st1 out hr)
      generalize runOut st1 es = x at this
      generalize runOut st1' es = y at this
      cases this with
      | ok hrr =>
        rename_i a b
        obtain ⟨a1, a2⟩ := a
        obtain ⟨b1, b2⟩ := b
        exact .ok ⟨hrr.1, .cons ho hrr.2⟩
      | panic => exact .panic
      | declined => exact .declined

end Robust.Irc
