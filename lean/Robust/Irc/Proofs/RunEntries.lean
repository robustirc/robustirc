import Robust.Irc.Proofs.Entry
/-!
Induction over histories.  `runEntries st es = .ok st'` is read as a relation between `st`, `es` and `st'`;
`runEntries_induction` is its induction principle (from the end of the history backwards), `run_invariant`
the forward form: an invariant of the state together with the entries still to come.

`Along A st es`: every entry of `es` satisfies the side condition `A` at the state it is applied to; a condition on
histories defined by the same recursion is an instance (`along_iff`; `WfHistory`, `Entry.lean`, by `wfHistory_iff`).
`run_along` keeps an invariant along such a history (`run_keeps`: along a well-formed one), `Along.append` with
`runEntries_append` joins two histories (`WfHistory.append`).  `run_wp`: the full invariant `GInv` is kept and no
entry panics; `run_preserves` is its first half.  More shapes of conclusion are in `Along.lean`.
-/
namespace Robust.Irc
open Robust

theorem runEntries_cons {st st1 : St} {e : Entry} {out : List Out} (es : List Entry)
    (hap : applyEntry st e = .ok (st1, out)) : runEntries st (e :: es) = runEntries st1 es := by
  rw [runEntries, hap]

theorem runEntries_induction {st' : St} {Q : St → List Entry → Prop} (nil : Q st' [])
    (cons : ∀ {st st1 : St} {e : Entry} {out : List Out} {es : List Entry}, applyEntry st e = .ok (st1, out) →
      runEntries st1 es = .ok st' → Q st1 es → Q st (e :: es)) :
    ∀ {es : List Entry} {st : St}, runEntries st es = .ok st' → Q st es
  | [], _, hr => by cases hr; exact nil
  | e :: es, st, hr => by
    cases hap : applyEntry st e with
    | ok r =>
      rw [runEntries_cons es hap] at hr
      exact cons hap hr (runEntries_induction nil cons hr)
    | panic site => unfold runEntries at hr; rw [hap] at hr; cases hr
    | declined why => unfold runEntries at hr; rw [hap] at hr; cases hr

theorem run_invariant {I : St → List Entry → Prop}
    (step : ∀ {st st1 : St} {e : Entry} {out : List Out} {es : List Entry}, I st (e :: es) →
      applyEntry st e = .ok (st1, out) → I st1 es)
    {st st' : St} {es : List Entry} (h : I st es) (hr : runEntries st es = .ok st') : I st' [] :=
  runEntries_induction (Q := fun st es => I st es → I st' []) id (fun hap _ ih h => ih (step h hap)) hr h

theorem runEntries_append {st st' st'' : St} {es es' : List Entry} (hr : runEntries st es = .ok st')
    (hr' : runEntries st' es' = .ok st'') : runEntries st (es ++ es') = .ok st'' :=
  runEntries_induction (Q := fun st es => runEntries st (es ++ es') = .ok st'') hr'
    (fun hap _ ih => (runEntries_cons _ hap).trans ih) hr

/-- `A` holds of every entry of the history, at the state it is applied to.  The conditions on histories are
instances (`along_iff`): `WfHistory` here, the others beside their definitions. -/
def Along (A : St → Entry → Prop) (st : St) : List Entry → Prop
  | [] => True
  | e :: es => A st e ∧ ∀ st' out, applyEntry st e = .ok (st', out) → Along A st' es

/-- a definition by the same recursion is `Along` (`WfHistory`, `UnprivHistory`, … are defined that way) -/
theorem along_iff {A : St → Entry → Prop} {H : St → List Entry → Prop} (nil : ∀ st, H st [])
    (cons : ∀ {st e es}, H st (e :: es) ↔ A st e ∧ ∀ st' out, applyEntry st e = .ok (st', out) → H st' es) :
    ∀ {es : List Entry} {st : St}, H st es ↔ Along A st es
  | [], st => ⟨fun _ => trivial, fun _ => nil st⟩
  | _ :: _, _ =>
    cons.trans (and_congr_right fun _ => forall_congr' fun _ => forall_congr' fun _ => imp_congr_right fun _ =>
      along_iff nil cons)

theorem wfHistory_iff {st : St} {es : List Entry} :
    WfHistory st es ↔ Along (fun st e => EntryOk st e ∧ Conforming st e) st es :=
  along_iff (fun _ => trivial) and_assoc.symm

theorem Along.append {A : St → Entry → Prop} {st st' : St} {es es' : List Entry} (h : Along A st es)
    (hr : runEntries st es = .ok st') (h' : Along A st' es') : Along A st (es ++ es') :=
  runEntries_induction (Q := fun st es => Along A st es → Along A st (es ++ es')) (fun _ => h')
    (fun hap _ ih ⟨ha, hn⟩ => ⟨ha, fun st1 out hap1 => by
      rw [hap] at hap1; cases hap1; exact ih (hn _ _ hap)⟩) hr h

theorem WfHistory.append {st st' : St} {es es' : List Entry} (h : WfHistory st es) (hr : runEntries st es = .ok st')
    (h' : WfHistory st' es') : WfHistory st (es ++ es') :=
  wfHistory_iff.2 ((wfHistory_iff.1 h).append hr (wfHistory_iff.1 h'))

/-- an invariant of the state along a history whose entries satisfy `A` -/
theorem run_along {A : St → Entry → Prop} {I : St → Prop}
    (step : ∀ {st st1 : St} {e : Entry} {out : List Out}, I st → A st e → applyEntry st e = .ok (st1, out) → I st1)
    {st st' : St} {es : List Entry} (h : I st) (ha : Along A st es) (hr : runEntries st es = .ok st') : I st' :=
  (run_invariant (I := fun st es => I st ∧ Along A st es)
    (fun ⟨h, ha, hnext⟩ hap => ⟨step h ha hap, hnext _ _ hap⟩) ⟨h, ha⟩ hr).1

theorem run_keeps {P : St → Prop}
    (step : ∀ {st st1 : St} {e : Entry} {out : List Out}, P st → EntryOk st e → applyEntry st e = .ok (st1, out) → P st1)
    {st st' : St} {es : List Entry} (h : P st) (hw : WfHistory st es) (hr : runEntries st es = .ok st') : P st' :=
  run_along (fun h ha => step h ha.1) h (wfHistory_iff.1 hw) hr

theorem run_wp : ∀ {es : List Entry} {st : St}, GInv st → WfHistory st es → (runEntries st es).Wp True GInv
  | [], _, h, _ => .ok h
  | e :: es, st, h, ⟨he, hc, hnext⟩ => by
    have ha := applyEntry_wp st e h he
    unfold runEntries
    cases hap : applyEntry st e with
    | ok r =>
      obtain ⟨st1, out⟩ := r
      exact run_wp (ha.sat _ hap) (hnext st1 out hap)
    | panic site => exact absurd hap (ha.safe hc site)
    | declined why => exact .declined _

theorem run_preserves {st st' : St} {es : List Entry} (h : GInv st) (hw : WfHistory st es)
    (hr : runEntries st es = .ok st') : GInv st' :=
  (run_wp h hw).sat st' hr

end Robust.Irc
