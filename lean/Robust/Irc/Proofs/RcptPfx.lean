import Robust.Irc.Proofs.Stable
/-!
Identity invariant for C12: the prefix under which a session's lines are relayed
(`Session.ircPrefix`) is the one derived from its *current* nickname, user name and session id.

`updateIrcPrefix` (`Session.updateIrcPrefix` in ircserver.go) must follow every change of
`nick` / `username`.  The writers are `cmdNick`, `cmdUser`, `cmdServerNick` (a fresh pseudo-client),
`cmdServerSvsnick` and `createSession` (blank prefix); `cmdServer` turns the session into a services
link with prefix `⟨servername, "", ""⟩` — links are trusted and excluded.

`PfxOK` is a condition on one session *value*; `PInv st` says that every stored session satisfies it.
This file: the definition, and that it is one of the predicates the handlers' ordinary updates keep
(`PInv.stable`, `Stable.lean`).
-/
namespace Robust.Irc
open Robust AMap

def sessPrefix (s : Session) : Prefix := ⟨s.nick, s.username, "robust/0x" ++ hexNat s.id.id⟩

theorem updateIrcPrefix_pfx (s : Session) : (updateIrcPrefix s).ircPrefix = sessPrefix (updateIrcPrefix s) := rfl

/-- a session that is not a services link carries the derived prefix, or is still blank
(neither NICK nor USER seen yet) -/
def PfxOK (s : Session) : Prop :=
  s.server = false →
    s.ircPrefix = sessPrefix s ∨ (s.nick = "" ∧ s.username = "" ∧ s.ircPrefix = ⟨"", "", ""⟩)

theorem PfxOK.of_server {s : Session} (h : s.server = true) : PfxOK s := by
  intro h'; rw [h] at h'; cases h'

theorem PfxOK.update (s : Session) : PfxOK (updateIrcPrefix s) := fun _ => Or.inl rfl

theorem PfxOK.congr {s s' : Session} (h : PfxOK s) (h1 : s'.server = s.server) (h2 : s'.nick = s.nick)
    (h3 : s'.username = s.username) (h4 : s'.ircPrefix = s.ircPrefix) (h5 : s'.id = s.id) : PfxOK s' := by
  unfold PfxOK sessPrefix at *
  rw [h1, h2, h3, h4, h5]; exact h

def PfxKeep (f : Session → Session) : Prop :=
  ∀ s, (f s).server = s.server ∧ (f s).nick = s.nick ∧ (f s).username = s.username ∧
    (f s).ircPrefix = s.ircPrefix ∧ (f s).id = s.id

theorem PfxOK.keep {s : Session} {f : Session → Session} (h : PfxOK s) (hf : PfxKeep f) : PfxOK (f s) :=
  h.congr (hf s).1 (hf s).2.1 (hf s).2.2.1 (hf s).2.2.2.1 (hf s).2.2.2.2

def PInv (st : St) : Prop := ∀ id s, AMap.get st.sessions id = some s → PfxOK s

/-- `PInv` except possibly for the session stored under `x` (between the two `modS` of a nick change) -/
def PInvBut (st : St) (x : Id) : Prop := ∀ id s, id ≠ x → AMap.get st.sessions id = some s → PfxOK s

theorem PInv_init : PInv ({} : St) := by intro id s h; simp at h

theorem PInv.but {st : St} (h : PInv st) (x : Id) : PInvBut st x := fun id s _ hg => h id s hg

theorem PInvBut.congr {st st' : St} {x : Id} (h : PInvBut st x) (hs : st'.sessions = st.sessions) :
    PInvBut st' x := by
  unfold PInvBut at *; rw [hs]; exact h

theorem PInv.of_sessions {st st' : St} (h : PInv st)
    (hs : ∀ id s', AMap.get st'.sessions id = some s' → ∃ s, AMap.get st.sessions id = some s ∧
      s'.server = s.server ∧ s'.nick = s.nick ∧ s'.username = s.username ∧ s'.ircPrefix = s.ircPrefix ∧
      s'.id = s.id) : PInv st' := by
  intro id s' hg
  obtain ⟨s, hg0, e1, e2, e3, e4, e5⟩ := hs id s' hg
  exact (h id s hg0).congr e1 e2 e3 e4 e5

theorem PInvBut.setSession {st st' : St} {k : Id} (h : PInvBut st k) {v : Session} (hv : PfxOK v)
    (hs : st'.sessions = AMap.set st.sessions k v) : PInv st' := by
  intro id s hg
  rw [hs] at hg
  rcases AMap.get_of_get_set hg with ⟨_, rfl⟩ | ⟨hne, hg⟩
  · exact hv
  · exact h id s hne hg

theorem PInvBut.setSession_but {st st' : St} {k : Id} (h : PInvBut st k) (v : Session)
    (hs : st'.sessions = AMap.set st.sessions k v) : PInvBut st' k := by
  intro id s hne hg
  rw [hs, AMap.get_set_other _ hne] at hg
  exact h id s hne hg

/-- the handlers' ordinary updates keep nick, user name, prefix, id and the `server` flag -/
theorem PInv.stable : Stable PInv :=
  SessAll.stable fun hv h => h.congr (Session.kept_server hv) (Session.kept_nick hv) (Session.kept_username hv)
    (Session.kept_ircPrefix hv) (Session.kept_id hv)

/-- an update whose result is fine whatever it was applied to: `updateIrcPrefix _`, a services link -/
theorem PInv.upd_ok (tid : Id) {f : Session → Session} (hf : ∀ s, PfxOK (f s)) : Upd PInv tid f :=
  SessAll.upd tid fun s _ => hf s

/-- the operator flag is not read -/
theorem PInv.upd (tid : Id) {f : Session → Session} (hf : PfxKeep f) : Upd PInv tid f :=
  SessAll.upd tid fun _ h => h.keep hf

/-- a nick change suspends the invariant for the renamed session between its two updates;
`updateIrcPrefix` re-establishes it, given that the session is stored under its own id -/
theorem PInv.nickUpd {c : Ctx} {tid : Id} (hid : ∀ s, AMap.get c.st.sessions tid = some s → s.id = tid)
    (n : String) : NickUpd PInv tid n c := by
  intro c1 c2 lcnew old b h hm1 hm2
  obtain ⟨s, hs, rfl⟩ := modS_eq_ok.1 hm1
  have e1 : (putS c { s with nick := n }).st.sessions = AMap.set c.st.sessions tid { s with nick := n } := by
    rw [putS_sessions]
    show AMap.set c.st.sessions s.id _ = _
    rw [hid s hs]
  have hss := renameCtx_sessions (putS c { s with nick := n }) tid lcnew old b
  have b1 : PInvBut (renameCtx (putS c { s with nick := n }) tid lcnew old b).st tid :=
    ((h.but tid).setSession_but _ e1).congr hss
  obtain ⟨s1, hs1, rfl⟩ := modS_eq_ok.1 hm2
  rw [hss, e1, AMap.get_set_same] at hs1
  cases hs1
  refine b1.setSession (v := updateIrcPrefix { s with nick := n }) (PfxOK.update _) ?_
  rw [putS_sessions]
  show AMap.set _ s.id _ = _
  rw [hid s hs]

theorem PInv.putS {c : Ctx} (h : PInv c.st) {s' : Session} (hv : PfxOK s') : PInv (putS c s').st :=
  SessAll.setSession h hv rfl

theorem PInv.createSession {st st' : St} {id : Id} {auth : String} {ts : Int} (h : PInv st)
    (hr : createSession st id auth ts = some st') : PInv st' :=
  SessAll.createSession h (fun _ => Or.inr ⟨rfl, rfl, rfl⟩) hr

/-- the services' NICK fills the new pseudo-client in with `updateIrcPrefix _` -/
theorem PInv.serverNick {c c2 : Ctx} {id : Id} {auth : String} {ts : Int} {st1 : St} {f : Session → Session}
    (h : PInv c.st) (hcs : Robust.Irc.createSession c.st id auth ts = some st1) (hm : Robust.Irc.modS { c with st := st1 } id f = .ok c2)
    (hf : ∀ s, PfxOK (f s)) : PInv c2.st :=
  SessAll.modS (c := { c with st := st1 }) (h.createSession hcs) hm fun s _ _ => hf s

theorem PInv.updateLastClientMessageID {st st' : St} {e : Entry} (h : PInv st)
    (hr : updateLastClientMessageID st e = some st') : PInv st' :=
  SessAll.updateLastClientMessageID h (fun _ _ _ _ h => h.congr rfl rfl rfl rfl rfl) hr

/-- a handler keeps `PInv` (for callers that satisfy `Pre` and `NI`; most handlers need neither) -/
def PPres (h : Ctx → Id → IrcMsg → Res Ctx) : Prop :=
  ∀ c sid m c', Pre c sid → NI c.st → PInv c.st → h c sid m = .ok c' → PInv c'.st

/-- brute-force walk through a handler whose leaves are output / `putChan` on top of a context `c`
with `h : PInv c.st`: `pinv_auto hr h` -/
macro "pinv_auto" hr:ident h:ident : tactic =>
  `(tactic| repeat' (first
      | split at $hr:ident
      | (obtain ⟨_, _, $hr:ident⟩ := Res.bind_eq_ok.1 $hr:ident)
      | dsimp only at $hr:ident
      | (cases $hr:ident <;> exact $h:ident)))

end Robust.Irc
