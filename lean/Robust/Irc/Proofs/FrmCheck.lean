import Robust.Irc.Proofs.FrmHist
import Robust.Irc.Proofs.RcptCheck
import Robust.Irc.Proofs.EntryCheck
import Robust.Irc.Proofs.PrivHistB
/-!
What the non-vacuity examples of C10 / C16 / C17 need to discharge the hypotheses of the entry- and history-level
theorems on concrete states and entries by kernel evaluation: that an entry or a history applies (`Res.isOk`, with
`resSt`, `resOut`, `runSt` for the result), `IdsIncreasing` from a Boolean test (`idsIncreasing_of_B`), the `markers` of
a state.  `EntryOk` and `Conforming` follow from `entryOkB`, `conformingB` (`EntryCheck.lean`; sufficient: no line of a
services link passes `conformingB`), `WfHistory` from `histB none` (`PrivHistB.lean`).
-/
namespace Robust.Irc
open Robust AMap

def Res.isOk {α : Type} : Res α → Bool
  | .ok _ => true
  | _ => false

def resSt (r : Res (St × List Out)) : St :=
  match r with
  | .ok (st, _) => st
  | _ => {}

def resOut (r : Res (St × List Out)) : List Out :=
  match r with
  | .ok (_, o) => o
  | _ => []

theorem eq_ok_of_isOk {r : Res (St × List Out)} (h : r.isOk = true) : r = .ok (resSt r, resOut r) := by
  cases r with
  | ok a => rfl
  | panic s => cases h
  | declined w => cases h

def runSt (r : Res St) : St :=
  match r with
  | .ok st => st
  | _ => {}

theorem run_eq_of_isOk {r : Res St} (h : r.isOk = true) : r = .ok (runSt r) := by
  cases r with
  | ok a => rfl
  | panic s => cases h
  | declined w => cases h

theorem idsIncreasing_of_B : ∀ {n : Nat} {es : List Entry},
    (es.zip (n :: es.map (·.id))).all (fun p => decide (p.2 < p.1.id)) = true → IdsIncreasing n es
  | _, [], _ => trivial
  | n, e :: es, h => by
    simp only [List.map_cons, List.zip_cons_cons, List.all_cons, Bool.and_eq_true, decide_eq_true_eq] at h
    exact ⟨h.1, idsIncreasing_of_B h.2⟩

def markers (st : St) : List (Id × Nat) := st.sessions.map fun e => (e.1, e.2.lastClientMessageId)

theorem GPInv.sessWf {st : St} (h : GPInv st) : SessWf st := h.ginv.sessWf

end Robust.Irc
