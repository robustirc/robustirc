import Robust.Irc.Proofs.PermH2
/-!
Order-independence, handlers 5: the services (server-to-server) handlers `SERVER`, `NICK`, `JOIN`, `PART`,
`KICK`, `MODE`, `PRIVMSG`/`NOTICE`, `INVITE`, `TOPIC`.
-/
namespace Robust.Irc
open Robust
attribute [local irreducible] IrcMsg.render emit sendUser sendSvc

theorem cmdServerPrivmsg_congr : HCongr cmdServerPrivmsg := by
  intro c c' sid m h
  unfold cmdServerPrivmsg
  apply RRel.ite
  · refine RRel.bind_same (fun pn => ?_)
    ceqs
  apply RRel.ite
  · refine RRel.bind_same (fun pn => ?_)
    ceqs
  refine RRel.bind_same (fun p0 => ?_)
  apply RRel.ite
  · rcases getChan_split h (chanToLower p0) with ⟨h1, h2⟩ | ⟨ch, n, h1, h2, hch, hk⟩
    · simp only [h1, h2]
      refine RRel.bind_same (fun pn => ?_)
      ceqs
    · simp only [h1, h2]
      refine RRel.bind_same (fun sp => ?_)
      refine RRel.bind (rcChannel_congr h.st hch) (fun rc rc' hrc => ?_)
      ceqs
  · rw [h.st.get_nicks]
    split
    · refine RRel.bind_same (fun pn => ?_)
      ceqs
    · refine RRel.bind_same (fun sp => ?_)
      ceqs

theorem cmdServerKick_congr : HCongr cmdServerKick := by
  intro c c' sid m h
  unfold cmdServerKick
  refine RRel.bind_same (fun channelname => ?_)
  refine RRel.bind_same (fun target => ?_)
  rw [h.st.get_nicks]
  rcases getChan_split h (chanToLower channelname) with ⟨h1, h2⟩ | ⟨ch, n, h1, h2, hch, hk⟩
  · simp only [h1, h2]
    refine RRel.bind_same (fun pn => ?_)
    ceqs
  · simp only [h1, h2, hch.contains_nicks]
    apply RRel.ite
    · refine RRel.bind_same (fun pn => ?_)
      ceqs
    · split
      · refine RRel.bind_same (fun sp => ?_)
        refine RRel.bind (rcChannel_congr h.st hch) (fun rc rc' hrc => ?_)
        exact leaveChannel_congr (emit_congr h rfl (hrc.append (rcServices_perm h.st))) _ _ _
      · exact .panic

theorem serverPartOne_congr {c c' : Ctx} (h : CEq c c') (m : IrcMsg) (channelname : String) :
    RRel CEq (serverPartOne c m channelname) (serverPartOne c' m channelname) := by
  unfold serverPartOne
  simp only [h.st.get_nicks]
  rcases getChan_split h (chanToLower channelname) with ⟨h1, h2⟩ | ⟨ch, n, h1, h2, hch, hk⟩
  · simp only [h1, h2]
    refine RRel.bind_same (fun pn => ?_)
    ceqs
  · simp only [h1, h2, hch.contains_nicks]
    refine RRel.bind_same (fun pn => ?_)
    apply RRel.ite
    · ceqs
    · split
      · refine RRel.bind_same (fun sp => ?_)
        refine RRel.bind (rcChannel_congr h.st hch) (fun rc rc' hrc => ?_)
        exact leaveChannel_congr (emit_congr h rfl hrc) _ _ _
      · exact .panic

theorem cmdServerPart_congr : HCongr cmdServerPart := by
  intro c c' sid m h
  unfold cmdServerPart
  refine RRel.bind_same (fun p0 => ?_)
  exact foldlM_rrel_same _ (fun c c' a _ hc => serverPartOne_congr hc m a) h

theorem cmdServerInvite_congr : HCongr cmdServerInvite := by
  intro c c' sid m h
  unfold cmdServerInvite
  refine RRel.bind_same (fun nickname => ?_)
  refine RRel.bind_same (fun channelname => ?_)
  rw [h.st.get_nicks]
  split
  · refine RRel.bind_same (fun pn => ?_)
    ceqs
  · rename_i tid _
    refine getS_bind h tid (fun t chs inv ht => ?_)
    rcases getChan_split h (chanToLower channelname) with ⟨h1, h2⟩ | ⟨ch, n, h1, h2, hch, hk⟩
    · simp only [h1, h2]
      refine RRel.bind_same (fun pn => ?_)
      ceqs
    · simp only [h1, h2, hch.contains_nicks]
      apply RRel.ite
      · refine RRel.bind_same (fun pn => ?_)
        ceqs
      · refine RRel.bind (modS_congr h tid (fun s s' hs => hs.withInvitedTo (setInsert_perm hs.invitedTo _))) (fun c1 c1' hc1 => ?_)
        refine RRel.bind_same (fun pn => ?_)
        refine RRel.bind_same (fun sp => ?_)
        simp only [sendUser_st, sendSvc_st]
        refine RRel.bind (rcChannel_congr hc1.st hch) (fun rc rc' hrc => ?_)
        ceqs

theorem cmdServerTopic_congr : HCongr cmdServerTopic := by
  intro c c' sid m h
  unfold cmdServerTopic
  refine RRel.bind_same (fun channel => ?_)
  rcases getChan_split h (chanToLower channel) with ⟨h1, h2⟩ | ⟨ch, n, h1, h2, hch, hk⟩
  · simp only [h1, h2]
    refine RRel.bind_same (fun pn => ?_)
    ceqs
  · simp only [h1, h2]
    refine RRel.bind_same (fun p2 => ?_)
    refine RRel.bind_same (fun ots => ?_)
    split
    · exact .declined
    · rename_i ts
      refine RRel.bind_same (fun p1 => ?_)
      apply RRel.ite
      · exact .declined
      · have hchA := hch.upd (fun ch => { ch with topicNick := p1, topicTime := ts * 1000000000, topic := m.trailing })
          (fun _ => rfl) (fun _ => rfl)
        have hcA := putChan_congr h (chanToLower channel) hchA hk
        refine RRel.bind_same (fun sp => ?_)
        refine RRel.bind (rcChannel_congr hcA.st hchA) (fun rc rc' hrc => ?_)
        ceqs

theorem serverModeStep_congr {c c' : Ctx} (h : CEq c c') (m : IrcMsg) (channelname lc : String) (mc : ModeCmd) :
    RRel CEq (serverModeStep m channelname lc c mc) (serverModeStep m channelname lc c' mc) := by
  unfold serverModeStep
  rcases getChan_split h lc with ⟨h1, h2⟩ | ⟨ch, n, h1, h2, hch, hk⟩
  · simp only [h1, h2]
    exact .panic
  · simp only [h1, h2, hch.get_nicks]
    apply RRel.ite
    · exact .ok (putChan_congr h lc
        (hch.upd (fun ch => { ch with modes := modeSet ch.modes _ _ }) (fun _ => rfl) (fun _ => rfl)) hk)
    apply RRel.ite
    · split
      · refine RRel.bind_same (fun pn => ?_)
        ceqs
      · apply RRel.ite
        · refine RRel.ok (putChan_congr h lc ?_ hk)
          exact hch.withNicks (hch.nicks.set _ rfl)
        · ceqs
    · refine RRel.bind_same (fun pn => ?_)
      ceqs

theorem cmdServerMode_congr : HCongr cmdServerMode := by
  intro c c' sid m h
  rw [cmdServerMode_eq, cmdServerMode_eq]
  refine RRel.bind_same (fun channelname => ?_)
  rcases getChan_split h (chanToLower channelname) with ⟨h1, h2⟩ | ⟨ch, n, h1, h2, hch, hk⟩
  · simp only [h1, h2]
    refine RRel.bind_same (fun pn => ?_)
    ceqs
  · simp only [h1, h2]
    refine RRel.bind (foldlM_rrel_same _ (fun c c' a _ hc => serverModeStep_congr hc m channelname _ a) h)
      (fun c1 c1' hc1 => ?_)
    rw [hc1.replyid]
    apply RRel.ite
    · ceqs
    · rcases getChan_split hc1 (chanToLower channelname) with ⟨h3, h4⟩ | ⟨ch1, n1, h3, h4, hch1, hk1⟩
      · simp only [h3, h4]
        exact .panic
      · simp only [h3, h4]
        refine RRel.bind_same (fun sp => ?_)
        refine RRel.bind (rcChannel_congr hc1.st hch1) (fun rc rc' hrc => ?_)
        ceqs

theorem serverJoinOne_congr {c c' : Ctx} (h : CEq c c') (m : IrcMsg) (channelname : String) :
    RRel CEq (serverJoinOne c m channelname) (serverJoinOne c' m channelname) := by
  unfold serverJoinOne
  refine RRel.bind_same (fun pn => ?_)
  apply RRel.ite
  · ceqs
  simp only [h.st.get_nicks]
  split
  · ceqs
  · rename_i tid _
    rw [h.config, h.st.channels.length_eq, ← (getChan_congr h (chanToLower channelname)).isSome_eq]
    refine RRel.ite (by ceqs) ?_
    obtain ⟨hch, hk⟩ := getChanD_congr h channelname
    have hchA := hch.withNicks (hch.nicks.set (nickToLower pn) (v := { chanop := !(getChan c (chanToLower channelname)).isSome }) rfl)
    refine RRel.bind (modS_congr (putChan_congr h _ hchA hk) tid (fun s s' hs => hs.withChannels (setInsert_perm hs.channels _)))
      (fun c1 c1' hc1 => ?_)
    refine RRel.bind_same (fun sp => ?_)
    refine RRel.bind (rcChannel_congr hc1.st hchA) (fun rc rc' hrc => ?_)
    ceqs

theorem cmdServerJoin_congr : HCongr cmdServerJoin := by
  intro c c' sid m h
  unfold cmdServerJoin
  refine RRel.bind_same (fun p0 => ?_)
  exact foldlM_rrel_same _ (fun c c' a _ hc => serverJoinOne_congr hc m a) h

theorem cmdServerNick_congr : HCongr cmdServerNick := by
  intro c c' sid m h
  unfold cmdServerNick
  refine getS_bind h sid (fun s chs inv hs => ?_)
  simp only [h.st.contains_nicks, h.st.sessions.contains_eq]
  apply RRel.ite
  · ceqs
  refine RRel.bind_same (fun p0 => ?_)
  apply RRel.ite
  · ceqs
  apply RRel.ite
  · ceqs
  apply RRel.ite
  · ceqs
  rcases (createSession_congr h.st ⟨s.id.id, fnv64 p0⟩ "" s.lastActivity).cases' with ⟨h1, h2⟩ | ⟨st1, st1', h1, h2, hst⟩
  · simp only [h1, h2]
    ceqs
  · simp only [h1, h2]
    refine RRel.bind_same (fun p3 => ?_)
    refine RRel.bind (modS_congr_upd (h.withSt hst) _ _) (fun c1 c1' hc1 => ?_)
    exact .ok (hc1.withSt (hc1.st.withNicks (hc1.st.nicks.set _ rfl)))

theorem serverBurstChan_congr {c c' : Ctx} (h : CEq c c') {t t' : Session} (ht : SessEq t t') (lc : String) :
    RRel CEq (serverBurstChan t c lc) (serverBurstChan t' c' lc) := by
  unfold serverBurstChan
  obtain ⟨chs, inv, rfl⟩ := ht.exists_with
  rcases getChan_split h lc with ⟨h1, h2⟩ | ⟨ch, n, h1, h2, hch, hk⟩
  · simp only [h1, h2]
    exact .panic
  · simp only [h1, h2, hch.get_nicks]
    split
    · exact .panic
    · ceqs

theorem serverBurstNick_congr {c c' : Ctx} (h : CEq c c') (nick : String) :
    RRel CEq (serverBurstNick c nick) (serverBurstNick c' nick) := by
  unfold serverBurstNick
  rw [h.st.get_nicks]
  split
  · exact .panic
  · rename_i tid _
    refine getS_bind h tid (fun t chs inv ht => ?_)
    simp only [h.serverName, sortStr_eq_of_perm ht.channels]
    apply RRel.ite
    · ceqs
    · refine foldlM_rrel_same _ (fun c c' a _ hc => serverBurstChan_congr hc ht a) ?_
      ceqs

theorem cmdServer_congr : HCongr cmdServer := by
  intro c c' sid m h
  rw [cmdServer_eq, cmdServer_eq]
  refine getS_bind h sid (fun s chs inv hs => ?_)
  rw [h.config]
  apply RRel.ite
  · ceqs
  refine RRel.bind_same (fun p0 => ?_)
  refine RRel.bind (modS_congr_upd h sid _) (fun c1 c1' hc1 => ?_)
  have hc2 : CEq { c1 with st := { c1.st with serverSessions := c1.st.serverSessions ++ [sid.id] } }
      { c1' with st := { c1'.st with serverSessions := c1'.st.serverSessions ++ [sid.id] } } :=
    hc1.withSt (hc1.st.withServerSessions (hc1.st.serverSessions.append (List.Perm.refl _)))
  simp only [sendSvc_st, sortStr_eq_of_perm hc1.st.nicks.keys_perm]
  refine foldlM_rrel_same _ (fun c c' a _ hc => serverBurstNick_congr hc a) (sendSvc_congr hc2 ?_)
  rw [hc1.serverName]

end Robust.Irc
