import Robust.Irc.Proofs.FrameSim
/-!
Removing a member: `maybeDeleteChannel`, `leaveChannel`, and `dropMember`, the part that `deleteSession`
(`FrameDelete.lean`) has in common with `leaveChannel`.
-/
namespace Robust.Irc
open Robust AMap

structure CtxFrame (c c' : Ctx) : Prop where
  msgid : c'.msgid = c.msgid
  replyid : c'.replyid = c.replyid
  out : c'.out = c.out
  config : c'.st.config = c.st.config
  svsholds : c'.st.svsholds = c.st.svsholds
  serverSessions : c'.st.serverSessions = c.st.serverSessions
  lastProcessed : c'.st.lastProcessed = c.st.lastProcessed
  serverName : c'.st.serverName = c.st.serverName

theorem CtxFrame.refl (c : Ctx) : CtxFrame c c := ⟨rfl, rfl, rfl, rfl, rfl, rfl, rfl, rfl⟩

theorem CtxFrame.trans {a b c : Ctx} (h1 : CtxFrame a b) (h2 : CtxFrame b c) : CtxFrame a c :=
  ⟨h2.msgid.trans h1.msgid, h2.replyid.trans h1.replyid, h2.out.trans h1.out, h2.config.trans h1.config,
   h2.svsholds.trans h1.svsholds, h2.serverSessions.trans h1.serverSessions,
   h2.lastProcessed.trans h1.lastProcessed, h2.serverName.trans h1.serverName⟩

theorem CtxFrame.putS (c : Ctx) (s : Session) : CtxFrame c (putS c s) := ⟨rfl, rfl, rfl, rfl, rfl, rfl, rfl, rfl⟩
theorem CtxFrame.putChan (c : Ctx) (lc : String) (ch : Channel) : CtxFrame c (putChan c lc ch) :=
  ⟨rfl, rfl, rfl, rfl, rfl, rfl, rfl, rfl⟩

theorem CtxFrame.modS {c c' : Ctx} {sid : Id} {f : Session → Session} (hr : modS c sid f = .ok c') : CtxFrame c c' := by
  obtain ⟨s, _, rfl⟩ := modS_eq_ok.1 hr
  exact .putS c _

/-- same sessions up to the `invitedTo` lists (what `maybeDeleteChannel` does to the sessions) -/
structure SessUpTo (m m' : AMap Id Session) : Prop where
  keys : AMap.keys m' = AMap.keys m
  get : ∀ id s, AMap.get m id = some s → ∃ inv, AMap.get m' id = some { s with invitedTo := inv }

theorem SessUpTo.refl (m : AMap Id Session) : SessUpTo m m :=
  ⟨rfl, fun _ s h => ⟨s.invitedTo, h⟩⟩

theorem SessUpTo.trans {a b c : AMap Id Session} (h1 : SessUpTo a b) (h2 : SessUpTo b c) : SessUpTo a c := by
  refine ⟨h2.keys.trans h1.keys, fun id s hg => ?_⟩
  obtain ⟨i1, g1⟩ := h1.get id s hg
  obtain ⟨i2, g2⟩ := h2.get id _ g1
  exact ⟨i2, g2⟩

theorem SessUpTo.none {m m' : AMap Id Session} (h : SessUpTo m m') {id : Id} (hg : AMap.get m id = none) :
    AMap.get m' id = none :=
  AMap.get_none_of_keys_eq h.keys hg

theorem SessUpTo.bwd {m m' : AMap Id Session} (h : SessUpTo m m') {id : Id} {s' : Session}
    (hg : AMap.get m' id = some s') : ∃ s, AMap.get m id = some s ∧ s' = { s with invitedTo := s'.invitedTo } := by
  cases hm : AMap.get m id with
  | none => rw [h.none hm] at hg; cases hg
  | some s =>
    obtain ⟨inv, g⟩ := h.get id s hm
    rw [g] at hg; cases hg
    exact ⟨s, rfl, rfl⟩

theorem SessUpTo.mapInvited (m : AMap Id Session) (f : Session → List String) :
    SessUpTo m (m.map fun e => (e.1, { e.2 with invitedTo := f e.2 })) := by
  refine ⟨AMap.keys_map_val m (fun e => { e.2 with invitedTo := f e.2 }), fun id s hg => ?_⟩
  have h1 := AMap.get_map_val m (fun s : Session => { s with invitedTo := f s }) id
  rw [hg] at h1
  exact ⟨f s, h1⟩

theorem SessUpTo.sim {m m' : AMap Id Session} (h : SessUpTo m m') (hn : (AMap.keys m).Nodup) : SessSim m m' := by
  refine ⟨by rw [h.keys]; exact hn, fun id => ?_⟩
  cases hm : AMap.get m id with
  | none => rw [h.none hm]
  | some s =>
    obtain ⟨inv, g⟩ := h.get id s hm
    rw [g]; rfl

def ChansNonemptyBut (st : St) (lc : String) : Prop :=
  ∀ lc' c, lc' ≠ lc → AMap.get st.channels lc' = some c → c.nicks ≠ []

theorem ChansNonempty.but {st : St} (h : ChansNonempty st) (lc : String) : ChansNonemptyBut st lc :=
  fun lc' c _ hg => h lc' c hg

theorem maybeDeleteChannel_none {c : Ctx} {lc : String} (h : AMap.get c.st.channels lc = none) :
    maybeDeleteChannel c lc = c := by
  unfold maybeDeleteChannel getChan
  rw [h]

theorem maybeDeleteChannel_nonempty {c : Ctx} {lc : String} {ch : Channel}
    (h : AMap.get c.st.channels lc = some ch) (hne : ch.nicks ≠ []) : maybeDeleteChannel c lc = c := by
  unfold maybeDeleteChannel getChan
  rw [h]
  have : ch.nicks.length > 0 := List.length_pos_iff.2 hne
  simp [this]

theorem maybeDeleteChannel_empty {c : Ctx} {lc : String} {ch : Channel}
    (h : AMap.get c.st.channels lc = some ch) (he : ch.nicks = []) :
    maybeDeleteChannel c lc =
      { c with st := { c.st with
          channels := AMap.erase c.st.channels (chanToLower ch.name),
          sessions := c.st.sessions.map fun e =>
            (e.1, { e.2 with invitedTo := e.2.invitedTo.filter (· ≠ chanToLower ch.name) }) } } := by
  unfold maybeDeleteChannel getChan
  rw [h]
  simp [he]

/-- what `maybeDeleteChannel c lc` does, provided the channel stored under `lc` (if any) is
keyed by its own lower-cased name (`WInvCore.chans`) -/
theorem maybeDeleteChannel_spec {c : Ctx} {lc : String}
    (hkey : ∀ ch, AMap.get c.st.channels lc = some ch → chanToLower ch.name = lc) :
    (maybeDeleteChannel c lc).st.nicks = c.st.nicks ∧
    SessUpTo c.st.sessions (maybeDeleteChannel c lc).st.sessions ∧
    CtxFrame c (maybeDeleteChannel c lc) ∧
    (((maybeDeleteChannel c lc).st.channels = c.st.channels ∧
        ∀ ch, AMap.get c.st.channels lc = some ch → ch.nicks ≠ []) ∨
     ((maybeDeleteChannel c lc).st.channels = AMap.erase c.st.channels lc ∧
        ∃ ch, AMap.get c.st.channels lc = some ch ∧ ch.nicks = [])) := by
  cases hg : AMap.get c.st.channels lc with
  | none =>
    rw [maybeDeleteChannel_none hg]
    exact ⟨rfl, SessUpTo.refl _, CtxFrame.refl _, Or.inl ⟨rfl, fun ch h => by cases h⟩⟩
  | some ch =>
    by_cases hnil : ch.nicks = []
    · rw [maybeDeleteChannel_empty hg hnil]
      refine ⟨rfl, ?_, ⟨rfl, rfl, rfl, rfl, rfl, rfl, rfl, rfl⟩, Or.inr ⟨?_, ch, rfl, hnil⟩⟩
      · exact SessUpTo.mapInvited _ (fun s => s.invitedTo.filter (· ≠ chanToLower ch.name))
      · show AMap.erase c.st.channels (chanToLower ch.name) = AMap.erase c.st.channels lc
        rw [hkey ch hg]
    · rw [maybeDeleteChannel_nonempty hg hnil]
      refine ⟨rfl, SessUpTo.refl _, CtxFrame.refl _, Or.inl ⟨rfl, fun ch' h => ?_⟩⟩
      cases h
      exact hnil

/-- `m'` is `m` with the member set of channel `lc` (stored value `ch`) shrunk by at least
`lcn` and nothing else but possibly the whole channel -/
structure Shrink (lc lcn : String) (ch : Channel) (m m' : AMap String Channel) : Prop where
  nodup : (AMap.keys m').Nodup
  other : ∀ lc', lc' ≠ lc → AMap.get m' lc' = AMap.get m lc'
  sub : ∀ c', AMap.get m' lc = some c' → c'.name = ch.name ∧ (AMap.keys c'.nicks).Nodup ∧
          ∀ n, n ∈ AMap.keys c'.nicks → n ∈ AMap.keys ch.nicks ∧ n ≠ lcn
  keep : ∀ n, n ≠ lcn → n ∈ AMap.keys ch.nicks → ∃ c', AMap.get m' lc = some c' ∧ n ∈ AMap.keys c'.nicks

def MemberOKSkip (st : St) (x lc : String) : Prop :=
  ∀ id s, AMap.get st.nicks x = some id → AMap.get st.sessions id = some s →
    ∀ ch ∈ s.channels, ch ≠ lc → ∃ c, AMap.get st.channels ch = some c ∧ AMap.contains c.nicks x = true

theorem MemberOK.skip {st : St} {x : String} (h : MemberOK st x) (lc : String) : MemberOKSkip st x lc :=
  fun id s hi hg ch hch _ => h id s hi hg ch hch

section shrink
variable {st st' : St} {lc lcn : String} {ch : Channel}

theorem Shrink.core (hsh : Shrink lc lcn ch st.channels st'.channels) (h : WInvCore st)
    (hch : AMap.get st.channels lc = some ch) (hs : st'.sessions = st.sessions) (hn : st'.nicks = st.nicks) :
    WInvCore st' := by
  refine ⟨by rw [hs]; exact h.sessNodup, by rw [hn]; exact h.nickNodup, hsh.nodup,
    by rw [hs]; exact h.sessId, by rw [hs, hn]; exact h.owns, by rw [hs, hn]; exact h.index, ?_⟩
  intro lc' c' hg
  rw [hs, hn]
  by_cases hlc : lc' = lc
  · subst hlc
    obtain ⟨hname, hnd, hsub⟩ := hsh.sub c' hg
    obtain ⟨a, _, d⟩ := h.chans lc' ch hch
    exact ⟨by rw [hname]; exact a, hnd, fun n hn' => d n (hsub n hn').1⟩
  · rw [hsh.other lc' hlc] at hg
    exact h.chans lc' c' hg

theorem Shrink.member (hsh : Shrink lc lcn ch st.channels st'.channels)
    (hch : AMap.get st.channels lc = some ch) (hs : st'.sessions = st.sessions) (hn : st'.nicks = st.nicks)
    {x : String} (hx : x ≠ lcn) (hm : MemberOK st x) : MemberOK st' x := by
  intro id s hi hg ch2 hch2
  rw [hn] at hi; rw [hs] at hg
  obtain ⟨c, hc, hcont⟩ := hm id s hi hg ch2 hch2
  by_cases h2 : ch2 = lc
  · subst h2
    rw [hch] at hc; cases hc
    obtain ⟨c', hc', hx'⟩ := hsh.keep x hx (AMap.contains_iff_mem_keys.1 hcont)
    exact ⟨c', hc', AMap.contains_iff_mem_keys.2 hx'⟩
  · exact ⟨c, by rw [hsh.other _ h2]; exact hc, hcont⟩

theorem Shrink.skip (hsh : Shrink lc lcn ch st.channels st'.channels)
    (hs : st'.sessions = st.sessions) (hn : st'.nicks = st.nicks)
    {x : String} (hm : MemberOKSkip st x lc) : MemberOKSkip st' x lc := by
  intro id s hi hg ch2 hch2 hne
  rw [hn] at hi; rw [hs] at hg
  obtain ⟨c, hc, hcont⟩ := hm id s hi hg ch2 hch2 hne
  exact ⟨c, by rw [hsh.other _ hne]; exact hc, hcont⟩

theorem Shrink.gone (hsh : Shrink lc lcn ch st.channels st'.channels) {c' : Channel}
    (hg : AMap.get st'.channels lc = some c') : lcn ∉ AMap.keys c'.nicks :=
  fun hmem => ((hsh.sub c' hg).2.2 lcn hmem).2 rfl

end shrink

/-! ### dropping a member and maybe the channel: the common part of `leaveChannel` and `deleteSession` -/

def dropMember (c : Ctx) (lc lcn : String) (ch : Channel) : Ctx :=
  maybeDeleteChannel (putChan c lc { ch with nicks := AMap.erase ch.nicks lcn }) lc

structure DropSpec (c c' : Ctx) (lc lcn : String) (ch : Channel) : Prop where
  nicks : c'.st.nicks = c.st.nicks
  sess : SessUpTo c.st.sessions c'.st.sessions
  frame : CtxFrame c c'
  shrink : Shrink lc lcn ch c.st.channels c'.st.channels
  nonempty : ∀ c2, AMap.get c'.st.channels lc = some c2 → c2.nicks ≠ []

theorem dropMember_spec {c : Ctx} {lc lcn : String} {ch : Channel} (h : WInvCore c.st)
    (hch : AMap.get c.st.channels lc = some ch) : DropSpec c (dropMember c lc lcn ch) lc lcn ch := by
  obtain ⟨hkeych, hndch, _⟩ := h.chans lc ch hch
  let ch' : Channel := { ch with nicks := AMap.erase ch.nicks lcn }
  have hget1 : AMap.get (putChan c lc ch').st.channels lc = some ch' := by simp
  have hkey : ∀ x, AMap.get (putChan c lc ch').st.channels lc = some x → chanToLower x.name = lc := by
    intro x hx; rw [hget1] at hx; cases hx; exact hkeych
  obtain ⟨e1, e2, e3, e4⟩ := maybeDeleteChannel_spec (c := putChan c lc ch') (lc := lc) hkey
  have hnd1 : (AMap.keys (AMap.set c.st.channels lc ch')).Nodup := AMap.nodup_keys_set _ _ h.chanNodup
  have e3' := (CtxFrame.putChan c lc ch').trans e3
  unfold dropMember
  rcases e4 with ⟨e5, e6⟩ | ⟨e5, ch2, hg2, hnil⟩
  · -- channel kept
    refine ⟨e1, e2, e3', ?_, by rw [e5]; exact e6⟩
    rw [e5]
    refine ⟨hnd1, fun lc' hne => ?_, fun c' hc' => ?_, fun n hn hmem => ?_⟩
    · simp [AMap.get_set_other _ hne]
    · rw [hget1] at hc'; cases hc'
      exact ⟨rfl, AMap.nodup_keys_erase lcn hndch, fun n hn => (AMap.mem_keys_erase.1 hn).symm⟩
    · exact ⟨ch', hget1, AMap.mem_keys_erase.2 ⟨hn, hmem⟩⟩
  · -- channel deleted: it had become empty
    rw [hget1] at hg2; cases hg2
    refine ⟨e1, e2, e3', ?_, by rw [e5]; intro c2 hc2; simp at hc2⟩
    rw [e5]
    refine ⟨AMap.nodup_keys_erase lc hnd1, fun lc' hne => ?_, fun c' hc' => ?_, fun n hn hmem => ?_⟩
    · simp [AMap.get_erase_other hne, AMap.get_set_other _ hne]
    · simp at hc'
    · have : n ∈ AMap.keys ch'.nicks := AMap.mem_keys_erase.2 ⟨hn, hmem⟩
      rw [hnil] at this; simp at this

section dropspec
variable {c c' : Ctx} {lc lcn : String} {ch : Channel}

/-- the intermediate state: channels already shrunk, sessions not yet mapped -/
private def midSt (c c' : Ctx) : St := { c.st with channels := c'.st.channels }

private theorem DropSpec.midSim (hd : DropSpec c c' lc lcn ch) (h : WInvCore c.st) : StSim (midSt c c') c'.st :=
  ⟨hd.sess.sim h.sessNodup, hd.nicks, MapSim.refl hd.shrink.nodup⟩

theorem DropSpec.core (hd : DropSpec c c' lc lcn ch) (h : WInvCore c.st)
    (hch : AMap.get c.st.channels lc = some ch) : WInvCore c'.st :=
  (Shrink.core (st' := midSt c c') hd.shrink h hch rfl rfl).sim (hd.midSim h)

theorem DropSpec.member (hd : DropSpec c c' lc lcn ch) (h : WInvCore c.st)
    (hch : AMap.get c.st.channels lc = some ch) {x : String} (hx : x ≠ lcn) (hm : MemberOK c.st x) :
    MemberOK c'.st x :=
  (Shrink.member (st' := midSt c c') hd.shrink hch rfl rfl hx hm).view ((hd.midSim h).view h.nickNodup)

theorem DropSpec.skip (hd : DropSpec c c' lc lcn ch) {x : String} (hm : MemberOKSkip c.st x lc) :
    MemberOKSkip c'.st x lc := by
  intro id s' hi hg ch2 hch2 hne
  rw [hd.nicks] at hi
  obtain ⟨s, hg0, hs'⟩ := hd.sess.bwd hg
  have hch2' : ch2 ∈ s.channels := by rw [hs'] at hch2; exact hch2
  obtain ⟨c0, hc0, hcont⟩ := hm id s hi hg0 ch2 hch2' hne
  exact ⟨c0, by rw [hd.shrink.other _ hne]; exact hc0, hcont⟩

theorem DropSpec.chansNonempty (hd : DropSpec c c' lc lcn ch) (h : ChansNonemptyBut c.st lc) :
    ChansNonempty c'.st := by
  intro lc' c2 hg
  by_cases hlc : lc' = lc
  · subst hlc; exact hd.nonempty c2 hg
  · rw [hd.shrink.other _ hlc] at hg
    exact h lc' c2 hlc hg

theorem DropSpec.getS (hd : DropSpec c c' lc lcn ch) {id : Id} {s : Session}
    (hg : AMap.get c.st.sessions id = some s) : ∃ inv, AMap.get c'.st.sessions id = some { s with invitedTo := inv } :=
  hd.sess.get id s hg

end dropspec

theorem leaveChannel_eq {c : Ctx} {lc lcn : String} {tid : Id} {ch : Channel}
    (hch : AMap.get c.st.channels lc = some ch) :
    leaveChannel c lc lcn tid =
      modS (dropMember c lc lcn ch) tid fun t => { t with channels := t.channels.filter (· ≠ lc) } := by
  unfold leaveChannel
  simp only [getChan_eq, hch]
  rfl

theorem leaveChannel_none {c : Ctx} {lc lcn : String} {tid : Id}
    (hch : AMap.get c.st.channels lc = none) :
    leaveChannel c lc lcn tid = Res.panic "channel is nil" := by
  unfold leaveChannel
  simp only [getChan_eq, hch]

/-- last step of `leaveChannel`: the session indexed under `lcn` drops `lc` from its list, after
`lcn` has been removed from the member set of `lc` -/
theorem WInv_leaveFinish {st st' : St} {lc lcn : String} {tid : Id} {t : Session}
    (h : WInvCore st) (hm : ∀ x, x ≠ lcn → MemberOK st x) (hsk : MemberOKSkip st lcn lc)
    (hidx : AMap.get st.nicks lcn = some tid) (ht : AMap.get st.sessions tid = some t)
    (hgone : ∀ c, AMap.get st.channels lc = some c → lcn ∉ AMap.keys c.nicks)
    (hs : st'.sessions = AMap.set st.sessions tid { t with channels := t.channels.filter (· ≠ lc) })
    (hn : st'.nicks = st.nicks) (hc : st'.channels = st.channels) : WInv st' := by
  have hself : ∀ x, AMap.get st.nicks x = some tid → x = lcn := fun x hx => h.index_inj hx hidx
  refine ⟨h.setSession hs hn hc (h.sessId tid t ht).1 (nodup_filter_ne lc (h.sessId tid t ht).2)
      (fun x hx => h.index_get (s := t) hx ht) (h.owns tid t ht) (fun x lc2 c hx hg hmem => ?_),
    fun x => MemberOK.setSession hs hn hc (fun hx => hm x fun e => hx (e ▸ hidx)) (fun hx ch2 hch2 => ?_)⟩
  · refine mem_filter_ne.2 ⟨fun he => ?_, h.chanMember_get hg hmem hx ht⟩
    subst he
    exact hgone c hg (hself x hx ▸ hmem)
  · obtain rfl := hself x hx
    obtain ⟨hne, hmem⟩ := mem_filter_ne.1 hch2
    exact hsk tid t hx ht ch2 hmem hne

structure LeaveSpec (c c' : Ctx) (lc lcn : String) (tid : Id) : Prop where
  winv : WInv c'.st
  nonempty : ChansNonempty c.st → ChansNonempty c'.st
  frame : CtxFrame c c'
  nicks : c'.st.nicks = c.st.nicks
  keys : AMap.keys c'.st.sessions = AMap.keys c.st.sessions
  self : ∀ t, AMap.get c.st.sessions tid = some t →
    ∃ inv, AMap.get c'.st.sessions tid = some { t with invitedTo := inv, channels := t.channels.filter (· ≠ lc) }
  others : ∀ id s, id ≠ tid → AMap.get c.st.sessions id = some s →
    ∃ inv, AMap.get c'.st.sessions id = some { s with invitedTo := inv }
  chanOther : ∀ lc', lc' ≠ lc → AMap.get c'.st.channels lc' = AMap.get c.st.channels lc'

theorem LeaveSpec.stored {c c' : Ctx} {lc lcn : String} {tid : Id} (sp : LeaveSpec c c' lc lcn tid) {id : Id}
    {s' : Session} (hg : AMap.get c'.st.sessions id = some s') :
    ∃ s, AMap.get c.st.sessions id = some s ∧ s' = { s with invitedTo := s'.invitedTo, channels := s'.channels } := by
  cases hg0 : AMap.get c.st.sessions id with
  | none => rw [AMap.get_none_of_keys_eq sp.keys hg0] at hg; cases hg
  | some s =>
    refine ⟨s, rfl, ?_⟩
    by_cases hid : id = tid
    · obtain ⟨inv, h⟩ := sp.self s (hid ▸ hg0)
      rw [hid, h] at hg; cases hg; rfl
    · obtain ⟨inv, h⟩ := sp.others id s hid hg0
      rw [h] at hg; cases hg; rfl

theorem leaveChannel_spec {c c' : Ctx} {lc lcn : String} {tid : Id} (h : WInv c.st)
    (hidx : AMap.get c.st.nicks lcn = some tid) (hr : leaveChannel c lc lcn tid = Res.ok c') :
    LeaveSpec c c' lc lcn tid := by
  cases hch : AMap.get c.st.channels lc with
  | none => rw [leaveChannel_none hch] at hr; cases hr
  | some ch =>
    rw [leaveChannel_eq hch] at hr
    have hd := dropMember_spec (lcn := lcn) h.toWInvCore hch
    generalize dropMember c lc lcn ch = c1 at hr hd
    obtain ⟨t1, ht1, rfl⟩ := modS_eq_ok.1 hr
    have hcore1 := hd.core h.toWInvCore hch
    have hsess : (putS c1 { t1 with channels := t1.channels.filter (· ≠ lc) }).st.sessions
        = AMap.set c1.st.sessions tid { t1 with channels := t1.channels.filter (· ≠ lc) } :=
      congrArg (AMap.set c1.st.sessions · _) (hcore1.sessId tid t1 ht1).1
    refine ⟨?_, ?_, hd.frame.trans (CtxFrame.putS _ _), hd.nicks, ?_, ?_, ?_, ?_⟩
    · refine WInv_leaveFinish hcore1 (fun x hx => hd.member h.toWInvCore hch hx (h.member x))
        (hd.skip ((h.member lcn).skip lc)) (by rw [hd.nicks]; exact hidx) ht1
        (fun c2 hc2 => hd.shrink.gone hc2) hsess rfl rfl
    · intro hne
      exact (hd.chansNonempty (hne.but lc)).congr rfl
    · rw [hsess, AMap.keys_set_of_mem _ (AMap.mem_keys_of_get ht1)]; exact hd.sess.keys
    · intro t ht
      obtain ⟨inv, hinv⟩ := hd.sess.get tid t ht
      rw [ht1] at hinv; cases hinv
      exact ⟨inv, by rw [hsess]; exact AMap.get_set_same _ _ _⟩
    · intro id s hid hg
      obtain ⟨inv, hinv⟩ := hd.sess.get id s hg
      exact ⟨inv, by rw [hsess, AMap.get_set_other _ hid]; exact hinv⟩
    · intro lc' hne
      exact hd.shrink.other lc' hne

theorem leaveChannel_WInv {c c' : Ctx} {lc lcn : String} {tid : Id} (h : WInv c.st)
    (hidx : AMap.get c.st.nicks lcn = some tid) (hr : leaveChannel c lc lcn tid = Res.ok c') : WInv c'.st :=
  (leaveChannel_spec h hidx hr).winv

theorem leaveChannel_HInv {c c' : Ctx} {lc lcn : String} {tid : Id} (h : HInv c.st)
    (hidx : AMap.get c.st.nicks lcn = some tid) (hr : leaveChannel c lc lcn tid = Res.ok c') : HInv c'.st :=
  ⟨(leaveChannel_spec h.toWInv hidx hr).winv, (leaveChannel_spec h.toWInv hidx hr).nonempty h.nonempty⟩

theorem leaveChannel_ok {c : Ctx} {lc lcn : String} {tid : Id} {ch : Channel} {t : Session} (h : WInvCore c.st)
    (hch : AMap.get c.st.channels lc = some ch) (ht : AMap.get c.st.sessions tid = some t) :
    ∃ c', leaveChannel c lc lcn tid = Res.ok c' := by
  rw [leaveChannel_eq hch]
  obtain ⟨inv, hinv⟩ := (dropMember_spec (lcn := lcn) h hch).sess.get tid t ht
  exact ⟨_, modS_of_get _ hinv⟩

end Robust.Irc
