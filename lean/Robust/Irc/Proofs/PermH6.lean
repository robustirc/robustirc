import Robust.Irc.Proofs.PermH2
/-!
Order-independence, handlers 6: services handlers `cmdServerSvshold`, `cmdServerSvspart`,
`cmdServerSvsmode`, `cmdServerSvsnick`, `cmdServerSvsjoin`.
-/
namespace Robust.Irc
open Robust
attribute [local irreducible] IrcMsg.render emit sendUser sendSvc

theorem cmdServerSvshold_congr : HCongr cmdServerSvshold := by
  intro c c' sid m h
  unfold cmdServerSvshold
  refine getS_bind h sid (fun s chs inv hs => ?_)
  refine RRel.bind_same (fun p0 => ?_)
  apply RRel.ite
  · refine RRel.bind_same (fun p1 => ?_)
    split
    · exact .declined
    · apply RRel.ite
      · exact .declined
      · exact .ok (h.withSt (h.st.withSvsholds (h.st.svsholds.set _ rfl)))
  · exact .ok (h.withSt (h.st.withSvsholds (h.st.svsholds.erase _)))

theorem cmdServerSvspart_congr : HCongr cmdServerSvspart := by
  intro c c' sid m h
  unfold cmdServerSvspart
  refine RRel.bind_same (fun p0 => ?_)
  refine RRel.bind_same (fun channelname => ?_)
  simp only [h.st.get_nicks]
  split
  · refine RRel.bind_same (fun pn => ?_)
    ceqs
  · rename_i tid _
    rcases getChan_split h (chanToLower channelname) with ⟨h1, h2⟩ | ⟨ch, n, h1, h2, hch, hk⟩
    · simp only [h1, h2]
      refine RRel.bind_same (fun pn => ?_)
      ceqs
    · simp only [h1, h2, hch.contains_nicks]
      apply RRel.ite
      · refine RRel.bind_same (fun pn => ?_)
        ceqs
      · refine getS_bind h tid (fun t chs inv ht => ?_)
        refine RRel.bind (rcChannel_congr h.st hch) (fun rc rc' hrc => ?_)
        exact leaveChannel_congr (emit_congr h rfl (hrc.append (rcServices_perm h.st))) _ _ _

theorem svsmodeStep_congr (tid : Id) {c c' : Ctx} (h : CEq c c') (mc : ModeCmd) :
    RRel CEq (svsmodeStep tid c mc) (svsmodeStep tid c' mc) := by
  unfold svsmodeStep
  dsimp only
  apply RRel.ite
  · exact modS_congr_upd h tid _
  apply RRel.ite
  · exact modS_congr_upd h tid _
  · ceqs

theorem cmdServerSvsmode_congr : HCongr cmdServerSvsmode := by
  intro c c' sid m h
  rw [cmdServerSvsmode_eq, cmdServerSvsmode_eq]
  refine getS_bind h sid (fun s chs inv hs => ?_)
  refine RRel.bind_same (fun p0 => ?_)
  rw [h.st.get_nicks]
  split
  · ceqs
  · rename_i tid _
    refine RRel.bind_same (fun modestr => ?_)
    apply RRel.ite
    · ceqs
    · refine RRel.bind (foldlM_rrel_same _ (fun c c' a _ hc => svsmodeStep_congr tid hc a) h) (fun c1 c1' h1 => ?_)
      refine getS_bind h1 tid (fun t chs inv ht => ?_)
      ceqs

theorem svsnickTail_congr {c c' : Ctx} (h : CEq c c') (p0 p1 : String) (tid : Id) :
    RRel CEq (svsnickTail c p0 p1 tid) (svsnickTail c' p0 p1 tid) := by
  unfold svsnickTail
  refine getS_bind h tid (fun t chs inv ht => ?_)
  refine RRel.bind (modS_congr_upd h tid _) (fun c1 c1' h1 => ?_)
  have h2 := renameCtx_congr h1 tid (nickToLower p1) (nickToLower p0) (nickToLower p1 != nickToLower p0)
  refine RRel.bind (modS_congr_upd h2 tid updateIrcPrefix)
    (fun c3 c3' h3 => ?_)
  refine getS_bind h3 tid (fun t3 chs inv ht3 => ?_)
  refine RRel.bind (rcCommonChannels_congr h3.st ht3) (fun rc rc' hrc => ?_)
  exact .ok (emit_congr h3 rfl (((List.Perm.refl _).append hrc).append (rcServices_perm h3.st)))

theorem cmdServerSvsnick_congr : HCongr cmdServerSvsnick := by
  intro c c' sid m h
  rw [cmdServerSvsnick_eq, cmdServerSvsnick_eq]
  refine RRel.bind_same (fun p0 => ?_)
  refine RRel.bind_same (fun p1 => ?_)
  simp only [h.st.get_nicks]
  apply RRel.ite
  · ceqs
  split
  · ceqs
  split
  · apply RRel.ite
    · ceqs
    · exact svsnickTail_congr h _ _ _
  · exact svsnickTail_congr h _ _ _

theorem cmdServerSvsjoin_congr : HCongr cmdServerSvsjoin := by
  intro c c' sid m h
  unfold cmdServerSvsjoin
  refine RRel.bind_same (fun p0 => ?_)
  refine RRel.bind_same (fun channelname => ?_)
  simp -zeta only [h.st.get_nicks]
  extract_lets nick lc existed ch0 c1 chA cA existed' ch0' c1' chA' cA'
  obtain ⟨hch, hk⟩ : ChanEq ch0 ch0' ∧ chanToLower ch0.name = lc := getChanD_congr h channelname
  have hex : existed' = existed := (getChan_congr h _).isSome_eq.symm
  clear_value ch0 ch0' existed existed'
  subst hex
  have h1 : CEq c1 c1' := putChan_congr h lc hch hk
  have hchA : ChanEq chA chA' := hch.withNicks (hch.nicks.set nick rfl)
  have hA : CEq cA cA' := putChan_congr h1 lc hchA hk
  clear_value c1 c1' cA cA'
  split
  · refine RRel.bind_same (fun pn => ?_)
    ceqs
  · rename_i tid _
    apply RRel.ite
    · refine RRel.bind_same (fun pn => ?_)
      ceqs
    · rw [hch.contains_nicks, h.config, h.st.channels.length_eq]
      refine RRel.ite (RRel.bind_same (fun pn => by ceqs)) ?_
      apply RRel.ite
      · ceqs
      · refine RRel.bind (modS_congr hA tid (fun s s' hs => hs.withChannels (setInsert_perm hs.channels _))) (fun c2 c2' h2 => ?_)
        refine getS_bind h2 tid (fun t chs inv ht => ?_)
        refine RRel.bind (rcChannel_congr h2.st hchA) (fun rc rc' hrc => ?_)
        extract_lets c3 c4 c3' c4'
        ceq_let h3 c3 c3'
        ceq_let h4 c4 c4'
        refine RRel.bind (cmdTopic_congr _ _ _ _ h4) (fun c5 c5' h5 => ?_)
        exact cmdNames_congr _ _ _ _ h5
end Robust.Irc
