import Robust.Irc.Proofs.RcptPfx
import Robust.Irc.Proofs.StableEntry
/-!
Entry-level preservation of the identity invariant `PInv` (C12): a companion to `Entry.lean`.

Every handler in the table keeps `PInv` (`handler_ppres`); hence `processMessage` (`processMessage_pinv`) and one
committed entry (`applyEntry_pinv`) keep it, and every well-formed history keeps it together with `GInv`
(`GPInv`, `run_preserves_gp`).  `Pre` / `NI` of the context in which the handler is
called are taken from `Entry.lean` (`AddrRun.spec`), not re-proved.
-/
namespace Robust.Irc
open Robust AMap

theorem PInv.special {fname : String} {c : Ctx} {sid : Id} {m : IrcMsg} (hp : Pre c sid) (h : PInv c.st) :
    Special PInv fname c sid m where
  gline _ := fun _ h => h
  chanAny _ := SessAll.chanAny
  join _ := SessAll.newChan
  nick _ n _ e := PInv.nickUpd (by rw [e]; exact fun s hs => (hp.inv.sessId sid s hs).1) n
  svsnick _ tid n := PInv.nickUpd (fun s hs => (hp.inv.toWInvCore.sessId tid s hs).1) n
  login _ := fun _ _ _ _ => PInv.upd sid fun _ => ⟨rfl, rfl, rfl, rfl, rfl⟩
  oper _ _ := PInv.upd sid fun _ => ⟨rfl, rfl, rfl, rfl, rfl⟩
  pass _ := PInv.upd sid fun _ => ⟨rfl, rfl, rfl, rfl, rfl⟩
  user _ _ _ := PInv.upd_ok sid fun _ => PfxOK.update _
  server _ _ _ _ _ := PInv.upd_ok sid fun _ => PfxOK.of_server rfl
  serverNick _ := fun _ _ hcs hm => PInv.serverNick h hcs hm fun _ => PfxOK.update _

theorem handler_ppres {fname : String} {h : Handler} (hh : handlerByName fname = some h) : PPres h :=
  fun _ _ _ _ hp _ hu hr => (handler_stable PInv.stable hh (PInv.special hp hu) hu).apply hr

theorem processMessage_pinv {c c' : Ctx} {e : Entry} {im : Option IrcMsg} (hp : Pre c e.session) (hn : NI c.st)
    (hpi : PInv c.st) (hr : processMessage c e im = .ok c') : PInv c'.st :=
  processMessage_keeps (.stable PInv.stable) hpi (fun _ _ => .of_not id) (fun _ h => h)
    (fun _ k p1 =>
      have ⟨hp1, n1, _, hr⟩ := k.pre hp hn
      handler_ppres k.handler _ e.session _ c' hp1 n1 p1 hr) hr

theorem applyEntry_pinv (st st' : St) (e : Entry) (out : List Out) (h : GInv st) (hpi : PInv st)
    (he : EntryOk st e) (hr : applyEntry st e = .ok (st', out)) : PInv st' :=
  applyEntry_keeps (P := PInv) (fun h hu => h.updateLastClientMessageID hu) (fun h hcs => h.createSession hcs)
    (fun sid _ h hnd => SessAll.maybeDeleteSession sid h hnd) (fun _ h => h)
    (fun hp hn h hpm => processMessage_pinv hp hn h hpm) st st' e out h hpi he hr

structure GPInv (st : St) : Prop where
  ginv : GInv st
  pinv : PInv st

theorem GPInv_init : GPInv ({} : St) := ⟨GInv_init, PInv_init⟩

theorem applyEntry_preserves_gp (st st' : St) (e : Entry) (out : List Out) (h : GPInv st) (he : EntryOk st e)
    (hr : applyEntry st e = .ok (st', out)) : GPInv st' :=
  ⟨applyEntry_preserves st st' e out h.ginv he hr, applyEntry_pinv st st' e out h.ginv h.pinv he hr⟩

theorem run_preserves_gp {st st' : St} {es : List Entry} (h : GPInv st) (hw : WfHistory st es)
    (hr : runEntries st es = .ok st') : GPInv st' :=
  run_keeps (applyEntry_preserves_gp _ _ _ _) h hw hr

end Robust.Irc
