import Robust.Irc.Proofs.Stable
/-!
Frame relation for C10 / C16 / C17: what a handler run may do to

* the duplicate-detection marker `Session.lastClientMessageId` (nothing),
* the set of stored session ids (it only grows, and only by pseudo-client ids `⟨link, reply ≠ 0⟩`
  whose numeric part is that of a session that was already stored),
* the replicated configuration and `lastProcessed` (nothing).

`Frm st0 st` is phrased as a *predicate on the current state* `st` relative to a fixed base state
`st0`, so that it is one of the predicates the handlers' ordinary updates keep (`Stable.lean`).
It carries the two facts about the session map that make `modS`/`putS` frame-able without the
full invariant: sessions are stored under their own id, and the keys are duplicate-free.
-/
namespace Robust.Irc
open Robust AMap

/-- sessions are stored under their own id and the key list is duplicate-free
(both are conjuncts of `Inv`) -/
structure SessWf (st : St) : Prop where
  ids : ∀ id s, AMap.get st.sessions id = some s → s.id = id
  nodup : (AMap.keys st.sessions).Nodup

theorem SessWf_init : SessWf ({} : St) :=
  ⟨fun _ _ h => (by cases h), List.nodup_nil⟩

theorem SessWf.congr {st st' : St} (h : SessWf st) (hs : st'.sessions = st.sessions) : SessWf st' := by
  obtain ⟨a, b⟩ := h
  constructor <;> (rw [hs]; assumption)

/-- how the session stored under `id` in the current state relates to the base state `st0`:
either `id` was stored and carries the same marker, or it is a new pseudo-client (marker `0`,
`reply ≠ 0`, numeric id of a session that was stored) -/
def MarkRel (st0 : St) (id : Id) (s : Session) : Prop :=
  (∃ s0, AMap.get st0.sessions id = some s0 ∧ s.lastClientMessageId = s0.lastClientMessageId) ∨
  (AMap.get st0.sessions id = none ∧ s.lastClientMessageId = 0 ∧ id.reply ≠ 0 ∧
    ∃ k s0, AMap.get st0.sessions k = some s0 ∧ k.id = id.id)

/-- the marker part (everything but the configuration) -/
structure FrmM (st0 st : St) : Prop where
  wf : SessWf st
  mark : ∀ id s, AMap.get st.sessions id = some s → MarkRel st0 id s
  mono : ∀ id, AMap.get st.sessions id = none → AMap.get st0.sessions id = none
  lastProcessed : st.lastProcessed = st0.lastProcessed

structure Frm (st0 st : St) : Prop extends FrmM st0 st where
  config : st.config = st0.config

theorem Frm.refl {st : St} (h : SessWf st) : Frm st st :=
  ⟨⟨h, fun _ s hg => Or.inl ⟨s, hg, rfl⟩, fun _ hg => hg, rfl⟩, rfl⟩

theorem FrmM.idBase {st0 st : St} (h : FrmM st0 st) {k : Id} {s : Session}
    (hg : AMap.get st.sessions k = some s) : ∃ k0 s0, AMap.get st0.sessions k0 = some s0 ∧ k0.id = k.id := by
  rcases h.mark k s hg with ⟨s0, h0, _⟩ | ⟨_, _, _, hk⟩
  · exact ⟨k, s0, h0, rfl⟩
  · exact hk

theorem FrmM.congr_base {a b st : St} (h : FrmM a st) (hs : b.sessions = a.sessions)
    (hl : b.lastProcessed = a.lastProcessed) : FrmM b st := by
  obtain ⟨h1, h2, h3, h4⟩ := h
  refine ⟨h1, ?_, ?_, by rw [hl]; exact h4⟩
  · intro id s hg
    unfold MarkRel
    rw [hs]; exact h2 id s hg
  · intro id hg; rw [hs]; exact h3 id hg

theorem FrmM.trans {a b c : St} (h1 : FrmM a b) (h2 : FrmM b c) : FrmM a c := by
  refine ⟨h2.wf, ?_, fun id hg => h1.mono id (h2.mono id hg), h2.lastProcessed.trans h1.lastProcessed⟩
  intro id s hg
  rcases h2.mark id s hg with ⟨s1, hs1, e1⟩ | ⟨hn, e1, hr, k, s1, hk, hkid⟩
  · rcases h1.mark id s1 hs1 with ⟨s0, hs0, e0⟩ | ⟨hn0, e0, hr0, hk0⟩
    · exact Or.inl ⟨s0, hs0, e1.trans e0⟩
    · exact Or.inr ⟨hn0, e1.trans e0, hr0, hk0⟩
  · obtain ⟨k0, s0, hk0, hk0id⟩ := h1.idBase hk
    exact Or.inr ⟨h1.mono id hn, e1, hr, k0, s0, hk0, hk0id.trans hkid⟩

theorem Frm.trans {a b c : St} (h1 : Frm a b) (h2 : Frm b c) : Frm a c :=
  ⟨h1.toFrmM.trans h2.toFrmM, h2.config.trans h1.config⟩

theorem Frm.congr {st0 st st' : St} (h : Frm st0 st) (hs : st'.sessions = st.sessions)
    (hc : st'.config = st.config) (hl : st'.lastProcessed = st.lastProcessed) : Frm st0 st' := by
  obtain ⟨⟨h1, h2, h3, h4⟩, h5⟩ := h
  refine ⟨⟨h1.congr hs, ?_, ?_, hl.trans h4⟩, hc.trans h5⟩
  · intro id s hg; rw [hs] at hg; exact h2 id s hg
  · intro id hg; rw [hs] at hg; exact h3 id hg

theorem SessWf.set {st st' : St} (h : SessWf st) {k : Id} {v : Session} (hid : v.id = k)
    (hss : st'.sessions = AMap.set st.sessions k v) : SessWf st' := by
  refine ⟨?_, by rw [hss]; exact AMap.nodup_keys_set _ _ h.nodup⟩
  intro id t hg
  rw [hss, AMap.get_set] at hg
  split at hg
  · rename_i e; cases hg; rw [hid, e]
  · exact h.ids id t hg

theorem SessWf.map {st st' : St} (h : SessWf st) {f : Session → Session} (hf : ∀ s, (f s).id = s.id)
    (hss : st'.sessions = st.sessions.map fun e => (e.1, f e.2)) : SessWf st' := by
  refine ⟨?_, by rw [hss, AMap.keys_map_val st.sessions (fun e => f e.2)]; exact h.nodup⟩
  intro id t hg
  obtain ⟨s, hs, rfl⟩ := AMap.get_of_get_map_val (hss ▸ hg)
  rw [hf s]; exact h.ids id s hs

theorem Frm.setSession {st0 st st' : St} (h : Frm st0 st) {k : Id} {s v : Session}
    (hs : AMap.get st.sessions k = some s) (hid : v.id = k)
    (hm : v.lastClientMessageId = s.lastClientMessageId)
    (hss : st'.sessions = AMap.set st.sessions k v) (hc : st'.config = st.config)
    (hl : st'.lastProcessed = st.lastProcessed) : Frm st0 st' := by
  refine ⟨⟨h.wf.set hid hss, ?_, ?_, hl.trans h.lastProcessed⟩, hc.trans h.config⟩
  · intro id t hg
    rw [hss] at hg
    rcases AMap.get_of_get_set hg with ⟨rfl, rfl⟩ | ⟨_, hg⟩
    · rcases h.mark id s hs with ⟨s0, h0, e0⟩ | ⟨hn, e0, hr⟩
      · exact Or.inl ⟨s0, h0, hm.trans e0⟩
      · exact Or.inr ⟨hn, hm.trans e0, hr⟩
    · exact h.mark id t hg
  · intro id hg
    rw [hss, AMap.get_set] at hg
    split at hg
    · cases hg
    · exact h.mono id hg

theorem Frm.newSession {st0 st st' : St} (h : Frm st0 st) {k : Id} {v : Session}
    (hn : AMap.get st.sessions k = none) (hid : v.id = k) (hm : v.lastClientMessageId = 0)
    (hr : k.reply ≠ 0) (hk : ∃ k1 s1, AMap.get st.sessions k1 = some s1 ∧ k1.id = k.id)
    (hss : st'.sessions = AMap.set st.sessions k v) (hc : st'.config = st.config)
    (hl : st'.lastProcessed = st.lastProcessed) : Frm st0 st' := by
  refine ⟨⟨h.wf.set hid hss, ?_, ?_, hl.trans h.lastProcessed⟩, hc.trans h.config⟩
  · intro id t hg
    rw [hss] at hg
    rcases AMap.get_of_get_set hg with ⟨rfl, rfl⟩ | ⟨_, hg⟩
    · obtain ⟨k1, s1, hk1, hk1id⟩ := hk
      obtain ⟨k0, s0, hk0, hk0id⟩ := h.toFrmM.idBase hk1
      exact Or.inr ⟨h.mono id hn, hm, hr, k0, s0, hk0, hk0id.trans hk1id⟩
    · exact h.mark id t hg
  · intro id hg
    rw [hss, AMap.get_set] at hg
    split at hg
    · cases hg
    · exact h.mono id hg

theorem Frm.mapSessions {st0 st st' : St} (h : Frm st0 st) (f : Session → Session) (hf : MkKeep f)
    (hss : st'.sessions = st.sessions.map fun e => (e.1, f e.2)) (hc : st'.config = st.config)
    (hl : st'.lastProcessed = st.lastProcessed) : Frm st0 st' := by
  refine ⟨⟨h.wf.map (fun s => (hf s).1) hss, ?_, ?_, hl.trans h.lastProcessed⟩, hc.trans h.config⟩
  · intro id t hg
    obtain ⟨s, hs, rfl⟩ := AMap.get_of_get_map_val (hss ▸ hg)
    rcases h.mark id s hs with ⟨s0, h0, e0⟩ | ⟨hn, e0, hr⟩
    · exact Or.inl ⟨s0, h0, (hf s).2.trans e0⟩
    · exact Or.inr ⟨hn, (hf s).2.trans e0, hr⟩
  · intro id hg
    rw [hss, AMap.get_map_val] at hg
    cases hg0 : AMap.get st.sessions id with
    | none => exact h.mono id hg0
    | some s => rw [hg0] at hg; cases hg

/-- the frame relation to a fixed base state survives the handlers' ordinary updates: they keep the
id and the marker of every stored session, store no new session and leave `config` and
`lastProcessed` alone -/
theorem Frm.stable (st0 : St) : Stable (Frm st0) where
  congr h hs _ hc hl := h.congr hs hc hl
  setSession h hs hv := by
    have hk := (Session.kept_id hv).trans (h.wf.ids _ _ hs)
    exact h.setSession hs hk (Session.kept_marker hv) (by rw [hk]) rfl rfl
  mapSessions f h hf := h.mapSessions f (fun s => ⟨Session.kept_id (hf s), Session.kept_marker (hf s)⟩) rfl rfl rfl
  setChannel _ h _ _ := h.congr rfl rfl rfl
  eraseChannel _ h := h.congr rfl rfl rfl

theorem Frm.chanAny (st0 : St) : ChanAny (Frm st0) := ⟨fun _ h _ => h.congr rfl rfl rfl, fun _ h => h.congr rfl rfl rfl⟩

/-- nick, user name, prefix and the privilege flags are not read either -/
theorem Frm.upd {st0 : St} (tid : Id) {f : Session → Session} (hf : MkKeep f) : Upd (Frm st0) tid f := by
  intro c h c' hr
  obtain ⟨s, hs, rfl⟩ := modS_eq_ok.1 hr
  have hid : (f s).id = tid := (hf s).1.trans (h.wf.ids tid s hs)
  exact h.setSession hs hid (hf s).2 (by rw [putS_sessions, hid]) rfl rfl

theorem Frm.newChan (st0 : St) : NewChan (Frm st0) := fun _ _ h _ _ => h.congr rfl rfl rfl

theorem Frm.of_st {st0 : St} {c c' : Ctx} (h : Frm st0 c.st) (e : c'.st = c.st) : Frm st0 c'.st := by
  rw [e]; exact h

/-- a handler keeps the frame relation to an arbitrary base state (the acting session is one the
HTTP API can name: `reply = 0`; only the services `NICK` uses this, to see that the id of the
pseudo-client it creates has `reply ≠ 0`) -/
def FrmPres (h : Ctx → Id → IrcMsg → Res Ctx) : Prop :=
  ∀ st0 c sid m c', sid.reply = 0 → Frm st0 c.st → h c sid m = .ok c' → Frm st0 c'.st

end Robust.Irc
