import Robust.Irc.Proofs.FrmEntry
import Robust.Irc.Proofs.Priv
/-!
Origin of the two session privilege flags `Session.operator` (IRC operator) and `Session.server`
(services link), for C13.

`Flg O S st0 st` is a *predicate on the current state* `st` relative to a fixed base state `st0`
(the shape of `Frm`, `FrmBase.lean`: a predicate the handlers' ordinary updates keep, `Flg.stable`):

* every session stored in `st` with `operator = true` was stored under the same id with
  `operator = true` in `st0`, or its id is *permitted* to gain the flag (`O id`);
* the same for `server` and `S id`;
* the credential lists of the configuration (`operators`, `services`) are those of `st0`
  (GLINE changes `banned` only, so no handler is an exception here).

The permissions `O`, `S` are parameters: an ordinary handler keeps `Flg O S` for arbitrary `O`, `S`
(it sets no flag at all); `cmdOper` needs `O sid` *only if* the `(name, password)` pair of the
message is listed, `cmdServer` needs `S sid` *only if* the stored PASS is a configured services
password; `maybeLogin` (reached from `cmdNick`, `cmdUser`, `cmdPass`) needs `O sid` if the session is about to
register and the `oper=` part of its PASS string carries a listed pair (`Flg.operAtLogin`).  No services handler
sets a flag: the pseudo-client session the services `NICK` creates (`createSession`) has `operator = false` and
`server = false` (`Flg.serverNick`); pseudo-clients of a link are *not* marked `server` in the model (nor in
`scmd_nick.go`).  Instantiating `O`/`S` with the origin statement gives the theorems of `FlagOriginEntry.lean`.
-/
namespace Robust.Irc
open Robust AMap

/-- `Session.pass` after `PASS` (what `cmdPass` stores before it calls `maybeLogin`) -/
def passAfter (m : IrcMsg) (old : String) : String :=
  let pass := if m.params.length > 0 then joinStr " " m.params else old
  if !hasPrefix pass "nickserv=" && !hasPrefix pass "services=" && !hasPrefix pass "network=" &&
      !hasPrefix pass "oper=" && !hasPrefix pass "session=" && !hasPrefix pass "captcha=" then "nickserv=" ++ pass else pass

/-- how the handler registered as `fname`, run for the session `sid` on the state `st` with the
message `m`, can turn on the operator flag of `sid`:

* `cmdOper` with a listed pair;
* `cmdNick` / `cmdUser` completing the registration (`maybeLogin`) of a session whose stored PASS
  has an `oper=` part with a listed pair;
* `cmdPass` doing the same with the PASS string it has just stored. -/
def OperVia (fname : String) (st : St) (sid : Id) (m : IrcMsg) : Prop :=
  (fname = "cmdOper" ∧ operCreds st.config m = true) ∨
  ∃ s, AMap.get st.sessions sid = some s ∧ s.loggedIn = false ∧
    (((fname = "cmdNick" ∨ fname = "cmdUser") ∧ loginOperCreds st.config s.pass = true) ∨
     (fname = "cmdPass" ∧ loginOperCreds st.config (passAfter m s.pass) = true))

/-- how a handler can turn on the `server` flag of `sid`: `cmdServer`, the stored PASS being
`services=<configured services password>` -/
def ServerVia (fname : String) (st : St) (sid : Id) : Prop :=
  ∃ s, AMap.get st.sessions sid = some s ∧ fname = "cmdServer" ∧ servicesAuth st.config s.pass = true

structure Flg (O S : Id → Prop) (st0 st : St) : Prop where
  wf : SessWf st
  oper : ∀ id s, AMap.get st.sessions id = some s → s.operator = true →
    (∃ s0, AMap.get st0.sessions id = some s0 ∧ s0.operator = true) ∨ O id
  server : ∀ id s, AMap.get st.sessions id = some s → s.server = true →
    (∃ s0, AMap.get st0.sessions id = some s0 ∧ s0.server = true) ∨ S id
  ops : st.config.operators = st0.config.operators
  svc : st.config.services = st0.config.services

theorem Flg.refl {O S : Id → Prop} {st : St} (h : SessWf st) : Flg O S st st :=
  ⟨h, fun _ s hg ho => Or.inl ⟨s, hg, ho⟩, fun _ s hg ho => Or.inl ⟨s, hg, ho⟩, rfl, rfl⟩

theorem Flg.mono {O S O' S' : Id → Prop} {st0 st : St} (h : Flg O S st0 st)
    (hO : ∀ id, O id → O' id) (hS : ∀ id, S id → S' id) : Flg O' S' st0 st :=
  ⟨h.wf, fun id s hg ho => (h.oper id s hg ho).imp (fun x => x) (hO _), fun id s hg ho => (h.server id s hg ho).imp (fun x => x) (hS _),
    h.ops, h.svc⟩

theorem Flg.trans {O S : Id → Prop} {a b c : St} (h1 : Flg O S a b) (h2 : Flg O S b c) : Flg O S a c := by
  refine ⟨h2.wf, ?_, ?_, h2.ops.trans h1.ops, h2.svc.trans h1.svc⟩
  · intro id s hg ho
    rcases h2.oper id s hg ho with ⟨s1, hs1, ho1⟩ | hp
    · exact h1.oper id s1 hs1 ho1
    · exact Or.inr hp
  · intro id s hg ho
    rcases h2.server id s hg ho with ⟨s1, hs1, ho1⟩ | hp
    · exact h1.server id s1 hs1 ho1
    · exact Or.inr hp

theorem Flg.congr {O S : Id → Prop} {st0 st st' : St} (h : Flg O S st0 st) (hs : st'.sessions = st.sessions)
    (ho : st'.config.operators = st.config.operators) (hv : st'.config.services = st.config.services) :
    Flg O S st0 st' := by
  obtain ⟨h1, h2, h3, h4, h5⟩ := h
  refine ⟨h1.congr hs, ?_, ?_, ho.trans h4, hv.trans h5⟩
  · intro id s hg; rw [hs] at hg; exact h2 id s hg
  · intro id s hg; rw [hs] at hg; exact h3 id s hg

theorem Flg.congr_base {O S : Id → Prop} {a b st : St} (h : Flg O S a st) (hs : b.sessions = a.sessions)
    (ho : b.config.operators = a.config.operators) (hv : b.config.services = a.config.services) :
    Flg O S b st := by
  obtain ⟨h1, h2, h3, h4, h5⟩ := h
  refine ⟨h1, ?_, ?_, h4.trans ho.symm, h5.trans hv.symm⟩
  · intro id s hg hop; rw [hs]; exact h2 id s hg hop
  · intro id s hg hop; rw [hs]; exact h3 id s hg hop

def FlKeep (f : Session → Session) : Prop :=
  ∀ s, (f s).id = s.id ∧ (f s).operator = s.operator ∧ (f s).server = s.server

theorem Flg.setSession {O S : Id → Prop} {st0 st st' : St} (h : Flg O S st0 st) {k : Id} {s v : Session}
    (hs : AMap.get st.sessions k = some s) (hid : v.id = k)
    (hop : v.operator = true → s.operator = true ∨ O k) (hsv : v.server = true → s.server = true ∨ S k)
    (hss : st'.sessions = AMap.set st.sessions k v)
    (ho : st'.config.operators = st.config.operators) (hv : st'.config.services = st.config.services) :
    Flg O S st0 st' := by
  refine ⟨h.wf.set hid hss, ?_, ?_, ho.trans h.ops, hv.trans h.svc⟩
  · intro id t hg ht
    rw [hss] at hg
    rcases AMap.get_of_get_set hg with ⟨rfl, rfl⟩ | ⟨_, hg⟩
    · rcases hop ht with h1 | h1
      · exact h.oper id s hs h1
      · exact Or.inr h1
    · exact h.oper id t hg ht
  · intro id t hg ht
    rw [hss] at hg
    rcases AMap.get_of_get_set hg with ⟨rfl, rfl⟩ | ⟨_, hg⟩
    · rcases hsv ht with h1 | h1
      · exact h.server id s hs h1
      · exact Or.inr h1
    · exact h.server id t hg ht

theorem Flg.newSession {O S : Id → Prop} {st0 st st' : St} (h : Flg O S st0 st) {k : Id} {v : Session}
    (hid : v.id = k) (hop : v.operator = false) (hsv : v.server = false)
    (hss : st'.sessions = AMap.set st.sessions k v)
    (ho : st'.config.operators = st.config.operators) (hv : st'.config.services = st.config.services) :
    Flg O S st0 st' := by
  refine ⟨h.wf.set hid hss, ?_, ?_, ho.trans h.ops, hv.trans h.svc⟩
  · intro id t hg ht
    rw [hss, AMap.get_set] at hg
    split at hg
    · cases hg; rw [hop] at ht; cases ht
    · exact h.oper id t hg ht
  · intro id t hg ht
    rw [hss, AMap.get_set] at hg
    split at hg
    · cases hg; rw [hsv] at ht; cases ht
    · exact h.server id t hg ht

theorem Flg.modS_gen {O S : Id → Prop} {st0 : St} {c c' : Ctx} {tid : Id} {f : Session → Session}
    (h : Flg O S st0 c.st) (hr : Robust.Irc.modS c tid f = Res.ok c') (hid : ∀ s, (f s).id = s.id)
    (hop : ∀ s, AMap.get c.st.sessions tid = some s → (f s).operator = true → s.operator = true ∨ O tid)
    (hsv : ∀ s, AMap.get c.st.sessions tid = some s → (f s).server = true → s.server = true ∨ S tid) :
    Flg O S st0 c'.st := by
  obtain ⟨s, hs, rfl⟩ := modS_eq_ok.1 hr
  have hid' : (f s).id = tid := (hid s).trans (h.wf.ids tid s hs)
  exact h.setSession hs hid' (hop s hs) (hsv s hs) (by rw [putS_sessions, hid']) rfl rfl

theorem Flg.mapSessions {O S : Id → Prop} {st0 st st' : St} (h : Flg O S st0 st) (f : Session → Session)
    (hf : FlKeep f) (hss : st'.sessions = st.sessions.map fun e => (e.1, f e.2))
    (ho : st'.config.operators = st.config.operators) (hv : st'.config.services = st.config.services) :
    Flg O S st0 st' := by
  refine ⟨h.wf.map (fun s => (hf s).1) hss, ?_, ?_, ho.trans h.ops, hv.trans h.svc⟩
  · intro id t hg ht
    obtain ⟨s, hs, rfl⟩ := AMap.get_of_get_map_val (hss ▸ hg)
    exact h.oper id s hs (by rw [← (hf s).2.1]; exact ht)
  · intro id t hg ht
    obtain ⟨s, hs, rfl⟩ := AMap.get_of_get_map_val (hss ▸ hg)
    exact h.server id s hs (by rw [← (hf s).2.2]; exact ht)

theorem Flg.subSessions {O S : Id → Prop} {st0 st st' : St} (h : Flg O S st0 st) (hw : SessWf st')
    (hsub : ∀ id s, AMap.get st'.sessions id = some s → AMap.get st.sessions id = some s)
    (ho : st'.config.operators = st.config.operators) (hv : st'.config.services = st.config.services) :
    Flg O S st0 st' :=
  ⟨hw, fun id s hg => h.oper id s (hsub id s hg), fun id s hg => h.server id s (hsub id s hg),
    ho.trans h.ops, hv.trans h.svc⟩

/-- the handlers' ordinary updates set no privilege flag and leave the credential lists alone -/
theorem Flg.stable (O S : Id → Prop) (st0 : St) : Stable (Flg O S st0) where
  congr h hs _ hc _ := h.congr hs (by rw [hc]) (by rw [hc])
  setSession h hs hv := by
    have hk := (Session.kept_id hv).trans (h.wf.ids _ _ hs)
    exact h.setSession hs hk (fun ho => Or.inl (by rw [← Session.kept_operator hv]; exact ho))
      (fun ho => Or.inl (by rw [← Session.kept_server hv]; exact ho)) (by rw [hk]) rfl rfl
  mapSessions f h hf :=
    h.mapSessions f (fun s => ⟨Session.kept_id (hf s), Session.kept_operator (hf s), Session.kept_server (hf s)⟩)
      rfl rfl rfl
  setChannel _ h _ _ := h.congr rfl rfl rfl
  eraseChannel _ h := h.congr rfl rfl rfl

theorem Flg.chanAny (O S : Id → Prop) (st0 : St) : ChanAny (Flg O S st0) :=
  ⟨fun _ h _ => h.congr rfl rfl rfl, fun _ h => h.congr rfl rfl rfl⟩

/-- nick, user name, prefix are not read -/
theorem Flg.upd {O S : Id → Prop} {st0 : St} (tid : Id) {f : Session → Session} (hf : FlKeep f) :
    Upd (Flg O S st0) tid f :=
  fun _ h _ hr => h.modS_gen hr (fun s => (hf s).1) (fun s _ ho => Or.inl (by rw [← (hf s).2.1]; exact ho))
    (fun s _ ho => Or.inl (by rw [← (hf s).2.2]; exact ho))

theorem Flg.upd_oper {O S : Id → Prop} {st0 : St} {sid : Id} (hO : O sid) : Upd (Flg O S st0) sid operSession :=
  fun _ h _ hr => h.modS_gen hr (fun _ => rfl) (fun _ _ _ => Or.inr hO) (fun _ _ hv => Or.inl hv)

theorem Flg.upd_server {O S : Id → Prop} {st0 : St} {sid : Id} (hS : S sid) (p0 : String) :
    Upd (Flg O S st0) sid fun s => { s with server := true, ircPrefix := ⟨p0, "", ""⟩ } :=
  fun _ h _ hr => h.modS_gen hr (fun _ => rfl) (fun _ _ ho => Or.inl ho) (fun _ _ _ => Or.inr hS)

theorem Flg.operAtLogin {O S : Id → Prop} {st0 : St} {sid : Id} {c : Ctx}
    (hO : ∀ s, AMap.get c.st.sessions sid = some s → s.loggedIn = false →
      loginOperCreds c.st.config s.pass = true → O sid) : OperAtLogin (Flg O S st0) sid c :=
  fun s hs hli hc => Flg.upd_oper (hO s hs hli hc)


theorem Flg.serverNick {O S : Id → Prop} {st0 : St} {c c2 : Ctx} {s : Session} {p0 : String} {st1 : St}
    {f : Session → Session} (h : Flg O S st0 c.st)
    (hcs : createSession c.st ⟨s.id.id, fnv64 p0⟩ "" s.lastActivity = some st1)
    (hm : modS { c with st := st1 } ⟨s.id.id, fnv64 p0⟩ f = .ok c2) (hf : FlKeep f) :
    Flg O S st0 c2.st := by
  have n1 : Flg O S st0 st1 := by
    rw [createSession_eq hcs]
    exact Flg.newSession (k := ⟨s.id.id, fnv64 p0⟩)
      (v := { id := ⟨s.id.id, fnv64 p0⟩, auth := "", created := s.lastActivity, lastActivity := s.lastActivity,
              lastNonPing := s.lastActivity, svid := "0" }) h rfl rfl rfl rfl rfl rfl
  exact (Flg.upd _ hf (c := { c with st := st1 }) n1).apply hm

theorem Flg.newChan (O S : Id → Prop) (st0 : St) : NewChan (Flg O S st0) := fun _ _ h _ _ => h.congr rfl rfl rfl

theorem Flg.of_st {O S : Id → Prop} {st0 : St} {c c' : Ctx} (h : Flg O S st0 c.st) (e : c'.st = c.st) :
    Flg O S st0 c'.st := by
  rw [e]; exact h

/-- brute-force walk through a handler whose leaves are output / `putChan` on top of a context `c`
with `h : Flg O S st0 c.st`: `flg_auto hr h` -/
macro "flg_auto" hr:ident h:ident : tactic =>
  `(tactic| repeat' (first
      | split at $hr:ident
      | (obtain ⟨_, _, $hr:ident⟩ := Res.bind_eq_ok.1 $hr:ident)
      | dsimp only at $hr:ident
      | (cases $hr:ident <;> first | exact $h:ident | exact Flg.congr $h:ident rfl rfl rfl)))

end Robust.Irc
