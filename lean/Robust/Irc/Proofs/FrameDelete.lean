import Robust.Irc.Proofs.FrameLeave
/-!
`deleteSession`: drop the session's nick from every channel (deleting emptied channels),
unindex it, flag it deleted.
-/
namespace Robust.Irc
open Robust AMap

/-- one iteration of the loop over the channels in `deleteSession` -/
def delStep (lcn : String) (c : Ctx) (e : String × Channel) : Ctx :=
  match getChan c e.1 with
  | none => c
  | some ch => dropMember c e.1 lcn ch

theorem deleteSession_eq {c : Ctx} {sid : Id} {s : Session} (hs : AMap.get c.st.sessions sid = some s) :
    deleteSession c sid =
      modS { (c.st.channels.foldl (delStep (nickToLower s.nick)) c) with
              st := { (c.st.channels.foldl (delStep (nickToLower s.nick)) c).st with
                nicks := AMap.erase (c.st.channels.foldl (delStep (nickToLower s.nick)) c).st.nicks (nickToLower s.nick) } }
        sid fun s => { s with deleted := true } := by
  unfold deleteSession
  rw [getS_of_get hs]
  rfl

theorem deleteSession_none {c : Ctx} {sid : Id} (hs : AMap.get c.st.sessions sid = none) :
    deleteSession c sid = Res.panic "nil session" := by
  unfold deleteSession getS
  rw [hs]
  rfl

/-- loop invariant; `rest` = keys of the channels still to be visited -/
structure DelInv (lcn : String) (c0 c : Ctx) (rest : List String) : Prop where
  core : WInvCore c.st
  member : ∀ x, x ≠ lcn → MemberOK c.st x
  nicks : c.st.nicks = c0.st.nicks
  sess : SessUpTo c0.st.sessions c.st.sessions
  frame : CtxFrame c0 c
  pending : ∀ lc ch, AMap.get c.st.channels lc = some ch → lcn ∈ AMap.keys ch.nicks → lc ∈ rest
  nonempty : ChansNonempty c0.st → ChansNonempty c.st

theorem DelInv.init {c : Ctx} (lcn : String) (h : WInv c.st) : DelInv lcn c c (AMap.keys c.st.channels) :=
  ⟨h.toWInvCore, fun x _ => h.member x, rfl, SessUpTo.refl _, CtxFrame.refl _,
   fun _ _ hg _ => AMap.mem_keys_of_get hg, fun hne => hne⟩

theorem DelInv.step {lcn : String} {c0 c : Ctx} {e : String × Channel} {rest : List String}
    (h : DelInv lcn c0 c (e.1 :: rest)) : DelInv lcn c0 (delStep lcn c e) rest := by
  unfold delStep
  simp only [getChan_eq]
  cases hch : AMap.get c.st.channels e.1 with
  | none =>
    refine ⟨h.core, h.member, h.nicks, h.sess, h.frame, fun lc ch hg hmem => ?_, h.nonempty⟩
    rcases List.mem_cons.1 (h.pending lc ch hg hmem) with h1 | h1
    · subst h1; rw [hch] at hg; cases hg
    · exact h1
  | some ch =>
    have hd := dropMember_spec (lcn := lcn) h.core hch
    refine ⟨hd.core h.core hch, fun x hx => hd.member h.core hch hx (h.member x hx), hd.nicks.trans h.nicks,
      h.sess.trans hd.sess, h.frame.trans hd.frame, fun lc ch2 hg hmem => ?_, fun hne => ?_⟩
    · by_cases hlc : lc = e.1
      · subst hlc; exact absurd hmem (hd.shrink.gone hg)
      · rw [hd.shrink.other lc hlc] at hg
        rcases List.mem_cons.1 (h.pending lc ch2 hg hmem) with h1 | h1
        · exact absurd h1 hlc
        · exact h1
    · exact hd.chansNonempty ((h.nonempty hne).but e.1)

theorem DelInv.foldl {lcn : String} {c0 : Ctx} : ∀ (l : List (String × Channel)) (c : Ctx),
    DelInv lcn c0 c (l.map (·.1)) → DelInv lcn c0 (l.foldl (delStep lcn) c) []
  | [], _, h => h
  | e :: t, c, h => by
    simp only [List.foldl_cons]
    exact DelInv.foldl t _ (DelInv.step (by simpa using h))

/-- last two steps of `deleteSession`: unindex `lcn`, flag the session -/
theorem WInv_delFinish {st st' : St} {lcn : String} {sid : Id} {s s' : Session}
    (h : WInvCore st) (hss : st'.sessions = AMap.set st.sessions sid s') (hn : st'.nicks = AMap.erase st.nicks lcn)
    (hc : st'.channels = st.channels) (hm : ∀ x, x ≠ lcn → MemberOK st x)
    (hs : AMap.get st.sessions sid = some s) (hlow : nickToLower s.nick = lcn)
    (hgone : ∀ lc c, AMap.get st.channels lc = some c → lcn ∉ AMap.keys c.nicks)
    (hpre : ∀ id', AMap.get st.nicks lcn = some id' → id' ≠ sid → lcn = "")
    (hid : s'.id = s.id) (hchs : s'.channels = s.channels) (hdel : s'.deleted = true) : WInv st' := by
  have hself : ∀ x, AMap.get st.nicks x = some sid → x = lcn := fun x hx => (h.index_get hx hs).2.symm.trans hlow
  have hget : ∀ {id t}, id ≠ sid → AMap.get st.sessions id = some t → AMap.get st'.sessions id = some t :=
    fun hne hg => by rw [hss, AMap.get_set_other _ hne]; exact hg
  have hread : ∀ {x id}, AMap.get st'.nicks x = some id → x ≠ lcn ∧ id ≠ sid ∧ AMap.get st.nicks x = some id := by
    intro x id hi
    rw [hn] at hi
    obtain ⟨hx, hi⟩ := AMap.get_of_get_erase hi
    exact ⟨hx, fun he => hx (hself x (he ▸ hi)), hi⟩
  refine ⟨⟨by rw [hss]; exact AMap.nodup_keys_set _ _ h.sessNodup, by rw [hn]; exact AMap.nodup_keys_erase _ h.nickNodup,
    by rw [hc]; exact h.chanNodup, ?_, ?_, ?_, ?_⟩, ?_⟩
  · intro id x hg
    rw [hss] at hg
    rcases AMap.get_of_get_set hg with ⟨rfl, rfl⟩ | ⟨_, hg⟩
    · rw [hid, hchs]; exact h.sessId id s hs
    · exact h.sessId id x hg
  · intro id x hg hl hnn
    rw [hss] at hg
    rcases AMap.get_of_get_set hg with ⟨rfl, rfl⟩ | ⟨hne, hg⟩
    · rw [hdel] at hl; cases hl
    · have ho := h.owns id x hg hl hnn
      have hx : nickToLower x.nick ≠ lcn := fun he =>
        hnn (nickToLower_eq_empty.1 (he.trans (hpre id (he ▸ ho) hne)))
      rw [hn, AMap.get_erase_other hx]; exact ho
  · intro x id hi
    obtain ⟨_, hne, hi⟩ := hread hi
    obtain ⟨s0, hg0, hl⟩ := h.index x id hi
    exact ⟨s0, hget hne hg0, hl⟩
  · intro lc c hg
    rw [hc] at hg
    obtain ⟨a, b, d⟩ := h.chans lc c hg
    refine ⟨a, b, fun n hn' => ?_⟩
    have hnl : n ≠ lcn := fun he => hgone lc c hg (he ▸ hn')
    obtain ⟨id, s0, h1, h2, h3⟩ := d n hn'
    exact ⟨id, s0, by rw [hn, AMap.get_erase_other hnl]; exact h1, hget (fun he => hnl (hself n (he ▸ h1))) h2, h3⟩
  · intro x id s0 hi hg
    obtain ⟨hx, hne, hi⟩ := hread hi
    rw [hss, AMap.get_set_other _ hne] at hg
    rw [hc]
    exact hm x hx id s0 hi hg

/-- precondition of `deleteSession c sid` on the stored session `s`: it matters only for a
session that is already flagged deleted — then its former nick must not have been re-taken -/
def DelPre (st : St) (s : Session) : Prop :=
  s.deleted = true → s.nick ≠ "" → AMap.get st.nicks (nickToLower s.nick) = none

theorem DelPre.of_live {st : St} {s : Session} (h : s.deleted = false) : DelPre st s := by
  intro hd; rw [h] at hd; cases hd

structure DelSpec (c c' : Ctx) (sid : Id) (s : Session) : Prop where
  winv : WInv c'.st
  nonempty : ChansNonempty c.st → ChansNonempty c'.st
  frame : CtxFrame c c'
  nicks : c'.st.nicks = AMap.erase c.st.nicks (nickToLower s.nick)
  keys : AMap.keys c'.st.sessions = AMap.keys c.st.sessions
  self : ∃ inv, AMap.get c'.st.sessions sid = some { s with invitedTo := inv, deleted := true }
  others : ∀ id t, id ≠ sid → AMap.get c.st.sessions id = some t →
    ∃ inv, AMap.get c'.st.sessions id = some { t with invitedTo := inv }
  gone : ∀ lc ch, AMap.get c'.st.channels lc = some ch → nickToLower s.nick ∉ AMap.keys ch.nicks

theorem DelSpec.stored {c c' : Ctx} {sid : Id} {s : Session} (sp : DelSpec c c' sid s)
    (hs : AMap.get c.st.sessions sid = some s) {id : Id} {t' : Session} (hg : AMap.get c'.st.sessions id = some t') :
    ∃ t, AMap.get c.st.sessions id = some t ∧ t' = { t with invitedTo := t'.invitedTo, deleted := t'.deleted } ∧
      (id ≠ sid → t'.deleted = t.deleted) := by
  cases hg0 : AMap.get c.st.sessions id with
  | none => rw [AMap.get_none_of_keys_eq sp.keys hg0] at hg; cases hg
  | some t =>
    refine ⟨t, rfl, ?_⟩
    by_cases hid : id = sid
    · obtain ⟨inv, h⟩ := sp.self
      subst hid
      rw [hs] at hg0; cases hg0
      rw [h] at hg; cases hg
      exact ⟨rfl, fun hne => absurd rfl hne⟩
    · obtain ⟨inv, h⟩ := sp.others id t hid hg0
      rw [h] at hg; cases hg
      exact ⟨rfl, fun _ => rfl⟩

theorem deleteSession_spec {c c' : Ctx} {sid : Id} {s : Session} (h : WInv c.st)
    (hs : AMap.get c.st.sessions sid = some s) (hpre : DelPre c.st s)
    (hr : deleteSession c sid = Res.ok c') : DelSpec c c' sid s := by
  rw [deleteSession_eq hs] at hr
  have hfold := DelInv.foldl (lcn := nickToLower s.nick) c.st.channels c (DelInv.init _ h)
  generalize c.st.channels.foldl (delStep (nickToLower s.nick)) c = c1 at hr hfold
  obtain ⟨s1, hs1, hc'⟩ := modS_eq_ok.1 hr
  change AMap.get c1.st.sessions sid = some s1 at hs1
  obtain ⟨inv, hinv⟩ := hfold.sess.get sid s hs
  rw [hs1] at hinv; cases hinv
  have hss : c'.st.sessions = AMap.set c1.st.sessions sid { s with invitedTo := inv, deleted := true } := by
    rw [hc']; exact congrArg (AMap.set c1.st.sessions · _) (h.sessId sid s hs).1
  have hn : c'.st.nicks = AMap.erase c1.st.nicks (nickToLower s.nick) := by rw [hc']; rfl
  have hc : c'.st.channels = c1.st.channels := by rw [hc']; rfl
  have hgone : ∀ lc ch, AMap.get c1.st.channels lc = some ch → nickToLower s.nick ∉ AMap.keys ch.nicks :=
    fun lc ch hg hmem => by cases hfold.pending lc ch hg hmem
  have hpre' : ∀ id', AMap.get c1.st.nicks (nickToLower s.nick) = some id' → id' ≠ sid → nickToLower s.nick = "" := by
    intro id' hi hne
    rw [hfold.nicks] at hi
    by_cases hnn : s.nick = ""
    · rw [hnn]; exact nickToLower_empty
    · cases hdl : s.deleted with
      | false => rw [h.owns sid s hs hdl hnn] at hi; cases hi; exact absurd rfl hne
      | true => rw [hpre hdl hnn] at hi; cases hi
  refine ⟨WInv_delFinish hfold.core hss hn hc hfold.member hs1 rfl hgone hpre' rfl rfl rfl,
    fun hne => (hfold.nonempty hne).congr hc, ?_, by rw [hn, hfold.nicks], ?_, ⟨inv, by rw [hss]; exact AMap.get_set_same ..⟩,
    fun id t hid hg => ?_, by rw [hc]; exact hgone⟩
  · rw [hc']; exact hfold.frame.trans ⟨rfl, rfl, rfl, rfl, rfl, rfl, rfl, rfl⟩
  · rw [hss, AMap.keys_set_of_mem _ (AMap.mem_keys_of_get hs1)]; exact hfold.sess.keys
  · obtain ⟨inv', hinv'⟩ := hfold.sess.get id t hg
    exact ⟨inv', by rw [hss, AMap.get_set_other _ hid]; exact hinv'⟩

theorem deleteSession_WInv {c c' : Ctx} {sid : Id} {s : Session} (h : WInv c.st)
    (hs : AMap.get c.st.sessions sid = some s) (hpre : DelPre c.st s)
    (hr : deleteSession c sid = Res.ok c') : WInv c'.st :=
  (deleteSession_spec h hs hpre hr).winv

theorem deleteSession_HInv {c c' : Ctx} {sid : Id} {s : Session} (h : HInv c.st)
    (hs : AMap.get c.st.sessions sid = some s) (hpre : DelPre c.st s)
    (hr : deleteSession c sid = Res.ok c') : HInv c'.st :=
  ⟨(deleteSession_spec h.toWInv hs hpre hr).winv, (deleteSession_spec h.toWInv hs hpre hr).nonempty h.nonempty⟩

theorem deleteSession_ok {c : Ctx} {sid : Id} {s : Session} (h : WInv c.st)
    (hs : AMap.get c.st.sessions sid = some s) : ∃ c', deleteSession c sid = Res.ok c' := by
  rw [deleteSession_eq hs]
  have hfold := DelInv.foldl (lcn := nickToLower s.nick) c.st.channels c (DelInv.init _ h)
  obtain ⟨inv, hinv⟩ := hfold.sess.get sid s hs
  exact ⟨_, modS_of_get _ hinv⟩

/-- the "deleted sessions are unindexed" side condition is itself preserved by `deleteSession`
(for loops that delete several sessions, e.g. `cmdServerQuit`) -/
theorem deleteSession_delPre {c c' : Ctx} {sid : Id} {s : Session} (h : WInv c.st)
    (hs : AMap.get c.st.sessions sid = some s) (hpre : DelPre c.st s)
    (hr : deleteSession c sid = Res.ok c')
    (hall : ∀ id t, AMap.get c.st.sessions id = some t → DelPre c.st t) :
    ∀ id t, AMap.get c'.st.sessions id = some t → DelPre c'.st t := by
  have sp := deleteSession_spec h hs hpre hr
  intro id t' hg hd hnn
  obtain ⟨t, ht, e, hdel⟩ := sp.stored hs hg
  have hnick : t'.nick = t.nick := by rw [e]
  rw [sp.nicks, hnick, AMap.get_erase]
  split
  · rfl
  · rename_i hne
    by_cases hid : id = sid
    · subst hid
      rw [hs] at ht; cases ht
      exact absurd rfl hne
    · exact hall id t ht (by rw [← hdel hid]; exact hd) (by rw [← hnick]; exact hnn)

end Robust.Irc
