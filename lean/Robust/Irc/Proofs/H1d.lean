import Robust.Irc.Proofs.H1a
import Robust.Irc.Proofs.H2b
import Robust.Irc.Proofs.H2d
import Robust.Irc.Proofs.H2e
/-!
Handler proofs, group 1 — part d: `joinOne`, `joinLoop`, `cmdJoin`.
`joinOne` ends with the announcements (`joinAnnounce`: the `JOIN` and `SJOIN` lines, then `cmdMode`, `cmdTopic` and
`cmdNames` for the channel joined), which only append output and do not panic for a member: `joinAnnounce_wp`
(`H2e`).  The mid-state `CMid` has to be carried up to that point only (`joinTail_wp`).
-/
namespace Robust.Irc
open AMap

theorem preservesPre_iff {h : Ctx → Id → IrcMsg → Res Ctx} :
    PreservesPre h ↔ Preserves h ∧
      (∀ c sid m c', Pre c sid → h c sid m = .ok c' →
        ∀ id s, AMap.get c'.st.sessions id = some s → s.deleted = false) := by
  constructor
  · intro hh
    exact ⟨hh.preserves, fun c sid m c' hp hr => (hh c sid m c' hp hr).1.inv.noDeleted⟩
  · rintro ⟨h1, h2⟩ c sid m c' hp hr
    have po := h1 c sid m c' hp hr
    exact ⟨⟨⟨po.hinv, h2 c sid m c' hp hr⟩, po.linv, po.actorKept, hp.reply0⟩, po.outStep⟩

/-- `Pre` without the actor, and with channel `lc` possibly (still) empty -/
structure JPre (c : Ctx) (sid : Id) (lc : String) : Prop where
  winv : WInv c.st
  but : ChansNonemptyBut c.st lc
  live : ∀ id s, AMap.get c.st.sessions id = some s → s.deleted = false
  linv : LInv c.st
  reply0 : sid.reply = 0

theorem Pre.jpre {c : Ctx} {sid : Id} (hp : Pre c sid) (lc : String) : JPre c sid lc :=
  ⟨hp.inv.toWInv, hp.inv.nonempty.but lc, hp.inv.noDeleted, hp.linv, hp.reply0⟩

theorem JPre.pre {c : Ctx} {sid : Id} {lc : String} (h : JPre c sid lc) (hne : ChansNonempty c.st)
    (ha : ∃ s, AMap.get c.st.sessions sid = some s) : Pre c sid :=
  ⟨⟨⟨h.winv, hne⟩, h.live⟩, h.linv, ha, h.reply0⟩

theorem joinAdmit_spec {c c1 : Ctx} {sid : Id} {s : Session} {chn key : String} {mm : Option (Option IrcMsg)}
    (hp : Pre c sid) (hr : joinAdmit c sid s chn key = .ok (c1, mm)) :
    OutStep c c1 ∧ c1.st.sessions = c.st.sessions ∧
    ((mm = none ∧ c1.st = c.st) ∨
     (∃ m, mm = some m ∧ JPre c1 sid (chanToLower chn) ∧
        ∃ ch, AMap.get c1.st.channels (chanToLower chn) = some ch)) := by
  refine Res.Sat.apply (P := fun r : Ctx × Option (Option IrcMsg) => OutStep c r.1 ∧ r.1.st.sessions = c.st.sessions ∧
    ((r.2 = none ∧ r.1.st = c.st) ∨ ∃ m, r.2 = some m ∧ JPre r.1 sid (chanToLower chn) ∧
      ∃ ch, AMap.get r.1.st.channels (chanToLower chn) = some ch)) ?_ hr
  refine joinAdmit_cases (Q := fun r => r.Sat _) (fun _ => .ok ⟨(OutStep.refl c).sendUser _ _, rfl, .inl ⟨rfl, rfl⟩⟩)
    (fun hnone _ => .ok ⟨(OutStep.refl c).frame (.putChan _ _ _), rfl, .inr ⟨_, rfl, ?_, _, AMap.get_set_same ..⟩⟩)
    (fun ch hch => .ok ⟨.refl _, rfl, .inr ⟨_, rfl, hp.jpre _, ch, hch⟩⟩) fun _ => .declined _
  exact ⟨WInv_putChan_new hp.inv.toWInv hnone rfl rfl, ChansNonemptyBut_putChan _ _ (hp.inv.nonempty.but _),
    hp.inv.noDeleted, hp.linv.putChan _ _, hp.reply0⟩

theorem joinAdmit_noPanic (c : Ctx) (sid : Id) (s : Session) (chn key : String) :
    NoPanic (joinAdmit c sid s chn key) :=
  joinAdmit_cases (Q := NoPanic) (fun _ => .ok _) (fun _ _ => .ok _) (fun _ _ => .ok _) fun _ => .declined _

/-- the optional "invites are only valid once" update -/
theorem joinInvite_spec {c c2 : Ctx} {sid : Id} {lc : String} {b : Bool} (hj : JPre c sid lc)
    (h2 : (if b = true then modS c sid fun s => { s with invitedTo := s.invitedTo.filter (· ≠ lc) } else pure c)
      = .ok c2) :
    JPre c2 sid lc ∧ CtxFrame c c2 ∧ (NI c.st → NI c2.st) ∧ c2.st.channels = c.st.channels ∧
      SessUpTo c.st.sessions c2.st.sessions := by
  cases b with
  | false =>
    cases h2
    exact ⟨hj, .refl _, id, rfl, .refl _⟩
  | true =>
    simp only [↓reduceIte] at h2
    have hw : WInv c2.st := WInv_modS_inert _ (by intro _; exact ⟨rfl, rfl, rfl, rfl⟩) hj.winv h2
    have hn : NI c.st → NI c2.st := fun hn => hn.modS_keep h2 fun _ => ⟨rfl, rfl⟩
    have hf := CtxFrame.modS h2
    obtain ⟨t, ht, rfl⟩ := modS_eq_ok.1 h2
    have hu : SessUpTo c.st.sessions (AMap.set c.st.sessions sid { t with invitedTo := t.invitedTo.filter (· ≠ lc) }) :=
      ⟨AMap.keys_set_of_mem _ (AMap.mem_keys_of_get ht), fun id s hg => by
        rw [AMap.get_set]
        split
        · rename_i he; subst he; cases ht.symm.trans hg; exact ⟨_, rfl⟩
        · exact ⟨_, hg⟩⟩
    rw [← (hj.winv.sessId sid t ht).1] at hu
    exact ⟨⟨hw, hj.but, fun id s' hg => let ⟨s, hs, e⟩ := hu.bwd hg; by rw [e]; exact hj.live id s hs,
      hj.linv.sessUpTo hu, hj.reply0⟩, hf, hn, rfl, hu⟩

theorem joinAdd_spec {c c' : Ctx} {sid : Id} {s : Session} {lc : String} {ch : Channel} {mem : Member}
    (hj : JPre c sid lc) (hs : AMap.get c.st.sessions sid = some s) (hl : s.loggedIn = true)
    (hch : AMap.get c.st.channels lc = some ch)
    (hr : modS (putChan c lc { ch with nicks := AMap.set ch.nicks (nickToLower s.nick) mem }) sid
            (fun t => { t with channels := setInsert t.channels lc }) = .ok c') :
    Pre c' sid ∧ (NI c.st → NI c'.st) ∧
      AddSpec c c' sid lc { ch with nicks := AMap.set ch.nicks (nickToLower s.nick) mem } := by
  have hidx := hj.winv.owns sid s hs (hj.live sid s hs) (hj.linv sid s hs hl)
  have sp := addMember_spec hj.winv hidx (Or.inl hch) hr
  exact ⟨⟨⟨⟨sp.winv, sp.nonempty hj.but⟩, sp.live hj.live⟩, sp.linv hj.linv, ⟨_, sp.get_self hs⟩, hj.reply0⟩,
    fun hn => hn.addMember hj.winv.toWInvCore hidx (Or.inl hch) (fun e => nomatch hch.symm.trans e) hr, sp⟩

variable {G : Prop}

theorem joinAdmit_ni {c c1 : Ctx} {sid : Id} {s : Session} {chn key : String} {mm : Option (Option IrcMsg)}
    (h : NI c.st) (hvalid : isValidChannel chn = true) (hr : joinAdmit c sid s chn key = .ok (c1, mm)) :
    NI c1.st :=
  joinAdmit_cases (Q := fun r => r.Sat fun x => NI x.1.st) (fun _ => .ok h) (fun _ _ => .ok (h.putChan _ hvalid))
    (fun _ _ => .ok h) (fun _ => .declined _) _ hr

/-- after the admission phase: `JPre` only (the channel may have been created and be empty still) -/
theorem joinTail_wp {c0 c : Ctx} {sid : Id} {s : Session} {chn : String} {ex : Bool} {mm : Option IrcMsg}
    (hj : JPre c sid (chanToLower chn)) (ho : OutStep c0 c) (hn : NI c0.st → NI c.st)
    (hs : AMap.get c.st.sessions sid = some s) (hl : s.loggedIn = true)
    (hex : ∃ ch, AMap.get c.st.channels (chanToLower chn) = some ch) :
    (joinTail c sid s chn ex mm).Wp G fun c' => CMid c0 c' sid ∧ Reg c' sid := by
  obtain ⟨ch, hch⟩ := hex
  unfold joinTail
  dsimp only
  rw [getChan_eq, hch]
  dsimp only
  refine .bind (.returns fun _ => ?_) fun c2 h2 _ => ?_
  · split
    · exact ⟨_, modS_of_get _ hs⟩
    · exact ⟨_, rfl⟩
  obtain ⟨hj2, f2, n2, hch2, hu2⟩ := joinInvite_spec hj h2
  obtain ⟨inv, hs2⟩ := hu2.get sid s hs
  have ho2 : OutStep c0 c2 := ho.frame f2
  rw [← hch2] at hch
  refine .ite (fun hcont => .pure ⟨⟨hj2.pre (fun lc' c3 hg => ?_) ⟨_, hs2⟩, ho2, fun h0 => n2 (hn h0)⟩, _, hs2, hl⟩)
    fun _ => ?_
  · -- the actor is a member already, so the channel is not empty
    by_cases he : lc' = chanToLower chn
    · subst he
      rw [hch] at hg; cases hg
      exact (contains_iff_get.1 hcont).elim fun _ => ne_nil_of_get
    · exact hj2.but lc' c3 he hg
  · refine .bind (modS_wp (c := putChan c2 _ _) _ fun _ => ⟨_, hs2⟩) fun c3 h3 _ => ?_
    obtain ⟨hp3, n3, sp⟩ := joinAdd_spec hj2 hs2 hl hch h3
    have hs3 := sp.get_self hs2
    refine (joinAnnounce_wp (fun _ => .of_pre hp3 hs3 hl) fun _ => hp3.inv.toWInvCore.membersIndexed sp.chan).mono fun _ e => ?_
    rw [← e.st] at hs3
    exact ⟨CMid.of_st ⟨hp3, ho2.frame sp.frame, fun h0 => n3 (n2 (hn h0))⟩ e.st ⟨e.out, e.msgid⟩, _, hs3, hl⟩

theorem joinOne_wp {c0 c : Ctx} {sid : Id} {chn key : String} (hm : CMid c0 c sid) (hr : Reg c sid) :
    (joinOne c sid chn key).Wp G fun c' => CMid c0 c' sid ∧ Reg c' sid := by
  obtain ⟨s, hs, hl⟩ := hr
  rw [joinOne_eq]
  refine .bindEq (getS_of_get hs) (.ite (fun _ => .pure ⟨hm.sendUser _ _, s, hs, hl⟩) fun hvc =>
    .bind ⟨fun _ _ => trivial, fun _ => joinAdmit_noPanic c sid s chn key⟩ fun r hadm _ => ?_)
  obtain ⟨c1, mm⟩ := r
  obtain ⟨ho1, hsess, hcase⟩ := joinAdmit_spec hm.pre hadm
  have hs1 : AMap.get c1.st.sessions sid = some s := by rw [hsess]; exact hs
  have n1 : NI c0.st → NI c1.st := fun h0 => joinAdmit_ni (hm.ni h0) (by simpa using hvc) hadm
  rcases hcase with ⟨rfl, e⟩ | ⟨m, rfl, hj, hex⟩
  · exact .pure ⟨⟨hm.pre.congr_st e, hm.out.trans ho1, n1⟩, s, hs1, hl⟩
  · exact joinTail_wp hj (hm.out.trans ho1) n1 hs1 hl hex

theorem cmdJoin_wp {c : Ctx} {sid : Id} {m : IrcMsg} {s : Session} (hp : Pre c sid)
    (hs : AMap.get c.st.sessions sid = some s) (hl : s.loggedIn = true) :
    (cmdJoin c sid m).Wp (1 ≤ m.params.length) fun c' => CMid c c' sid := by
  unfold cmdJoin
  exact .bind (param_wp id) fun _ _ _ => (joinLoop_rule (I := fun c' => CMid c c' sid ∧ Reg c' sid) _
    ⟨.refl hp, s, hs, hl⟩ fun _ _ _ _ h => joinOne_wp h.1 h.2).mono fun _ h => h.1

end Robust.Irc
