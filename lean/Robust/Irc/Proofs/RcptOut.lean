import Robust.Irc.Proofs.RcptBase
import Robust.Irc.Proofs.H2
import Robust.Irc.Proofs.ResSat
/-!
C12, part 2a: tracking the *new* outputs of a handler (`NewOut`), and the exact recipients of
PRIVMSG / NOTICE (`cmdPrivmsg`).
-/
namespace Robust.Irc
open Robust AMap

def NewOut (P : Out → Prop) (c c' : Ctx) : Prop :=
  ∃ new, c'.out = c.out ++ new ∧ ∀ o ∈ new, P o

namespace NewOut
variable {P Q : Out → Prop} {a b c c' : Ctx}

theorem refl (P : Out → Prop) (c : Ctx) : NewOut P c c := ⟨[], by simp, fun _ h => by cases h⟩

theorem of_out (h : c'.out = c.out) : NewOut P c c' := ⟨[], by simp [h], fun _ h => by cases h⟩

theorem trans (h1 : NewOut P a b) (h2 : NewOut P b c) : NewOut P a c := by
  obtain ⟨n1, e1, p1⟩ := h1
  obtain ⟨n2, e2, p2⟩ := h2
  refine ⟨n1 ++ n2, by rw [e2, e1, List.append_assoc], fun o ho => ?_⟩
  rcases List.mem_append.1 ho with h | h
  · exact p1 o h
  · exact p2 o h

theorem mono (h : NewOut P a b) (hpq : ∀ o, P o → Q o) : NewOut Q a b := by
  obtain ⟨n, e, p⟩ := h
  exact ⟨n, e, fun o ho => hpq o (p o ho)⟩

theorem emit (h : NewOut P a c) {m : IrcMsg} {r : List Nat} (hp : ∀ i k, P ⟨i, k, m.render, r⟩) :
    NewOut P a (Robust.Irc.emit c m r) := by
  obtain ⟨n, e, p⟩ := h
  refine ⟨n ++ [⟨c.msgid, c.replyid + 1, m.render, r⟩], ?_, fun o ho => ?_⟩
  · show c.out ++ _ = _
    rw [e, List.append_assoc]
  · rcases List.mem_append.1 ho with h | h
    · exact p o h
    · rw [List.mem_singleton] at h; subst h; exact hp _ _

theorem sendUser (h : NewOut P a c) {m : IrcMsg} {sid : Id} (hp : ∀ i k, P ⟨i, k, m.render, [sid.id]⟩) :
    NewOut P a (Robust.Irc.sendUser c sid m) := h.emit hp

theorem step (h : NewOut P a c) (ho : c'.out = c.out) : NewOut P a c' := h.trans (of_out ho)

theorem frame (h : NewOut P a c) (hf : CtxFrame c c') : NewOut P a c' := h.step hf.out

theorem ite {p : Prop} [Decidable p] {c1 c2 : Ctx} (h1 : NewOut P a c1) (h2 : NewOut P a c2) :
    NewOut P a (if p then c1 else c2) := by
  split <;> assumption

theorem elim (h : NewOut P c c') {new : List Out} (e : c'.out = c.out ++ new) : ∀ o ∈ new, P o := by
  obtain ⟨n, e', p⟩ := h
  rw [e'] at e
  have := List.append_cancel_left e
  subst this
  exact p

end NewOut

def ToOnly (sid : Id) (o : Out) : Prop := o.rcpt = [sid.id]

/-- `Refused.out` is `NewOut (ToOnly sid)` written out (`Refused` sits below `NewOut`) -/
theorem Refused.newOut {c c' : Ctx} {sid : Id} (h : Refused c c' sid) : c'.st = c.st ∧ NewOut (ToOnly sid) c c' :=
  ⟨h.st, h.out⟩

/-- a handler that only answers (PING, ISON, USERHOST, LIST, NAMES, WHO, WHOIS): the state stays and every new line
goes to the caller -/
theorem RepliesWp.out {h : Ctx → Id → IrcMsg → Res Ctx} {G : Ctx → Id → IrcMsg → Prop} (H : RepliesWp h G)
    {c c' : Ctx} {sid : Id} {m : IrcMsg} (hr : h c sid m = .ok c') : c'.st = c.st ∧ NewOut (ToOnly sid) c c' :=
  ((H c sid m).sat c' hr).newOut

/-- the kinds of lines `cmdPrivmsg` (PRIVMSG and NOTICE of a client) can produce, with their exact
recipients.  `st` is the state, `sid`/`s` the sender and its stored session value, `m` the message. -/
inductive PrivmsgLine (st : St) (sid : Id) (s : Session) (m : IrcMsg) (o : Out) : Prop
  /-- numeric reply (411, 412, 403, 404, 481, 401, 301): to the sender only -/
  | reply (h : ToOnly sid o)
  /-- channel message: rendered under the sender's prefix; delivered to exactly the sessions on that
  channel other than the sender; only if the sender is a member or the channel is not `+n` -/
  | chan (p0 : String) (ch : Channel) (hp : m.params[0]? = some p0) (hh : hasPrefix p0 "#" = true)
      (hc : AMap.get st.channels (chanToLower p0) = some ch)
      (hmay : AMap.contains ch.nicks (nickToLower s.nick) = true ∨ ch.modes.contains 'n' = false)
      (hd : o.data = (IrcMsg.mk (some s.ircPrefix) m.command [p0, m.trailing]).render)
      (hr : ∀ n, n ∈ o.rcpt ↔ ∃ id, OnChan st (chanToLower p0) id ∧ id ≠ sid ∧ id.id = n)
  /-- `$`-broadcast of an IRC operator: to every indexed session -/
  | wall (p0 : String) (hp : m.params[0]? = some p0) (hh : hasPrefix p0 "#" = false) (hd' : hasPrefix p0 "$" = true)
      (hop : s.operator = true)
      (hd : o.data = (IrcMsg.mk (some s.ircPrefix) m.command [p0, m.trailing]).render)
      (hr : o.rcpt = rcAllUsers st)
  /-- private message: to the session owning the target nickname, and to nobody else -/
  | user (p0 : String) (tid : Id) (t : Session) (hp : m.params[0]? = some p0) (hh : hasPrefix p0 "#" = false)
      (hd' : hasPrefix p0 "$" = false)
      (hi : AMap.get st.nicks (nickToLower p0) = some tid) (ht : AMap.get st.sessions tid = some t)
      (hown : nickToLower t.nick = nickToLower p0)
      (hG : t.modes.contains 'G' = false ∨ (t.channels.any fun ch => s.channels.contains ch) = true)
      (hd : o.data = (IrcMsg.mk (some s.ircPrefix) m.command [p0, m.trailing]).render)
      (hr : ToOnly tid o)

/-- **PRIVMSG/NOTICE**: the state is unchanged and every line produced is a numeric reply to the sender, or
the relayed message with exactly the entitled recipients and the sender's stored prefix. -/
theorem cmdPrivmsg_out {c c' : Ctx} {sid : Id} {m : IrcMsg} {s : Session} (hw : WInv c.st)
    (hs : AMap.get c.st.sessions sid = some s) (hr : cmdPrivmsg c sid m = .ok c') :
    c'.st = c.st ∧ NewOut (PrivmsgLine c.st sid s m) c c' := by
  refine ⟨(cmdPrivmsg_wp.emits hr).st, Res.Sat.apply ?_ hr⟩
  have reply : ∀ {a : Ctx} (msg : IrcMsg), NewOut (PrivmsgLine c.st sid s m) c a →
      NewOut (PrivmsgLine c.st sid s m) c (sendUser a sid msg) :=
    fun _ h => h.sendUser fun _ _ => .reply rfl
  unfold cmdPrivmsg
  refine .bindEq (getS_of_get hs) ?_
  refine .ite (fun _ => .pure (reply _ (.refl _ c))) fun _ => .ite (fun _ => .pure (reply _ (.refl _ c))) fun _ => ?_
  refine .andThen (param_sat m 0) fun p0 hp => .ite (fun hh => ?_) fun hh => ?_
  · cases hch : getChan c (chanToLower p0) with
    | none => exact .pure (reply _ (.refl _ c))
    | some ch =>
      refine .ite (fun _ => .pure (reply _ (.refl _ c))) fun hmay => .bind fun rc hrc => .pure ?_
      refine (NewOut.refl _ c).emit fun _ _ => .chan p0 ch hp hh hch ?_ rfl fun n =>
        (rcChannelButOne_ids hw hch hrc n).trans (exists_congr fun _ => and_assoc)
      cases hcn : AMap.contains ch.nicks (nickToLower s.nick) with
      | true => exact Or.inl rfl
      | false =>
        rw [hcn] at hmay
        exact Or.inr (by simpa using hmay)
  · have hh' : hasPrefix p0 "#" = false := by simpa using hh
    refine .ite (fun hd => .ite (fun hop => .pure ?_) fun _ => .pure (reply _ (.refl _ c))) fun hd => ?_
    · exact (NewOut.refl _ c).emit fun _ _ => .wall p0 hp hh' hd hop rfl rfl
    have hd' : hasPrefix p0 "$" = false := by simpa using hd
    cases hi : AMap.get c.st.nicks (nickToLower p0) with
    | none => exact .pure (reply _ (.refl _ c))
    | some tid =>
      refine .andThen (getS_sat c tid) fun t ht => .ite (fun _ => .pure (.refl _ c)) fun hG => ?_
      obtain ⟨t', ht', _, hown⟩ := hw.index _ tid hi
      rw [ht] at ht'
      cases ht'
      have hG' : t.modes.contains 'G' = false ∨ (t.channels.any fun ch => s.channels.contains ch) = true := by
        cases hg : t.modes.contains 'G' with
        | false => exact Or.inl rfl
        | true =>
          rw [hg] at hG
          exact Or.inr (by simpa using hG)
      have h1 : NewOut (PrivmsgLine c.st sid s m) c
          (sendUser c tid ⟨some s.ircPrefix, m.command, [p0, m.trailing]⟩) :=
        (NewOut.refl _ c).sendUser fun _ _ => .user p0 tid t hp hh' hd' hi ht hown hG' rfl rfl
      exact .ite (fun _ => .pure (reply _ h1)) fun _ => .pure h1

end Robust.Irc
