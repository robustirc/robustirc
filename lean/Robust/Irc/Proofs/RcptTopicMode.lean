import Robust.Irc.Proofs.RcptMem
import Robust.Irc.Proofs.ChanModeSteps
/-!
C12, part 2b: TOPIC and MODE — who receives what.  Also the "query" forms of MODE and TOPIC that `joinOne` calls
for the joining session (they only answer the caller; so does NAMES, the third call: `cmdNames_wp`).
-/
namespace Robust.Irc
open Robust AMap

inductive TopicLine (st : St) (sid : Id) (s : Session) (m : IrcMsg) (o : Out) : Prop
  /-- numeric reply (403, 442, 482, 331, 332, 333): to the sender only -/
  | reply (h : ToOnly sid o)
  /-- the topic change, under the sender's prefix: to exactly the sessions listing that channel; the sender
  is one of them -/
  | relay (chn : String) (hp : m.params[0]? = some chn) (hon : chanToLower chn ∈ s.channels)
      (hd : o.data = (IrcMsg.mk (some s.ircPrefix) "TOPIC" [chn, m.trailing]).render)
      (hr : RcptIs o (Lists st (chanToLower chn)) [])
  /-- the copy for the services links only -/
  | svc (h : o.rcpt = st.serverSessions)

theorem topic_tail {c : Ctx} {sid : Id} {m : IrcMsg} {s : Session} (hi : Inv c.st) (hn : NI c.st)
    {p0 : String} (hp : m.params[0]? = some p0) (hon : chanToLower p0 ∈ s.channels) {ch ch' : Channel}
    (hch : AMap.get c.st.channels (chanToLower p0) = some ch) (hname : ch'.name = ch.name)
    (hnicks : ch'.nicks = ch.nicks) {rc : List Nat}
    (hrc : rcChannel (putChan c (chanToLower p0) ch').st ch' = .ok rc) (m2 : IrcMsg) :
    NewOut (TopicLine c.st sid s m) c
      (emit (emit (putChan c (chanToLower p0) ch') ⟨some s.ircPrefix, "TOPIC", [p0, m.trailing]⟩ rc) m2
        c.st.serverSessions) := by
  have hl := rcChannel_lists_sim hi hn hrc (StSim.putChan hi.toWInvCore hch hname (by rw [hnicks])) hch
    (by rw [putChan_channels, AMap.get_set_same])
  have h0 : NewOut (TopicLine c.st sid s m) c (putChan c (chanToLower p0) ch') := (NewOut.refl _ c).step rfl
  refine (h0.emit fun _ _ => ?_).emit fun _ _ => .svc rfl
  exact .relay p0 hp hon rfl hl.rcptIs_nil

theorem cmdTopic_out {c c' : Ctx} {sid : Id} {m : IrcMsg} {s : Session} (hi : Inv c.st) (hn : NI c.st)
    (hs : AMap.get c.st.sessions sid = some s) (hr : cmdTopic c sid m = .ok c') :
    NewOut (TopicLine c.st sid s m) c c' := by
  obtain ⟨s', p0, hs', hp, h⟩ := (cmdTopic_result c sid m).apply hr
  rw [hs] at hs'
  cases hs'
  have reply : ∀ msg, NewOut (TopicLine c.st sid s m) c (sendUser c sid msg) :=
    fun _ => (NewOut.refl _ c).sendUser fun _ _ => .reply rfl
  cases h with
  | noChannel | notOn | notOp | unset => exact reply _
  | shown => exact (reply _).sendUser fun _ _ => .reply rfl
  | cleared hc hon _ _ hch hrc =>
    subst hch
    exact topic_tail hi hn hp (mem_of_not_not_contains hon) hc rfl rfl hrc _
  | set hc hon _ _ _ hch hrc =>
    subst hch
    exact topic_tail hi hn hp (mem_of_not_not_contains hon) hc rfl rfl hrc _

inductive ModeLine (st : St) (sid : Id) (s : Session) (m : IrcMsg) (o : Out) : Prop
  /-- numeric reply or `MODE … +k or -k` echo: to the sender only -/
  | reply (h : ToOnly sid o)
  /-- channel mode change, under the sender's prefix: to exactly the sessions listing that channel and the
  services links; the sender is on the channel -/
  | chan (chn : String) (hp : m.params[0]? = some chn) (hon : chanToLower chn ∈ s.channels)
      (hd : o.data = (IrcMsg.mk (some s.ircPrefix) "MODE" (chn :: ircParams (normalizeModes m))).render)
      (hr : RcptIs o (Lists st (chanToLower chn)) st.serverSessions)
  /-- user mode query (no mode string): answered to the sender and the services links; the target is the sender
  itself unless the sender is an IRC operator -/
  | userQuery (p0 : String) (tid : Id) (hp : m.params[0]? = some p0)
      (hi : AMap.get st.nicks (nickToLower p0) = some tid) (hself : tid = sid ∨ s.operator = true)
      (hr : RcptIs o (fun id => id = sid) st.serverSessions)
  /-- user mode change: to the target user and the services links; the target is the sender itself unless the
  sender is an IRC operator -/
  | userSet (p0 : String) (tid : Id) (hp : m.params[0]? = some p0)
      (hi : AMap.get st.nicks (nickToLower p0) = some tid) (hself : tid = sid ∨ s.operator = true)
      (hr : RcptIs o (fun id => id = tid) st.serverSessions)

/-! ### the channel-mode loop only answers the caller -/

def ReplyOnly (sid : Id) (c0 c : Ctx) : Prop :=
  NewOut (ToOnly sid) c0 c ∧ c.st.serverSessions = c0.st.serverSessions

theorem ReplyOnly.refl (sid : Id) (c : Ctx) : ReplyOnly sid c c := ⟨NewOut.refl _ c, rfl⟩

theorem ReplyOnly.sendUser {sid : Id} {c0 c : Ctx} (h : ReplyOnly sid c0 c) (m : IrcMsg) :
    ReplyOnly sid c0 (sendUser c sid m) := ⟨h.1.sendUser fun _ _ => rfl, h.2⟩

theorem ReplyOnly.putChan {sid : Id} {c0 c : Ctx} (h : ReplyOnly sid c0 c) (lc : String) (ch : Channel) :
    ReplyOnly sid c0 (putChan c lc ch) := ⟨h.1.step rfl, h.2⟩

theorem applyChanMode_out {c0 c c' : Ctx} {sid : Id} {s : Session} {lc chn : String} {op q q' ret : Bool}
    {mc : ModeCmd} (hI : ReplyOnly sid c0 c)
    (hr : applyChanMode c sid s lc chn op mc q = .ok (c', q', ret)) : ReplyOnly sid c0 c' := by
  obtain ⟨ch, _, h⟩ := applyChanMode_result hr
  cases h with
  | banList _ _ h1 =>
    subst h1
    exact (foldl_invariant (I := ReplyOnly sid c0) _ hI fun _ _ _ h => h.sendUser _).sendUser _
  | notOp | noCaptcha | opAbsent | unknown => exact hI.sendUser _
  | flag | captcha | opSet | ban => exact hI.putChan _ _
  | keyEmpty | opSame => exact hI
  | keySet => exact ((hI.putChan _ _).sendUser _).putChan _ _
  | keyClear => exact (hI.sendUser _).putChan _ _

theorem applyChanModes_out {c0 : Ctx} {sid : Id} {s : Session} {lc chn : String} {op : Bool}
    (l : List ModeCmd) {c c' : Ctx} {q q' ret : Bool} (hI : ReplyOnly sid c0 c)
    (hr : applyChanModes c sid s lc chn op l q = .ok (c', q', ret)) : ReplyOnly sid c0 c' :=
  (applyChanModes_rule (G := False) (I := ReplyOnly sid c0) l hI fun _ _ _ _ h =>
    .of_sat (fun _ hr => applyChanMode_out h hr) nofun).sat _ hr

theorem cmdMode_out {c c' : Ctx} {sid : Id} {m : IrcMsg} {s : Session} (hi : Inv c.st) (hn : NI c.st)
    (hs : AMap.get c.st.sessions sid = some s) (hr : cmdMode c sid m = .ok c') :
    NewOut (ModeLine c.st sid s m) c c' := by
  obtain ⟨s', chn, hs', hp, h⟩ := (cmdMode_result c sid m).apply hr
  rw [hs] at hs'
  cases hs'
  have reply : ∀ msg, NewOut (ModeLine c.st sid s m) c (sendUser c sid msg) :=
    fun _ => (NewOut.refl _ c).sendUser fun _ _ => .reply rfl
  -- user modes: without the operator flag the target can only be the sender itself
  have hself : ∀ {tid}, AMap.get c.st.nicks (nickToLower chn) = some tid →
      ¬(nickToLower chn != nickToLower s.nick && !s.operator) = true → tid = sid ∨ s.operator = true := by
    intro tid hidx htest
    cases hop : s.operator with
    | true => exact Or.inr rfl
    | false =>
      left
      rw [hop] at htest
      have he : nickToLower chn = nickToLower s.nick := by simpa using htest
      have hnick : s.nick ≠ "" := by
        intro h0
        rw [he, h0, nickToLower_empty, hn.idx] at hidx
        cases hidx
      have := hi.owns sid s hs (hi.noDeleted sid s hs) hnick
      rw [he, this] at hidx
      cases hidx; rfl
  cases h with
  | chanQuery | noNick | otherUser => exact reply _
  | chanQuiet _ _ _ _ h1 => exact (applyChanModes_out _ (ReplyOnly.refl sid c) h1).1.mono fun _ h => .reply h
  | chanRelay hon hc _ _ h1 _ hc1 hrc =>
    have hI : Inert c _ :=
      (applyChanModes_wp (G := False) hi.toWInvCore False.elim _ (Inert.refl hi.toWInvCore)).sat _ h1
    have hR := applyChanModes_out _ (ReplyOnly.refl sid c) h1
    refine (hR.1.mono fun _ h => .reply h).emit fun _ _ => .chan chn hp (List.contains_iff_mem.1 hon) rfl ?_
    rw [hR.2]
    exact (rcChannel_lists_sim hi hn hrc hI.sim hc hc1).rcptIs
  | userQuery _ hidx _ hx =>
    exact (NewOut.refl _ c).emit fun _ _ => .userQuery chn _ hp hidx (hself hidx hx) (IdsOf.user _).rcptIs
  | userSet _ hidx _ hx h1 =>
    refine ((NewOut.refl _ c).frame (.modS h1)).emit fun _ _ => .userSet chn _ hp hidx (hself hidx hx) ?_
    rw [(CtxFrame.modS h1).serverSessions]
    exact (IdsOf.user _).rcptIs

/-! ### the query forms used by `joinOne` / `cmdServerSvsjoin` -/

theorem cmdMode_query_out {c c' : Ctx} {sid : Id} {s : Session} {chn : String}
    (hs : AMap.get c.st.sessions sid = some s) (hon : chanToLower chn ∈ s.channels)
    (hr : cmdMode c sid ⟨none, "MODE", [chn]⟩ = .ok c') : c'.st = c.st ∧ NewOut (ToOnly sid) c c' :=
  ((cmdMode_query (m := ⟨none, "MODE", [chn]⟩) (Nat.le_refl 1) c' hr).2 s chn hs rfl hon).newOut

theorem cmdTopic_query_out {c c' : Ctx} {sid : Id} {chn : String}
    (hr : cmdTopic c sid ⟨none, "TOPIC", [chn]⟩ = .ok c') : c'.st = c.st ∧ NewOut (ToOnly sid) c c' :=
  ((cmdTopic_query_wp rfl).sat c' hr).newOut

end Robust.Irc
