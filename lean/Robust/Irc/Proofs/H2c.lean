import Robust.Irc.Proofs.H2Base
/-! PRIVMSG/NOTICE, the service aliases, INVITE -/
namespace Robust.Irc
open Rd
open AMap

theorem cmdPrivmsg_wp : EmitsWp cmdPrivmsg (Gated 0) := fun c sid m => by
  have h0 := Emits.refl c
  have hw : Gated 0 c sid m → WInvCore c.st := fun g => g.1.inv.toWInvCore
  unfold cmdPrivmsg
  refine .bind (getS_wp fun g => g.1.actor) fun s _ _ => ?_
  dsimp only
  refine .ite (fun _ => .pure (h0.sendUser _ _)) fun h1 => .ite (fun _ => .pure (h0.sendUser _ _)) fun _ =>
    .bind (param_wp fun _ => Nat.not_lt.1 h1) fun p0 _ _ => .ite (fun _ => ?_) fun _ => .ite (fun _ => ?_) fun _ => ?_
  · cases hch : getChan c (chanToLower p0) with
    | none => exact .pure (h0.sendUser _ _)
    | some ch =>
      exact .ite (fun _ => .pure (h0.sendUser _ _)) fun _ =>
        .bind (rcChannelButOne_wp sid hw hch) fun _ _ _ => .pure (h0.emit _ _)
  · exact .ite (fun _ => .pure (h0.emit _ _)) fun _ => .pure (h0.sendUser _ _)
  · cases hi : AMap.get c.st.nicks (nickToLower p0) with
    | none => exact .pure (h0.sendUser _ _)
    | some tid =>
      exact .bind (getS_indexed_wp hi hw) fun t _ _ => .ite (fun _ => .pure h0) fun _ =>
        .ite (fun _ => .pure ((h0.sendUser _ _).sendUser _ _)) fun _ => .pure (h0.sendUser _ _)

theorem cmdInvite_wp : InertWp cmdInvite (Gated 2) := fun c sid m hw => by
  have h0 := Inert.refl hw
  unfold cmdInvite
  refine .bind (getS_wp fun g => g.1.actor) fun s _ _ => .bind (param_wp fun g => Nat.lt_of_succ_lt g.2)
    fun nickname _ _ => .bind (param_wp fun g => g.2) fun channelname _ _ => ?_
  dsimp only
  cases hch : getChan c (chanToLower channelname) with
  | none => exact .pure (h0.sendUser _ _)
  | some ch =>
    dsimp only
    cases AMap.get ch.nicks (nickToLower s.nick) with
    | none => exact .pure (h0.sendUser _ _)
    | some mem =>
      dsimp only
      cases hi : AMap.get c.st.nicks (nickToLower nickname) with
      | none => exact .pure (h0.sendUser _ _)
      | some tid =>
        refine .bind (getS_indexed_wp hi fun _ => hw) fun t _ ht => .ite (fun _ => .pure (h0.sendUser _ _)) fun _ =>
          .ite (fun _ => .pure (h0.sendUser _ _)) fun _ => .bind (modS_wp _ fun _ => ⟨t, ht⟩) fun c1 e1 _ => ?_
        have h1 := h0.modS hw e1 (fun _ => ⟨rfl, rfl, rfl, rfl⟩) fun _ => ⟨rfl, rfl⟩
        -- the members of `ch` are still indexed: the update touched a session only
        refine .bind (rcChannel_indexed_wp (st := c1.st) fun _ n hn => ?_) fun rc _ _ =>
          .ite (fun _ => .pure ((((h1.sendUser _ _).emit _ _).emit _ _).sendUser _ _)) fun _ =>
            .pure (((h1.sendUser _ _).emit _ _).emit _ _)
        rw [h1.sim.nicks]
        exact hw.membersIndexed hch n hn

theorem serviceAliases_privmsg : ∀ a ∈ serviceAliases, a.2.toList.take 8 = "PRIVMSG ".toList ∧
    ∀ x ∈ a.2.toList, isCutset x = false := by decide +kernel

theorem serviceAlias_toList {a : String × String} (ha : a ∈ serviceAliases) :
    a.2.toList = 'P' :: 'R' :: 'I' :: 'V' :: 'M' :: 'S' :: 'G' :: ' ' :: a.2.toList.drop 8 := by
  have := (List.take_append_drop 8 a.2.toList).symm
  rw [(serviceAliases_privmsg a ha).1] at this
  exact this

theorem serviceAlias_parse {a : String × String} (ha : a ∈ serviceAliases) (rest : String) :
    ∃ pm, parseMessage (a.2 ++ rest) = some pm :=
  parseMessage_some_of_prefix a.2 rest _ _ _ (serviceAlias_toList ha) (serviceAliases_privmsg a ha).2 (by decide)

theorem cmdServiceAlias_wp : EmitsWp cmdServiceAlias (Gated 0) := fun c sid m => by
  unfold cmdServiceAlias
  cases hfind : serviceAliases.find? (fun a => toUpper m.command == a.1) with
  | none => exact .ok (Emits.refl _)
  | some a =>
    -- every alias expands to a line that parses
    obtain ⟨pm, hpm⟩ := serviceAlias_parse (List.mem_of_find?_eq_some hfind) (joinStr " " m.params)
    dsimp only
    rw [hpm]
    exact (cmdPrivmsg_wp c sid pm).gate fun g => ⟨g.1, Nat.zero_le _⟩

end Robust.Irc
