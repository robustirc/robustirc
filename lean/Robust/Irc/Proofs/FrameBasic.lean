import Robust.Irc.Proofs.InvDef
import Robust.Irc.Proofs.ResSat
/-!
Frame lemmas: how the primitives used by the handlers act on the invariant
(`WInv` / `HInv` / `Inv`, see `InvDef.lean`), and that the recipient lookups cannot panic.

Conventions.  Most preservation lemmas are *extensional*: they talk about an arbitrary
result state `st'` whose three relevant components are given by equations
(`st'.sessions = …`, `st'.nicks = …`, `st'.channels = …`); when a handler is unfolded these
equations are closed by `rfl`.
-/
namespace Robust.Irc
open Robust AMap

@[simp] theorem Res.pure_eq {α : Type} (a : α) : (pure a : Res α) = Res.ok a := rfl
@[simp] theorem Res.ok_bind {α β : Type} (a : α) (f : α → Res β) : (Res.ok a >>= f) = f a := rfl
@[simp] theorem Res.panic_bind {α β : Type} (s : String) (f : α → Res β) : (Res.panic s >>= f) = Res.panic s := rfl
@[simp] theorem Res.declined_bind {α β : Type} (s : String) (f : α → Res β) : (Res.declined s >>= f) = Res.declined s := rfl
@[simp] theorem Res.bind_ok' {α β : Type} (a : α) (f : α → Res β) : Res.bind (Res.ok a) f = f a := rfl

theorem Res.bind_eq_ok {α β : Type} {x : Res α} {f : α → Res β} {b : β} :
    (x >>= f) = Res.ok b ↔ ∃ a, x = Res.ok a ∧ f a = Res.ok b := by
  cases x with
  | ok a => simp
  | panic s => simp
  | declined s => simp

theorem Res.bind_ok_of_ok {α β : Type} {x : Res α} {f : α → Res β} (hx : ∃ a, x = Res.ok a)
    (hf : ∀ a, ∃ b, f a = Res.ok b) : ∃ b, (x >>= f) = Res.ok b := by
  obtain ⟨a, rfl⟩ := hx
  exact hf a

theorem mapRes_ok {α β : Type} {f : α → Res β} {l : List α} (h : ∀ a ∈ l, ∃ b, f a = Res.ok b) :
    ∃ bs, mapRes f l = Res.ok bs := by
  induction l with
  | nil => exact ⟨[], rfl⟩
  | cons a t ih =>
    obtain ⟨b, hb⟩ := h a (List.mem_cons_self ..)
    obtain ⟨bs, hbs⟩ := ih (fun x hx => h x (List.mem_cons_of_mem _ hx))
    exact ⟨b :: bs, by simp [mapRes, hb, hbs]⟩

theorem mapRes_mem {α β : Type} {f : α → Res β} {l : List α} {bs : List β} (h : mapRes f l = Res.ok bs)
    {b : β} (hb : b ∈ bs) : ∃ a ∈ l, f a = Res.ok b := by
  induction l generalizing bs with
  | nil => cases h; cases hb
  | cons a t ih =>
    unfold mapRes at h
    obtain ⟨b0, hb0, h⟩ := Res.bind_eq_ok.1 h
    obtain ⟨bs0, hbs0, h⟩ := Res.bind_eq_ok.1 h
    cases h
    rcases List.mem_cons.1 hb with rfl | hb
    · exact ⟨a, List.mem_cons_self .., hb0⟩
    · obtain ⟨a', ha', hf⟩ := ih hbs0 hb
      exact ⟨a', List.mem_cons_of_mem _ ha', hf⟩

theorem mapRes_mem_of {α β : Type} {f : α → Res β} {l : List α} {bs : List β} (h : mapRes f l = Res.ok bs)
    {a : α} (ha : a ∈ l) : ∃ b ∈ bs, f a = Res.ok b := by
  induction l generalizing bs with
  | nil => cases ha
  | cons x t ih =>
    unfold mapRes at h
    obtain ⟨b0, hb0, h⟩ := Res.bind_eq_ok.1 h
    obtain ⟨bs0, hbs0, h⟩ := Res.bind_eq_ok.1 h
    cases h
    rcases List.mem_cons.1 ha with rfl | ha
    · exact ⟨b0, List.mem_cons_self .., hb0⟩
    · obtain ⟨b, hb, hf⟩ := ih hbs0 ha
      exact ⟨b, List.mem_cons_of_mem _ hb, hf⟩

theorem mapRes_mem_iff {α β : Type} {f : α → Res β} {l : List α} {bs : List β} (h : mapRes f l = Res.ok bs)
    {b : β} : b ∈ bs ↔ ∃ a ∈ l, f a = Res.ok b := by
  constructor
  · exact mapRes_mem h
  · rintro ⟨a, ha, hf⟩
    obtain ⟨b', hb', hf'⟩ := mapRes_mem_of h ha
    rw [hf] at hf'; cases hf'
    exact hb'

theorem mapRes_ne_declined {α β : Type} {f : α → Res β} {l : List α} (h : ∀ a ∈ l, ∀ w, f a ≠ .declined w) :
    ∀ w, mapRes f l ≠ .declined w := by
  induction l with
  | nil => intro w h; cases h
  | cons a t ih =>
    intro w
    rw [mapRes]
    cases hfa : f a with
    | declined w' => exact absurd hfa (h a (List.mem_cons_self ..) w')
    | panic s => intro h; cases h
    | ok b =>
      have := ih (fun x hx => h x (List.mem_cons_of_mem _ hx))
      cases hm : mapRes f t with
      | declined w' => exact absurd hm (this w')
      | panic s => intro h; cases h
      | ok bs => intro h; cases h

@[simp] theorem emit_st (c : Ctx) (m : IrcMsg) (r : List Nat) : (emit c m r).st = c.st := rfl
@[simp] theorem sendUser_st (c : Ctx) (sid : Id) (m : IrcMsg) : (sendUser c sid m).st = c.st := rfl
@[simp] theorem sendSvc_st (c : Ctx) (m : IrcMsg) : (sendSvc c m).st = c.st := rfl
@[simp] theorem emit_msgid (c : Ctx) (m : IrcMsg) (r : List Nat) : (emit c m r).msgid = c.msgid := rfl
@[simp] theorem sendUser_msgid (c : Ctx) (sid : Id) (m : IrcMsg) : (sendUser c sid m).msgid = c.msgid := rfl
@[simp] theorem sendSvc_msgid (c : Ctx) (m : IrcMsg) : (sendSvc c m).msgid = c.msgid := rfl

@[simp] theorem putS_sessions (c : Ctx) (s : Session) : (putS c s).st.sessions = AMap.set c.st.sessions s.id s := rfl
@[simp] theorem putS_nicks (c : Ctx) (s : Session) : (putS c s).st.nicks = c.st.nicks := rfl
@[simp] theorem putS_channels (c : Ctx) (s : Session) : (putS c s).st.channels = c.st.channels := rfl
@[simp] theorem putS_config (c : Ctx) (s : Session) : (putS c s).st.config = c.st.config := rfl
@[simp] theorem putS_svsholds (c : Ctx) (s : Session) : (putS c s).st.svsholds = c.st.svsholds := rfl
@[simp] theorem putS_serverSessions (c : Ctx) (s : Session) : (putS c s).st.serverSessions = c.st.serverSessions := rfl
@[simp] theorem putS_out (c : Ctx) (s : Session) : (putS c s).out = c.out := rfl
@[simp] theorem putS_replyid (c : Ctx) (s : Session) : (putS c s).replyid = c.replyid := rfl
@[simp] theorem putS_msgid (c : Ctx) (s : Session) : (putS c s).msgid = c.msgid := rfl

@[simp] theorem putChan_sessions (c : Ctx) (lc : String) (ch : Channel) : (putChan c lc ch).st.sessions = c.st.sessions := rfl
@[simp] theorem putChan_nicks (c : Ctx) (lc : String) (ch : Channel) : (putChan c lc ch).st.nicks = c.st.nicks := rfl
@[simp] theorem putChan_channels (c : Ctx) (lc : String) (ch : Channel) :
    (putChan c lc ch).st.channels = AMap.set c.st.channels lc ch := rfl
@[simp] theorem putChan_config (c : Ctx) (lc : String) (ch : Channel) : (putChan c lc ch).st.config = c.st.config := rfl
@[simp] theorem putChan_svsholds (c : Ctx) (lc : String) (ch : Channel) : (putChan c lc ch).st.svsholds = c.st.svsholds := rfl
@[simp] theorem putChan_serverSessions (c : Ctx) (lc : String) (ch : Channel) :
    (putChan c lc ch).st.serverSessions = c.st.serverSessions := rfl
@[simp] theorem putChan_out (c : Ctx) (lc : String) (ch : Channel) : (putChan c lc ch).out = c.out := rfl
@[simp] theorem putChan_replyid (c : Ctx) (lc : String) (ch : Channel) : (putChan c lc ch).replyid = c.replyid := rfl
@[simp] theorem putChan_msgid (c : Ctx) (lc : String) (ch : Channel) : (putChan c lc ch).msgid = c.msgid := rfl

@[simp] theorem putChan_putChan (c : Ctx) (lc : String) (a b : Channel) :
    putChan (putChan c lc a) lc b = putChan c lc b := by
  simp [putChan]

/-- re-storing the stored channel is a no-op (`cmdServerSvsjoin` on an existing channel) -/
theorem putChan_same {c : Ctx} {lc : String} {ch : Channel} (h : AMap.get c.st.channels lc = some ch) :
    putChan c lc ch = c := by
  simp [putChan, AMap.set_eq_self h]

@[simp] theorem getChan_eq (c : Ctx) (lc : String) : getChan c lc = AMap.get c.st.channels lc := rfl

theorem getS_eq_ok {c : Ctx} {sid : Id} {s : Session} : getS c sid = Res.ok s ↔ AMap.get c.st.sessions sid = some s := by
  unfold getS
  cases AMap.get c.st.sessions sid <;> simp

theorem getS_of_get {c : Ctx} {sid : Id} {s : Session} (h : AMap.get c.st.sessions sid = some s) : getS c sid = Res.ok s :=
  getS_eq_ok.2 h

theorem param_ok {m : IrcMsg} {i : Nat} (h : i < m.params.length) : ∃ p, param m i = Res.ok p :=
  ⟨_, param_of_some (List.getElem?_eq_getElem h)⟩

theorem modS_eq_ok {c c' : Ctx} {sid : Id} {f : Session → Session} :
    modS c sid f = Res.ok c' ↔ ∃ s, AMap.get c.st.sessions sid = some s ∧ c' = putS c (f s) := by
  unfold modS getS
  cases AMap.get c.st.sessions sid with
  | none => simp
  | some s =>
    simp only [Res.ok_bind, Res.pure_eq, Res.ok.injEq, Option.some.injEq, exists_eq_left']
    exact eq_comm

theorem modS_of_get {c : Ctx} {sid : Id} {s : Session} (f : Session → Session)
    (h : AMap.get c.st.sessions sid = some s) : modS c sid f = Res.ok (putS c (f s)) :=
  modS_eq_ok.2 ⟨s, h, rfl⟩

theorem modS_get_self {c c' : Ctx} {sid : Id} {f : Session → Session} {s : Session}
    (hs : AMap.get c.st.sessions sid = some s) (hid : (f s).id = sid) (hr : modS c sid f = .ok c') :
    AMap.get c'.st.sessions sid = some (f s) := by
  obtain ⟨t, ht, rfl⟩ := modS_eq_ok.1 hr
  rw [hs] at ht; cases ht
  rw [putS_sessions, hid]; exact AMap.get_set_same _ _ _

/-- what `f` does not change is, after `modS c tid f`, still true of the session stored under `tid`
(whether or not that session is stored under its own id) -/
theorem modS_get_same {α : Type} {g : Session → α} {c c' : Ctx} {tid : Id} {f : Session → Session} {s : Session}
    (hg : ∀ s, g (f s) = g s) (hs : AMap.get c.st.sessions tid = some s) (hr : modS c tid f = .ok c') :
    ∃ s', AMap.get c'.st.sessions tid = some s' ∧ g s' = g s := by
  obtain ⟨s0, hs0, rfl⟩ := modS_eq_ok.1 hr
  rw [hs] at hs0; cases hs0
  rw [putS_sessions, AMap.get_set]
  split
  · exact ⟨_, rfl, hg s⟩
  · exact ⟨s, hs, rfl⟩

section other_fields
variable (st : St)

@[simp] theorem WInv_config (x : Config) : WInv { st with config := x } ↔ WInv st :=
  WInv.congr_iff rfl rfl rfl
@[simp] theorem WInv_svsholds (x : AMap String SvsHold) : WInv { st with svsholds := x } ↔ WInv st :=
  WInv.congr_iff rfl rfl rfl
@[simp] theorem WInv_serverSessions (x : List Nat) : WInv { st with serverSessions := x } ↔ WInv st :=
  WInv.congr_iff rfl rfl rfl
@[simp] theorem WInv_lastProcessed (x : Id) : WInv { st with lastProcessed := x } ↔ WInv st :=
  WInv.congr_iff rfl rfl rfl

@[simp] theorem HInv_config (x : Config) : HInv { st with config := x } ↔ HInv st :=
  HInv.congr_iff rfl rfl rfl
@[simp] theorem HInv_svsholds (x : AMap String SvsHold) : HInv { st with svsholds := x } ↔ HInv st :=
  HInv.congr_iff rfl rfl rfl
@[simp] theorem HInv_serverSessions (x : List Nat) : HInv { st with serverSessions := x } ↔ HInv st :=
  HInv.congr_iff rfl rfl rfl
@[simp] theorem HInv_lastProcessed (x : Id) : HInv { st with lastProcessed := x } ↔ HInv st :=
  HInv.congr_iff rfl rfl rfl

@[simp] theorem Inv_config (x : Config) : Inv { st with config := x } ↔ Inv st :=
  Inv.congr_iff rfl rfl rfl
@[simp] theorem Inv_svsholds (x : AMap String SvsHold) : Inv { st with svsholds := x } ↔ Inv st :=
  Inv.congr_iff rfl rfl rfl
@[simp] theorem Inv_serverSessions (x : List Nat) : Inv { st with serverSessions := x } ↔ Inv st :=
  Inv.congr_iff rfl rfl rfl
@[simp] theorem Inv_lastProcessed (x : Id) : Inv { st with lastProcessed := x } ↔ Inv st :=
  Inv.congr_iff rfl rfl rfl

end other_fields

section setSession
variable {st st' : St} {k : Id} {v : Session}
  (hs : st'.sessions = AMap.set st.sessions k v) (hn : st'.nicks = st.nicks) (hc : st'.channels = st.channels)
include hs hn hc

/-- `hidx`, `howns`, `hch`: what `v` owes to the index entries and member entries that point to `k` -/
theorem WInvCore.setSession (h : WInvCore st) (hid : v.id = k) (hnd : v.channels.Nodup)
    (hidx : ∀ x, AMap.get st.nicks x = some k → v.deleted = false ∧ nickToLower v.nick = x)
    (howns : v.deleted = false → v.nick ≠ "" → AMap.get st.nicks (nickToLower v.nick) = some k)
    (hch : ∀ x lc c, AMap.get st.nicks x = some k → AMap.get st.channels lc = some c →
      x ∈ AMap.keys c.nicks → lc ∈ v.channels) : WInvCore st' := by
  have hget : ∀ {id s}, id ≠ k → AMap.get st.sessions id = some s → AMap.get st'.sessions id = some s :=
    fun hne hg => by rw [hs, AMap.get_set_other _ hne]; exact hg
  have hgetk : AMap.get st'.sessions k = some v := by rw [hs]; exact AMap.get_set_same ..
  refine ⟨by rw [hs]; exact AMap.nodup_keys_set _ _ h.sessNodup, by rw [hn]; exact h.nickNodup,
    by rw [hc]; exact h.chanNodup, ?_, ?_, ?_, ?_⟩
  · intro id s hg
    rw [hs] at hg
    rcases AMap.get_of_get_set hg with ⟨rfl, rfl⟩ | ⟨_, hg⟩
    · exact ⟨hid, hnd⟩
    · exact h.sessId id s hg
  · intro id s hg hl hnn
    rw [hs] at hg; rw [hn]
    rcases AMap.get_of_get_set hg with ⟨rfl, rfl⟩ | ⟨_, hg⟩
    · exact howns hl hnn
    · exact h.owns id s hg hl hnn
  · intro x id hi
    rw [hn] at hi
    by_cases hk : id = k
    · subst hk; exact ⟨v, hgetk, hidx x hi⟩
    · obtain ⟨s, hg, hl⟩ := h.index x id hi
      exact ⟨s, hget hk hg, hl⟩
  · intro lc c hg
    rw [hc] at hg
    obtain ⟨a, b, d⟩ := h.chans lc c hg
    refine ⟨a, b, fun n hn' => ?_⟩
    obtain ⟨id, s, h1, h2, h3⟩ := d n hn'
    rw [hn]
    by_cases hk : id = k
    · subst hk; exact ⟨id, v, h1, hgetk, hch n lc c h1 hg hn'⟩
    · exact ⟨id, s, h1, hget hk h2, h3⟩

theorem MemberOK.setSession {x : String} (hold : AMap.get st.nicks x ≠ some k → MemberOK st x)
    (hnew : AMap.get st.nicks x = some k → ∀ ch ∈ v.channels,
      ∃ c, AMap.get st.channels ch = some c ∧ AMap.contains c.nicks x = true) : MemberOK st' x := by
  intro id s hi hg
  rw [hn] at hi; rw [hs] at hg; rw [hc]
  rcases AMap.get_of_get_set hg with ⟨rfl, rfl⟩ | ⟨hne, hg⟩
  · exact hnew hi
  · exact hold (fun e => hne (Option.some.inj (hi.symm.trans e))) id s hi hg

end setSession

theorem nickId_ok {st : St} {lc : String} {id : Id} (h : AMap.get st.nicks lc = some id) :
    nickId st lc = Res.ok id.id := by
  simp [nickId, h]

def MembersIndexed (st : St) (ch : Channel) : Prop :=
  ∀ n, n ∈ AMap.keys ch.nicks → ∃ id, AMap.get st.nicks n = some id

theorem WInvCore.membersIndexed {st : St} (h : WInvCore st) {lc : String} {ch : Channel}
    (hc : AMap.get st.channels lc = some ch) : MembersIndexed st ch := by
  intro n hn
  obtain ⟨id, _, h1, _⟩ := (h.chans lc ch hc).2.2 n hn
  exact ⟨id, h1⟩

theorem rcChannel_ok_of_indexed {st : St} {ch : Channel} (h : MembersIndexed st ch) :
    ∃ l, rcChannel st ch = Res.ok l := by
  unfold rcChannel
  apply mapRes_ok
  intro n hn
  obtain ⟨id, hid⟩ := h n hn
  exact ⟨id.id, nickId_ok hid⟩

theorem rcChannel_ok {st : St} (h : WInvCore st) {lc : String} {ch : Channel}
    (hc : AMap.get st.channels lc = some ch) : ∃ l, rcChannel st ch = Res.ok l :=
  rcChannel_ok_of_indexed (h.membersIndexed hc)

theorem rcChannelButOne_ok {st : St} (h : WInvCore st) {lc : String} {ch : Channel} (user : Id)
    (hc : AMap.get st.channels lc = some ch) : ∃ l, rcChannelButOne st ch user = Res.ok l := by
  unfold rcChannelButOne
  apply Res.bind_ok_of_ok
  · apply mapRes_ok
    intro n hn
    obtain ⟨id, hid⟩ := h.membersIndexed hc n hn
    exact ⟨id, by simp [hid]⟩
  · intro ids; exact ⟨_, rfl⟩

/-- holds for *any* session value (stored or not, deleted or not): missing channels are skipped -/
theorem rcCommonChannels_ok {st : St} (h : WInvCore st) (s : Session) : ∃ l, rcCommonChannels st s = Res.ok l := by
  unfold rcCommonChannels
  apply Res.bind_ok_of_ok
  · apply mapRes_ok
    intro chn _
    cases hc : AMap.get st.channels chn with
    | none => exact ⟨[], by simp⟩
    | some ch =>
      obtain ⟨l, hl⟩ := rcChannel_ok h hc
      exact ⟨l, by simp [hl]⟩
  · intro ls; exact ⟨_, rfl⟩

/-- a channel value that differs from a stored one only outside `nicks` (the handlers call `rcChannel c.st ch` on the
*local* value, e.g. with the new topic) -/
theorem rcChannel_ok_keys {st : St} (h : WInvCore st) {lc : String} {ch ch' : Channel}
    (hc : AMap.get st.channels lc = some ch) (hk : AMap.keys ch'.nicks = AMap.keys ch.nicks) :
    ∃ l, rcChannel st ch' = Res.ok l := by
  apply rcChannel_ok_of_indexed
  intro n hn
  rw [hk] at hn
  exact h.membersIndexed hc n hn

theorem Id.ext_fields {a b : Id} (h1 : a.id = b.id) (h2 : a.reply = b.reply) : a = b := by
  cases a; cases b
  simp only at h1 h2
  subst h1 h2
  rfl

/-! the order in which `cmdServerQuit` removes the pseudo-clients of a link (by `reply`) -/

theorem replyLe_trans (a b c : Id) (h1 : decide (a.reply ≤ b.reply) = true) (h2 : decide (b.reply ≤ c.reply) = true) :
    decide (a.reply ≤ c.reply) = true := by
  simp only [decide_eq_true_eq] at *
  omega

theorem replyLe_total (a b : Id) : (decide (a.reply ≤ b.reply) || decide (b.reply ≤ a.reply)) = true := by
  simp only [Bool.or_eq_true, decide_eq_true_eq]
  omega

end Robust.Irc
