import Robust.Irc.Proofs.H1a
import Robust.Irc.Proofs.ChanModeSteps
/-!
Handler proofs, group 1 — part c: `cmdNick`.
-/
namespace Robust.Irc
open AMap

theorem cmdNick_renameCase {st : St} {sid : Id} {s : Session} {nick : String} {b : Bool}
    (h : WInvCore st) (hs : AMap.get st.sessions sid = some s) (hlive : s.deleted = false)
    (hnick : nick ≠ "")
    (hfirst : s.nick = "" → (∀ x, AMap.get st.nicks x ≠ some sid) ∧ s.channels = [])
    (hfree : AMap.contains st.nicks (nickToLower nick) = false ∨
      (s.loggedIn && nickToLower nick == nickToLower (if s.loggedIn then s.nick else "*")) = true)
    (hb : (nickToLower s.nick != "" &&
      !(s.loggedIn && nickToLower nick == nickToLower (if s.loggedIn = true then s.nick else "*"))) = b) :
    RenameCase st.nicks sid s (nickToLower nick) (nickToLower s.nick) b := by
  cases hoc : (s.loggedIn && nickToLower nick == nickToLower (if s.loggedIn = true then s.nick else "*")) with
  | true =>
    -- case-only change of a logged-in session
    have hb' : b = false := by rw [← hb, hoc]; simp
    rw [hb']
    have hl : s.loggedIn = true := by
      cases hl : s.loggedIn with
      | true => rfl
      | false => rw [hl] at hoc; simp at hoc
    rw [hl] at hoc
    simp only [Bool.true_and, if_true, beq_iff_eq] at hoc
    have hne : s.nick ≠ "" := by
      intro he; rw [he, nickToLower_empty] at hoc
      exact hnick (nickToLower_eq_empty.1 hoc)
    exact .same (by rw [hoc]; exact h.owns sid s hs hlive hne)
  | false =>
    have hnone : AMap.get st.nicks (nickToLower nick) = none := by
      rcases hfree with h1 | h1
      · exact AMap.contains_eq_false_iff.1 h1
      · rw [hoc] at h1; cases h1
    by_cases hold : nickToLower s.nick = ""
    · have hb' : b = false := by rw [← hb, hold]; simp
      rw [hb']
      have := hfirst (nickToLower_eq_empty.1 hold)
      exact .first hnone this.1 hlive this.2
    · have hb' : b = true := by rw [← hb, hoc]; simp [hold]
      rw [hb']
      have hne : s.nick ≠ "" := fun he => hold (by rw [he]; exact nickToLower_empty)
      exact .rekey (h.owns sid s hs hlive hne) hnone

variable {G : Prop}

/-- The tail of `cmdNick`.  `Inv` allows a nickless session to be indexed under `""` or to list channels, and NICK
would then break the invariant: the mid-state is promised for a nickless actor that is unindexed and in no channel
(what `NInv` says of it).  Panic-freedom does not need this: where the actor had a nickname the condition is void,
and for a first nick only `maybeLogin` follows, which wants the actor stored and no more. -/
theorem cmdNickTail_wp {c : Ctx} {sid : Id} {m : IrcMsg} {s : Session} {nick : String} {held : Option SvsHold}
    (hp : Pre c sid) (hs : AMap.get c.st.sessions sid = some s) (hvalid : isValidNickname nick = true)
    (hfree : AMap.contains c.st.nicks (nickToLower nick) = false ∨
      (s.loggedIn && nickToLower nick == nickToLower (if s.loggedIn then s.nick else "*")) = true) :
    (cmdNickTail c sid m s nick held).Wp G fun c' =>
      (s.nick = "" → (∀ x, AMap.get c.st.nicks x ≠ some sid) ∧ s.channels = []) → CMid c c' sid := by
  have hnick : nick ≠ "" := isValidNickname_ne_empty hvalid
  unfold cmdNickTail
  dsimp only
  have f0 := holdCtx_frame c (nickToLower nick) held
  have m0 := (CMid.refl hp).holdCtx (nickToLower nick) held
  generalize holdCtx c (nickToLower nick) held = c0 at f0 m0
  refine .ite (fun _ => .pure fun _ => m0) fun _ => ?_
  generalize hb : (nickToLower s.nick != "" &&
      !(s.loggedIn && nickToLower nick == nickToLower (if s.loggedIn = true then s.nick else "*"))) = b
  have hs' : AMap.get c0.st.sessions sid = some s := by rw [f0.sessions]; exact hs
  have hlive : s.deleted = false := hp.live hs
  refine .bind (modS_wp _ fun _ => ⟨s, hs'⟩) fun c1 hm1 _ => ?_
  have st1 := m0.pre.stored.modS hm1 fun _ => rfl
  have hss := renameCtx_sessions c1 sid (nickToLower nick) (nickToLower s.nick) b
  refine .bind (modS_wp _ fun _ => by rw [hss]; exact st1.imp fun _ h => h.1) fun c2 hm2 _ => ?_
  have st2 : Stored c2 sid :=
    Stored.modS (c := renameCtx c1 sid (nickToLower nick) (nickToLower s.nick) b) (by unfold Stored; rw [hss]; exact st1)
      hm2 fun _ => rfl
  have m2 : (s.nick = "" → (∀ x, AMap.get c.st.nicks x ≠ some sid) ∧ s.channels = []) → CMid c c2 sid := fun hfirst => by
    have hcase : RenameCase c0.st.nicks sid s (nickToLower nick) (nickToLower s.nick) b :=
      cmdNick_renameCase m0.pre.inv.toWInvCore hs' hlive hnick (by rw [f0.nicks]; exact hfirst) (by rw [f0.nicks]; exact hfree) hb
    have hI1 := rename_HInv m0.pre.inv.toHInv hs' hm1 (fun _ => ⟨rfl, rfl, rfl, rfl⟩) hcase
    have hL1 : LInv c1.st := m0.pre.linv.modS hm1 (fun _ _ _ => hnick)
    have hD1 := modS_noDeleted (f := fun s => { s with nick := nick }) m0.pre.inv.noDeleted (fun _ => rfl) hm1
    have hlc : nickToLower nick ≠ "" := fun he => hnick (nickToLower_eq_empty.1 he)
    have mr : CMid c (renameCtx c1 sid (nickToLower nick) (nickToLower s.nick) b) sid :=
      ⟨⟨⟨hI1, by rw [hss]; exact hD1⟩, hL1.congr hss, by rw [hss]; exact modS_keeps hm1 m0.pre.actor, hp.reply0⟩,
        (m0.out.frame (.modS hm1)).frame (renameCtx_frame _ _ _ _ _),
        fun h0 => ((m0.ni h0).modS_nick hm1 fun _ => hvalid).renameCtx sid (nickToLower s.nick) _ hlc⟩
    exact mr.modS_inert hm2 updateIrcPrefix_inert updateIrcPrefix_loggedIn
  refine .ite (fun hold => ?_) fun _ => (maybeLogin_lstep st2).mono fun _ l hf => l.mid (m2 hf)
  have m2' := m2 fun he => absurd (by rw [he]; exact nickToLower_empty) (bne_iff_ne.1 hold)
  exact .bind (getS_wp fun _ => st2.imp fun _ h => h.1) fun _ _ _ =>
    .bind (rcCommonChannels_wp _ fun _ => m2'.pre.inv.toWInvCore) fun _ _ _ => .pure fun _ => m2'.emit _ _

theorem cmdNick_wp {c : Ctx} {sid : Id} {m : IrcMsg} {s : Session} (hp : Pre c sid)
    (hs : AMap.get c.st.sessions sid = some s) :
    (cmdNick c sid m).Wp G fun c' =>
      (s.nick = "" → (∀ x, AMap.get c.st.nicks x ≠ some sid) ∧ s.channels = []) → CMid c c' sid :=
  cmdNick_cases (Q := fun r => r.Wp G fun c' => _ → CMid c c' sid) hs (fun _ => .ok fun _ => (CMid.refl hp).sendUser _ _)
    fun _ _ _ hvalid hfree _ => cmdNickTail_wp hp hs hvalid (nick_free_of_not hfree)

end Robust.Irc
