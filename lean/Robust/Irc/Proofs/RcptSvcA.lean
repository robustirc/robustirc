import Robust.Irc.Proofs.RcptSvcBase
import Robust.Irc.Proofs.H3
/-!
C12 for the services handlers, part A: KICK, TOPIC, INVITE, SVSPART, SVSHOLD, SVSMODE, MODE, NICK sent by a
services link.  Numeric replies go to the services links only; every relayed line goes to exactly the sessions
listing the channel (plus the services links where the handler adds them), resp. to the owner of the target
nickname.  `st` is always the state in which the handler starts.
-/
namespace Robust.Irc
open Robust AMap

inductive SrvKickLine (st : St) (m : IrcMsg) (o : Out) : Prop
  /-- numeric reply (403, 441): to the services links only -/
  | reply (h : o.rcpt = st.serverSessions)
  /-- the KICK, under the services prefix: to exactly the sessions listing the channel (the kicked one included)
  and the services links; the target is on the channel -/
  | relay (chn target pn : String) (ch : Channel) (tid : Id)
      (hp0 : m.params[0]? = some chn) (hp1 : m.params[1]? = some target)
      (hc : AMap.get st.channels (chanToLower chn) = some ch)
      (ht : AMap.get st.nicks (nickToLower target) = some tid) (hton : Lists st (chanToLower chn) tid)
      (hpn : pfxName m = .ok pn)
      (hd : o.data = (IrcMsg.mk (some ⟨pn, "services", "services"⟩) "KICK" [chn, target, m.trailing]).render)
      (hr : RcptIs o (Lists st (chanToLower chn)) st.serverSessions)

/-- **services KICK**: the lines, and the membership afterwards (nothing changes, or exactly the target leaves
exactly that channel) -/
theorem cmdServerKick_step {c : Ctx} {sid : Id} {m : IrcMsg} (hi : Inv c.st) (hn : NI c.st) :
    (cmdServerKick c sid m).Sat fun c' => NewOut (SrvKickLine c.st m) c c' ∧
      (SameLists c.st c'.st ∨
        ∃ chn target tid, m.params[0]? = some chn ∧ m.params[1]? = some target ∧
          AMap.get c.st.nicks (nickToLower target) = some tid ∧ Leaves c.st c'.st tid (chanToLower chn)) := by
  unfold cmdServerKick
  refine .andThen (param_sat m 0) fun chn hp0 => .andThen (param_sat m 1) fun target hp1 => ?_
  dsimp only
  cases hch : getChan c (chanToLower chn) with
  | none => exact .bind fun pn _ => .pure ⟨(NewOut.refl _ c).sendSvc fun _ _ => .reply rfl, Or.inl (.refl _)⟩
  | some ch =>
    refine .ite (fun _ => .bind fun pn _ => .pure ⟨(NewOut.refl _ c).sendSvc fun _ _ => .reply rfl, Or.inl (.refl _)⟩)
      fun hon => ?_
    cases hidx : AMap.get c.st.nicks (nickToLower target) with
    | none => exact .panic _
    | some tid =>
      refine .bind fun sp hsp => .bind fun rc hrc c' hl => ?_
      obtain ⟨pn, hpn, rfl⟩ := servicesPrefix_eq_ok hsp
      have h : LeaveRun c (chanToLower chn) (nickToLower target) tid ch rc c.st.serverSessions
          ⟨some ⟨pn, "services", "services"⟩, "KICK", [chn, target, m.trailing]⟩ c' :=
        ⟨hch, by simpa using hon, hidx, hrc, hl⟩
      exact ⟨h.out hi hn fun _ hd hr => .relay chn target pn ch tid hp0 hp1 hch hidx (h.member hi) hpn hd hr,
        Or.inr ⟨chn, target, tid, hp0, hp1, hidx, h.lists hi⟩⟩

inductive SrvTopicLine (st : St) (m : IrcMsg) (o : Out) : Prop
  /-- numeric reply (403): to the services links only -/
  | reply (h : o.rcpt = st.serverSessions)
  /-- the topic change, under the services prefix: to exactly the sessions listing that channel -/
  | relay (chn pn : String) (ch : Channel) (hp0 : m.params[0]? = some chn)
      (hc : AMap.get st.channels (chanToLower chn) = some ch) (hpn : pfxName m = .ok pn)
      (hd : o.data = (IrcMsg.mk (some ⟨pn, "services", "services"⟩) "TOPIC" [chn, m.trailing]).render)
      (hr : RcptIs o (Lists st (chanToLower chn)) [])

theorem cmdServerTopic_out {c c' : Ctx} {sid : Id} {m : IrcMsg} (hi : Inv c.st) (hn : NI c.st)
    (hr : cmdServerTopic c sid m = .ok c') : NewOut (SrvTopicLine c.st m) c c' ∧ SameLists c.st c'.st := by
  revert c' hr
  show (cmdServerTopic c sid m).Sat _
  unfold cmdServerTopic
  refine .andThen (param_sat m 0) fun chn hp0 => ?_
  dsimp only
  cases hch : getChan c (chanToLower chn) with
  | none => exact .bind fun pn _ => .pure ⟨(NewOut.refl _ c).sendSvc fun _ _ => .reply rfl, .refl _⟩
  | some ch =>
    refine .bind fun p2 _ => .bind fun ts? _ => ?_
    cases ts? with
    | none => exact .declined _
    | some ts =>
      refine .bind fun p1 _ => .ite (fun _ => .declined _) fun _ => .bind fun sp hsp => .bind fun rc hrc => .pure ?_
      obtain ⟨pn, hpn, rfl⟩ := servicesPrefix_eq_ok hsp
      refine ⟨NewOut.emit (c := putChan c _ _) ((NewOut.refl _ c).step rfl) fun _ _ => ?_, SameLists.of_eq rfl⟩
      exact .relay chn pn ch hp0 hch hpn rfl (rcChannel_lists_sim hi hn hrc (StSim.putChan hi.toWInvCore hch rfl rfl) hch
        (by rw [putChan_channels, AMap.get_set_same])).rcptIs_nil

inductive SrvInviteLine (st : St) (m : IrcMsg) (o : Out) : Prop
  /-- numeric reply (401, 403, 443) and the 341 confirmation: to the services links only -/
  | reply (h : o.rcpt = st.serverSessions)
  /-- the INVITE, under the services prefix: to the invited session only -/
  | invite (nickname chn pn : String) (tid : Id) (t : Session) (ch : Channel)
      (hp0 : m.params[0]? = some nickname) (hp1 : m.params[1]? = some chn)
      (hi : AMap.get st.nicks (nickToLower nickname) = some tid) (ht : AMap.get st.sessions tid = some t)
      (hc : AMap.get st.channels (chanToLower chn) = some ch) (hpn : pfxName m = .ok pn)
      (hd : o.data = (IrcMsg.mk (some ⟨pn, "services", "services"⟩) "INVITE" [t.nick, ch.name]).render)
      (hr : ToOnly tid o)
  /-- the server NOTICE "… invited … into the channel": to exactly the sessions listing the channel -/
  | notice (chn : String) (ch : Channel) (hp1 : m.params[1]? = some chn)
      (hc : AMap.get st.channels (chanToLower chn) = some ch)
      (hr : RcptIs o (Lists st (chanToLower chn)) [])

theorem cmdServerInvite_out {c c' : Ctx} {sid : Id} {m : IrcMsg} (hi : Inv c.st) (hn : NI c.st)
    (hr : cmdServerInvite c sid m = .ok c') : NewOut (SrvInviteLine c.st m) c c' ∧ SameLists c.st c'.st := by
  revert c' hr
  show (cmdServerInvite c sid m).Sat _
  have reply : ∀ f : String → IrcMsg, (do let pn ← pfxName m; pure (sendSvc c (f pn))).Sat
      fun c' => NewOut (SrvInviteLine c.st m) c c' ∧ SameLists c.st c'.st :=
    fun _ => .bind fun _ _ => .pure ⟨(NewOut.refl _ c).sendSvc fun _ _ => .reply rfl, .refl _⟩
  unfold cmdServerInvite
  refine .andThen (param_sat m 0) fun nickname hp0 => .andThen (param_sat m 1) fun chn hp1 => ?_
  cases hidx : AMap.get c.st.nicks (nickToLower nickname) with
  | none => exact reply _
  | some tid =>
    refine .andThen (getS_sat c tid) fun t ht => ?_
    dsimp only
    cases hch : getChan c (chanToLower chn) with
    | none => exact reply _
    | some ch =>
      refine .ite (fun _ => reply _) fun _ => .bind fun c1 h1 => .bind fun pn hpn => .bind fun sp hsp =>
        .bind fun rc hrc => .pure ?_
      obtain ⟨pn', hpn', rfl⟩ := servicesPrefix_eq_ok hsp
      rw [hpn] at hpn'
      cases hpn'
      obtain ⟨ho1, hsvc, hsl, hrcl⟩ := inviteMark hi hn h1
      refine ⟨?_, hsl⟩
      refine (((NewOut.of_out ho1).sendSvc fun _ _ => .reply hsvc).sendUser fun _ _ => ?_).emit fun _ _ => ?_
      · exact .invite nickname chn pn tid t ch hp0 hp1 hidx ht hch hpn rfl rfl
      · exact .notice chn ch hp1 hch (hrcl hch hrc).rcptIs_nil

inductive SrvSvspartLine (st : St) (m : IrcMsg) (o : Out) : Prop
  /-- numeric reply (401, 403, 442): to the services links only -/
  | reply (h : o.rcpt = st.serverSessions)
  /-- the PART, under the parted session's own prefix: to exactly the sessions listing the channel (the leaving
  one included) and the services links -/
  | relay (p0 chn : String) (tid : Id) (t : Session) (ch : Channel)
      (hp0 : m.params[0]? = some p0) (hp1 : m.params[1]? = some chn)
      (hi : AMap.get st.nicks (nickToLower p0) = some tid) (ht : AMap.get st.sessions tid = some t)
      (hc : AMap.get st.channels (chanToLower chn) = some ch) (hon : Lists st (chanToLower chn) tid)
      (hd : o.data = (IrcMsg.mk (some t.ircPrefix) "PART" [chn]).render)
      (hr : RcptIs o (Lists st (chanToLower chn)) st.serverSessions)

/-- **SVSPART**: the lines, and the membership afterwards (nothing changes, or exactly the target leaves exactly that
channel) -/
theorem cmdServerSvspart_step {c : Ctx} {sid : Id} {m : IrcMsg} (hi : Inv c.st) (hn : NI c.st) :
    (cmdServerSvspart c sid m).Sat fun c' => NewOut (SrvSvspartLine c.st m) c c' ∧
      (SameLists c.st c'.st ∨
        ∃ p0 chn tid, m.params[0]? = some p0 ∧ m.params[1]? = some chn ∧
          AMap.get c.st.nicks (nickToLower p0) = some tid ∧ Leaves c.st c'.st tid (chanToLower chn)) := by
  unfold cmdServerSvspart
  refine .andThen (param_sat m 0) fun p0 hp0 => .andThen (param_sat m 1) fun chn hp1 => ?_
  dsimp only
  cases hidx : AMap.get c.st.nicks (nickToLower p0) with
  | none => exact .bind fun pn _ => .pure ⟨(NewOut.refl _ c).sendSvc fun _ _ => .reply rfl, Or.inl (.refl _)⟩
  | some tid =>
    dsimp only
    cases hch : getChan c (chanToLower chn) with
    | none => exact .bind fun pn _ => .pure ⟨(NewOut.refl _ c).sendSvc fun _ _ => .reply rfl, Or.inl (.refl _)⟩
    | some ch =>
      refine .ite (fun _ => .bind fun pn _ => .pure ⟨(NewOut.refl _ c).sendSvc fun _ _ => .reply rfl, Or.inl (.refl _)⟩)
        fun hon => .andThen (getS_sat c tid) fun t ht => .bind fun rc hrc c' hl => ?_
      have h : LeaveRun c (chanToLower chn) (nickToLower p0) tid ch rc c.st.serverSessions
          ⟨some t.ircPrefix, "PART", [chn]⟩ c' :=
        ⟨hch, by simpa using hon, hidx, hrc, hl⟩
      exact ⟨h.out hi hn fun _ hd hr => .relay p0 chn tid t ch hp0 hp1 hidx ht hch (h.member hi) hd hr,
        Or.inr ⟨p0, chn, tid, hp0, hp1, hidx, h.lists hi⟩⟩

theorem cmdServerSvshold_out {c c' : Ctx} {sid : Id} {m : IrcMsg} (hr : cmdServerSvshold c sid m = .ok c') :
    c'.out = c.out ∧ c'.st.sessions = c.st.sessions ∧ c'.st.nicks = c.st.nicks ∧ c'.st.channels = c.st.channels ∧
    c'.st.serverSessions = c.st.serverSessions := by
  revert c' hr
  show (cmdServerSvshold c sid m).Sat _
  unfold cmdServerSvshold
  refine .bind fun s _ => .bind fun p0 _ => .ite (fun _ => .bind fun p1 _ => ?_) fun _ => .pure ⟨rfl, rfl, rfl, rfl, rfl⟩
  cases parseDigits p1 with
  | none => exact .declined _
  | some n => exact .ite (fun _ => .declined _) fun _ => .pure ⟨rfl, rfl, rfl, rfl, rfl⟩

/-- the lines `cmdServerSvsmode` can produce (`s` = the stored session of the acting link) -/
inductive SrvSvsmodeLine (st : St) (s : Session) (m : IrcMsg) (o : Out) : Prop
  /-- numeric reply (401, 501): to the services links only -/
  | reply (h : o.rcpt = st.serverSessions)
  /-- the final `MODE nick modes`, under the link's prefix: to the owner of the target nickname only -/
  | mode (p0 : String) (tid : Id) (hp0 : m.params[0]? = some p0)
      (hi : AMap.get st.nicks (nickToLower p0) = some tid)
      (hd : ∃ nick modes, o.data = (IrcMsg.mk (some s.ircPrefix) "MODE" [nick, modes]).render)
      (hr : ToOnly tid o)

private theorem svcA_svsmodeStep {c ci : Ctx} {s : Session} {m : IrcMsg} {tid : Id} {mc : ModeCmd}
    (hP : ListsKept c ci ∧ NewOut (SrvSvsmodeLine c.st s m) c ci) :
    (svsmodeStep tid ci mc).Sat fun ci' => ListsKept c ci' ∧ NewOut (SrvSvsmodeLine c.st s m) c ci' := by
  unfold svsmodeStep
  have keep : ∀ {f : Session → Session}, (∀ t, (f t).id = t.id) → (∀ t, (f t).channels = t.channels) →
      (modS ci tid f).Sat fun ci' => ListsKept c ci' ∧ NewOut (SrvSvsmodeLine c.st s m) c ci' :=
    fun h1 h2 _ hr => ⟨hP.1.modS hr h1 h2, hP.2.frame (.modS hr)⟩
  exact .ite (fun _ => keep (fun _ => rfl) fun _ => rfl) fun _ => .ite (fun _ => keep (fun _ => rfl) fun _ => rfl)
    fun _ => .ok ⟨hP.1.of_st rfl, hP.2.sendSvc fun _ _ => .reply hP.1.svc⟩

theorem cmdServerSvsmode_out {c c' : Ctx} {sid : Id} {m : IrcMsg} {s : Session} (hi : Inv c.st)
    (hs : AMap.get c.st.sessions sid = some s)
    (hr : cmdServerSvsmode c sid m = .ok c') : NewOut (SrvSvsmodeLine c.st s m) c c' ∧ SameLists c.st c'.st := by
  revert c' hr
  show (cmdServerSvsmode c sid m).Sat _
  have reply : ∀ msg, NewOut (SrvSvsmodeLine c.st s m) c (sendSvc c msg) ∧ SameLists c.st (sendSvc c msg).st :=
    fun _ => ⟨(NewOut.refl _ c).sendSvc fun _ _ => .reply rfl, .refl _⟩
  rw [cmdServerSvsmode_eq]
  refine .bindEq (getS_of_get hs) (.andThen (param_sat m 0) fun p0 hp0 => ?_)
  cases hidx : AMap.get c.st.nicks (nickToLower p0) with
  | none => exact .pure (reply _)
  | some tid =>
    refine .bind fun modestr _ => .ite (fun _ => .pure (reply _)) fun _ => ?_
    refine .andThen (Res.Sat.foldlM (I := fun ci => ListsKept c ci ∧ NewOut (SrvSvsmodeLine c.st s m) c ci) _
      ⟨ListsKept.refl hi.toWInvCore.idOK, NewOut.refl _ c⟩ fun _ _ _ hP => svcA_svsmodeStep hP) fun c1 h1 => .bind fun t _ => .pure ?_
    exact ⟨h1.2.sendUser fun _ _ => .mode p0 tid hp0 hidx ⟨_, _, rfl⟩ rfl, h1.1.lists⟩

inductive SrvModeLine (st : St) (m : IrcMsg) (o : Out) : Prop
  /-- numeric reply (403, 441, 472): to the services links only -/
  | reply (h : o.rcpt = st.serverSessions)
  /-- the mode change, under the services prefix: to exactly the sessions listing that channel -/
  | relay (chn pn : String) (ch : Channel) (hp0 : m.params[0]? = some chn)
      (hc : AMap.get st.channels (chanToLower chn) = some ch) (hpn : pfxName m = .ok pn)
      (hd : o.data = (IrcMsg.mk (some ⟨pn, "services", "services"⟩) "MODE" (chn :: ircParams (normalizeModes m))).render)
      (hr : RcptIs o (Lists st (chanToLower chn)) [])

/-- loop invariant of the mode fold: nothing the invariants read has changed (in particular the channel keeps its
member keys), the services links are the same, only replies were produced -/
private def svcA_ModeInv (c : Ctx) (m : IrcMsg) (ci : Ctx) : Prop :=
  StSim c.st ci.st ∧ ci.st.serverSessions = c.st.serverSessions ∧ NewOut (SrvModeLine c.st m) c ci

private theorem svcA_ModeInv.putChan {c ci : Ctx} {m : IrcMsg} {lc : String} {chi ch' : Channel}
    (hP : svcA_ModeInv c m ci) (hw : WInvCore c.st) (hg : AMap.get ci.st.channels lc = some chi)
    (hn : ch'.name = chi.name) (hk : AMap.keys ch'.nicks = AMap.keys chi.nicks) :
    svcA_ModeInv c m (putChan ci lc ch') :=
  ⟨hP.1.trans (StSim.putChan (hw.sim hP.1) hg hn hk), hP.2.1, hP.2.2.step rfl⟩

private theorem svcA_ModeInv.sendSvc {c ci : Ctx} {m : IrcMsg} (hP : svcA_ModeInv c m ci) (msg : IrcMsg) :
    svcA_ModeInv c m (sendSvc ci msg) :=
  ⟨hP.1, hP.2.1, hP.2.2.sendSvc fun _ _ => .reply hP.2.1⟩

private theorem svcA_serverModeStep {c ci : Ctx} {m : IrcMsg} {chn lc : String} {mc : ModeCmd}
    (hw : WInvCore c.st) (hP : svcA_ModeInv c m ci) : (serverModeStep m chn lc ci mc).Sat (svcA_ModeInv c m) := by
  unfold serverModeStep
  cases hch : getChan ci lc with
  | none => exact .panic _
  | some ch =>
    dsimp only
    refine .ite (fun _ => .pure (hP.putChan hw hch rfl rfl)) fun _ => .ite (fun _ => ?_) fun _ =>
      .bind fun _ _ => .pure (hP.sendSvc _)
    cases hperms : AMap.get ch.nicks (nickToLower mc.param) with
    | none => exact .bind fun _ _ => .pure (hP.sendSvc _)
    | some perms => exact .ite (fun _ => .pure (hP.putChan hw hch rfl (AMap.keys_set_of_mem _ (AMap.mem_keys_of_get hperms)))) fun _ => .pure hP

theorem cmdServerMode_out {c c' : Ctx} {sid : Id} {m : IrcMsg} (hi : Inv c.st) (hn : NI c.st)
    (hr : cmdServerMode c sid m = .ok c') : NewOut (SrvModeLine c.st m) c c' ∧ SameLists c.st c'.st := by
  revert c' hr
  show (cmdServerMode c sid m).Sat _
  have hw := hi.toWInvCore
  rw [cmdServerMode_eq]
  refine .andThen (param_sat m 0) fun chn hp0 => ?_
  dsimp only
  cases hch0 : getChan c (chanToLower chn) with
  | none => exact .bind fun pn _ => .pure ⟨(NewOut.refl _ c).sendSvc fun _ _ => .reply rfl, .refl _⟩
  | some ch0 =>
    refine .andThen (Res.Sat.foldlM (I := svcA_ModeInv c m) _ ⟨.refl hw, rfl, NewOut.refl _ c⟩
      fun _ _ _ hP => svcA_serverModeStep hw hP)
      fun c1 ⟨hs1, _, ho1⟩ => .ite (fun _ => .pure ⟨ho1, .of_sim hs1⟩) fun _ => ?_
    cases hch1 : getChan c1 (chanToLower chn) with
    | none => exact .panic _
    | some ch1 =>
      refine .bind fun sp hsp => .bind fun rc hrc => .pure ?_
      obtain ⟨pn, hpn, rfl⟩ := servicesPrefix_eq_ok hsp
      refine ⟨ho1.emit fun _ _ => ?_, .of_sim hs1⟩
      exact .relay chn pn ch0 hp0 hch0 hpn rfl (rcChannel_lists_sim hi hn hrc hs1 hch0 hch1).rcptIs_nil

/-! ### NICK (a services link introduces a pseudo-client) -/

/-- every line of a services NICK is a reply for the services links; the services links stay the same and no
stored session gains or loses a channel (the new pseudo-client lists none) -/
theorem cmdServerNick_out {c c' : Ctx} {sid : Id} {m : IrcMsg}
    (hr : cmdServerNick c sid m = .ok c') :
    NewOut (fun o => o.rcpt = c.st.serverSessions) c c' ∧ c'.st.serverSessions = c.st.serverSessions ∧
    ∀ lc id, Lists c.st lc id ↔ Lists c'.st lc id := by
  revert c' hr
  show (cmdServerNick c sid m).Sat _
  have reply : ∀ msg, NewOut (fun o => o.rcpt = c.st.serverSessions) c (sendSvc c msg) ∧
      (sendSvc c msg).st.serverSessions = c.st.serverSessions ∧
      ∀ lc id, Lists c.st lc id ↔ Lists (sendSvc c msg).st lc id :=
    fun _ => ⟨(NewOut.refl _ c).sendSvc fun _ _ => rfl, rfl, fun _ _ => .rfl⟩
  unfold cmdServerNick
  refine .bind fun s _ => .ite (fun _ => .pure ⟨NewOut.refl _ c, rfl, fun _ _ => .rfl⟩) fun _ =>
    .bind fun p0 _ => .ite (fun _ => .pure (reply _)) fun _ => .ite (fun _ => .pure (reply _)) fun _ => ?_
  dsimp only
  refine .ite (fun _ => .pure (reply _)) fun hsess => ?_
  cases hcs : createSession c.st ⟨s.id.id, fnv64 p0⟩ "" s.lastActivity with
  | none => exact .pure (reply _)
  | some st1 =>
    refine .bind fun p3 _ => .bind fun c2 hm => .pure ?_
    -- the new pseudo-client is stored under a fresh id and lists no channel
    have hfresh : AMap.get c.st.sessions ⟨s.id.id, fnv64 p0⟩ = none :=
      AMap.contains_eq_false_iff.1 (by simpa using hsess)
    have e1 := createSession_eq hcs
    subst e1
    obtain ⟨ns, hns, rfl⟩ := modS_eq_ok.1 hm
    change AMap.get (AMap.set c.st.sessions _ _) _ = some ns at hns
    rw [AMap.get_set_same] at hns
    cases hns
    refine ⟨NewOut.of_out rfl, rfl, fun lc id => ⟨?_, ?_⟩⟩
    · rintro ⟨x, hx, hl⟩
      have hne : id ≠ ⟨s.id.id, fnv64 p0⟩ := by
        intro he; rw [he, hfresh] at hx; cases hx
      refine ⟨x, ?_, hl⟩
      show AMap.get (AMap.set (AMap.set c.st.sessions (⟨s.id.id, fnv64 p0⟩ : Id) _) (⟨s.id.id, fnv64 p0⟩ : Id) _) id = some x
      rw [AMap.get_set_other _ hne, AMap.get_set_other _ hne]
      exact hx
    · rintro ⟨x, hx, hl⟩
      change AMap.get (AMap.set (AMap.set c.st.sessions (⟨s.id.id, fnv64 p0⟩ : Id) _) (⟨s.id.id, fnv64 p0⟩ : Id) _) id = some x at hx
      rw [AMap.get_set] at hx
      split at hx
      · cases hx
        cases hl
      · rename_i hne
        rw [AMap.get_set_other _ hne] at hx
        exact ⟨x, hx, hl⟩

end Robust.Irc
