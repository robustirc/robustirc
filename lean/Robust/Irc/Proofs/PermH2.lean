import Robust.Irc.Proofs.PermH1
/-!
Order-independence, handlers 2: `cmdNames` (collect + sort), `cmdKick`, `cmdTopic`.
-/
namespace Robust.Irc
open Robust
attribute [local irreducible] IrcMsg.render emit sendUser sendSvc

theorem cmdNames_congr : HCongr cmdNames := by
  intro c c' sid m h
  unfold cmdNames
  refine getS_bind h sid (fun s chs inv hs => ?_)
  simp only [hs.chanContains, h.st.get_nicks]
  split
  · ceqs
  · rename_i channelname _
    rcases getChan_split h (chanToLower channelname) with ⟨h1, h2⟩ | ⟨ch, n, h1, h2, hch, hk⟩
    · simp only [h1, h2]; ceqs
    · simp only [h1, h2]
      -- the member map is iterated in map order; the collected names are sorted
      refine RRel.bind (R := PermR (fun a b => a = b)) ?_ (fun es es' hes => ?_)
      · refine mapRes_perm_rel hch.nicks_perm (fun e _ => ?_) (fun e _ w => ?_)
        · split
          · exact .panic
          · rename_i mid _
            rcases h.st.sess_cases mid with ⟨h3, h4⟩ | ⟨ms, chs, inv, h3, h4, hms⟩
            · simp only [h3, h4]; exact .panic
            · simp only [h3, h4]
              exact RRel.refl (fun _ => rfl) _
        · split
          · intro h; cases h
          · split
            · intro h; cases h
            · split <;> intro h <;> cases h
      · rw [sortStr_eq_of_perm (hes.perm.filterMap id)]
        ceqs

theorem cmdKick_congr : HCongr cmdKick := by
  intro c c' sid m h
  unfold cmdKick
  refine getS_bind h sid (fun s chs inv hs => ?_)
  refine RRel.bind_same (fun channelname => ?_)
  refine RRel.bind_same (fun target => ?_)
  rw [h.st.get_nicks]
  rcases getChan_split h (chanToLower channelname) with ⟨h1, h2⟩ | ⟨ch, n, h1, h2, hch, hk⟩
  · simp only [h1, h2]
    ceqs
  · simp only [h1, h2, hch.get_nicks, hch.contains_nicks]
    split
    · ceqs
    apply RRel.ite
    · ceqs
    apply RRel.ite
    · ceqs
    split
    · refine RRel.bind (rcChannel_congr h.st hch) (fun rc rc' hrc => ?_)
      exact leaveChannel_congr (emit_congr h rfl (hrc.append (rcServices_perm h.st))) _ _ _
    · exact .panic

theorem cmdTopic_congr : HCongr cmdTopic := by
  intro c c' sid m h
  unfold cmdTopic
  refine getS_bind h sid (fun s chs inv hs => ?_)
  refine RRel.bind_same (fun channel => ?_)
  simp -zeta only [hs.chanContains]
  extract_lets lc
  rcases getChan_split h lc with ⟨h1, h2⟩ | ⟨ch, n, h1, h2, hch, hk⟩
  · simp -zeta only [h1, h2]; ceqs
  · simp -zeta only [h1, h2, hch.get_nicks]
    extract_lets isOp chA cA jpA cB chB cC jpB chA' cA' jpA' cB' chB' cC' jpB'
    have hchA : ChanEq chA chA' := ⟨rfl, hch.nicks⟩
    have hcA : CEq cA cA' := putChan_congr h lc hchA hk
    have hjpA : RRel CEq (jpA ()) (jpA' ()) := by
      refine RRel.bind (rcChannel_congr hcA.st hchA) (fun rc rc' hrc => ?_)
      extract_lets c2 c2'
      ceq_let h2 c2 c2'
      ceqs
    have hchB : ChanEq chB chB' := ⟨rfl, hch.nicks⟩
    have hcC : CEq cC cC' := putChan_congr h lc hchB hk
    have hjpB : RRel CEq (jpB ()) (jpB' ()) := by
      refine RRel.bind (rcChannel_congr hcC.st hchB) (fun rc rc' hrc => ?_)
      extract_lets c2 c2'
      ceq_let h2 c2 c2'
      ceqs
    have hcB : CEq cB cB' := by ceqs
    clear_value jpA jpA' jpB jpB' cB cB'
    apply RRel.ite
    · ceqs
    apply RRel.ite
    · apply RRel.ite
      · refine RRel.bind_same (fun op => ?_)
        apply RRel.ite
        · ceqs
        · exact hjpA
      · exact hjpA
    apply RRel.ite
    · apply RRel.ite <;> ceqs
    · apply RRel.ite
      · refine RRel.bind_same (fun op => ?_)
        apply RRel.ite
        · ceqs
        · exact hjpB
      · exact hjpB

end Robust.Irc
