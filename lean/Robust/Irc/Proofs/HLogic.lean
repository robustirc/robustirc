import Robust.Irc.Proofs.CmdInv
import Robust.Irc.Proofs.Stable
/-!
One walk per handler for every predicate of the context that is kept step by step.

Several invariants are proved of every handler in the same way: `I c → (cmdX c sid m).Sat I`, by walking the body
(`ResSat.lean`) and using, at each step, that `I` survives that step.  `HLogic I` is what such a walk needs to
know of `I`; a handler then has ONE theorem `cmdX_keeps (L : HLogic I)`, and `CCtx` (no CR/LF/NUL in stored or sent
text), `KStep c0` (every sent line has a command) and every `Stable` predicate of the state are instances
(`HLogic.clean`, `HLogic.kstep`, `HLogic.stable`).

What `I` can say is one of three things.  It may speak of the *text* that is stored and sent (`L.text`): then it
implies `CInv`, and whatever is sent or stored must be shown clean.  It may speak of the *commands* and prefixes of
the lines sent (`L.cmds`): then it implies `KInv`, and every line must be shown to have a command.  And it may read
the fields of stored sessions and channels that only special handlers change: so an ordinary update of a session
keeps `Session.kept` (`SKeep`), one of a channel keeps its member list.  A family that does not speak of text (or of
commands) is never asked about it: the obligations are implications from `L.text` (`L.cmds`).  So a predicate of
the state alone (every `Stable` one) is an instance with both `False`: nothing that is sent can break it, and of what
is stored it reads no text, so all it has to survive are the updates themselves, which is what `Stable` says.

How a walk reads (`cmdKick_keeps` in `KeepsClient.lean` is the model):

    unfold cmdKick
    refine .andThen (L.getS hc) fun s cs => .andThen hm.param fun chn hchn =>             -- cs : L.Sess s, hchn : L.Str chn
      .andThen hm.param fun target ht => ?_
    …
    | none => exact .pure (L.srv "403" hc ⟨cs.nick, hchn, L.lit clean_lit⟩)               -- a numeric to whomever
    …
    exact .bind fun rc _ => L.leaveChannel (L.relay "KICK" hc cs ⟨hchn, ht, hm.trailing⟩)

* `L.Str x` (`L.text → Clean x`) is what is known of a string that may be sent or stored: `L.lit clean_lit` for a
  literal, `cs.nick`, `cs.user`, … for the fields of a stored session (`cs : L.Sess s` from `L.getS hc`), `hm.param`,
  `hm.trailing`, … for the received line (`hm : L.Msg m`), `(L.chan hc hch).topic` for a stored channel; a lemma
  `Clean a → Clean b` is used as `h.map` (`hm.trailing.map clean_trimSpace`), and `Str.append`, `Str.ite`, `Str.join`
  build the longer strings.  A parameter list is a tuple `⟨h₁, h₂, h₃⟩ : AllStr L.Str [p₁, p₂, p₃]`.
* A line is sent by `L.srv code hc ps` (server prefix), `L.relay cmd hc cs ps` (prefix of a stored session),
  `L.relayNick`, `L.plain` (no prefix), `L.svc` (the services prefix made from the received line), `L.emit` (anything
  else: both obligations by hand).  Literal commands are checked by evaluation (the default arguments).
* An ordinary update of a stored session is `L.modS hc (fun _ => rfl) fun x _ hs => { hs with awayMsg := h x }`
  (`fun _ _ hs => { hs with }` when no text field changes); of a stored channel `L.putChan hc hch rfl fun x => …`.
* Where the body binds a new context (`let c := sendUser c sid …`), the most frequent step of all, the binding is
  taken out of the goal and the fact recorded: `extract_lets c1 c2` then `have h1 : I c1 := L.srv "375" hc …` (with
  the type: a `have` without it leaves the parameter list unknown and `⟨…⟩` fails).  After `cases h : discr` the
  `match` on the constructor is reduced by `dsimp -zeta only`, which leaves the bindings in place for `extract_lets`
  (`extract_lets +onlyGivenNames` when only the first few bindings are wanted).
* A step that only some families survive is a hypothesis of the walk, stated for that very step: a chanop flag or a
  new member (`HLogic.SetsMembers I`), a new channel (`L.AddsChan`), a nick change (`L.NickUpd tid n c`), the
  operator flag (`hoper : … → ∀ ⦃c1⦄, I c1 → (modS c1 sid operSession).Sat I`, under the condition that makes the
  handler set it: none for PASS, `operCreds` for OPER, `OperLogin sid c` for the login), a new user name (`huser`),
  GLINE's ban (`hban`), the pseudo-client of the services' NICK (`hnew` of `cmdServerNick_keeps`), the link flag of
  SERVER (`hsv`).  `HLogic.Special` (`KeepsTable.lean`) collects them by handler; each family supplies its value: a
  `Stable` predicate from what it assumes of that handler (`Special.logic`, `StableTable.lean`), `CCtx` and `KStep` by
  proving them on the spot (`clean_special` in `CleanEntry.lean`, `HArgs.special` in `CmdEntry.lean`).  So is what only
  one family assumes of the received line (`hp : L.cmds → PfxArgOK m`).
-/
namespace Robust.Irc
open Robust AMap

/-- the entries that a `mapRes` did not skip -/
theorem OptAll.filterMap {α : Type} {P : α → Prop} {l : List (Option α)} (h : ∀ o ∈ l, OptAll P o) :
    ∀ x ∈ l.filterMap id, P x := fun x hx =>
  let ⟨o, ho, he⟩ := List.mem_filterMap.1 hx
  h o ho x he

structure HLogic (I : Ctx → Prop) where
  /-- `I` speaks of the text that is stored and sent -/
  text : Prop
  /-- `I` speaks of the commands and prefixes of the lines sent -/
  cmds : Prop
  cinv : ∀ {c : Ctx}, I c → text → CInv c.st
  kinv : ∀ {c : Ctx}, I c → cmds → KInv c.st
  /-- a new line, to whomever (`sendUser` and `sendSvc` unfold to `emit`) -/
  emit : ∀ {c : Ctx} {msg : IrcMsg} {rc : List Nat}, I c → (text → CleanMsg msg) → (cmds → HasCommand msg.render) →
    I (emit c msg rc)
  modS : ∀ {c : Ctx} {tid : Id} {f : Session → Session}, I c → SKeep f →
    (text → ∀ s, CleanSess s → CleanSess (f s)) → (modS c tid f).Sat I
  putChan : ∀ {c : Ctx} {lc : String} {ch0 ch : Channel}, I c → getChan c lc = some ch0 → ch.nicks = ch0.nicks →
    (text → CleanChan ch) → I (putChan c lc ch)
  leaveChannel : ∀ {c : Ctx} {lc lcn : String} {tid : Id}, I c → (leaveChannel c lc lcn tid).Sat I
  deleteSession : ∀ {c : Ctx} {sid : Id}, I c → (deleteSession c sid).Sat I
  /-- the nick index and the list of services links may change freely, the held nicks as long as the reasons are
  admissible text -/
  frame : ∀ {c c' : Ctx}, I c → c'.st.sessions = c.st.sessions → c'.st.channels = c.st.channels →
    c'.st.config = c.st.config → c'.st.lastProcessed = c.st.lastProcessed → c'.st.serverName = c.st.serverName →
    c'.out = c.out → (text → ∀ e ∈ c'.st.svsholds, Clean e.2.reason) → I c'

namespace HLogic
variable {I : Ctx → Prop} (L : HLogic I)

def Str (x : String) : Prop := L.text → Clean x

structure Sess (s : Session) : Prop where
  clean : L.text → CleanSess s
  ksess : L.cmds → KSess s

def Msg (m : IrcMsg) : Prop := L.text → CleanMsg m

variable {L}

theorem Str.map {a b : String} (h : L.Str a) (f : Clean a → Clean b) : L.Str b := fun x => f (h x)

theorem Str.append {a b : String} (ha : L.Str a) (hb : L.Str b) : L.Str (a ++ b) := fun x => (ha x).append (hb x)

theorem Str.ite {p : Prop} [Decidable p] {a b : String} (ha : L.Str a) (hb : L.Str b) : L.Str (if p then a else b) := by
  split <;> assumption

theorem Str.join {sep : String} {l : List String} (hsep : Clean sep) (h : ∀ x ∈ l, L.Str x) : L.Str (joinStr sep l) :=
  fun x => clean_joinStr hsep fun s hs => h s hs x

theorem strs_clean : ∀ {ps : List String}, AllStr L.Str ps → L.text → AllStr Clean ps
  | [], _, _ => True.intro
  | [_], h, x => h x
  | _ :: _ :: _, h, x => ⟨h.1 x, strs_clean h.2 x⟩

namespace Sess
variable {s : Session} (cs : L.Sess s)
include cs
theorem nick : L.Str s.nick := fun x => (cs.clean x).nick
theorem user : L.Str s.username := fun x => (cs.clean x).username
theorem realname : L.Str s.realname := fun x => (cs.clean x).realname
theorem awayMsg : L.Str s.awayMsg := fun x => (cs.clean x).awayMsg
theorem svid : L.Str s.svid := fun x => (cs.clean x).svid
theorem pass : L.Str s.pass := fun x => (cs.clean x).pass
theorem pname : L.Str s.ircPrefix.name := fun x => (cs.clean x).pname
theorem puser : L.Str s.ircPrefix.user := fun x => (cs.clean x).puser
theorem phost : L.Str s.ircPrefix.host := fun x => (cs.clean x).phost
theorem pstr : L.Str s.ircPrefix.str := fun x => prefix_str_clean _ (cs.clean x).pname (cs.clean x).puser (cs.clean x).phost
end Sess

namespace Msg
variable {m : IrcMsg} (hm : L.Msg m)
include hm
theorem param {i : Nat} : (param m i).Sat L.Str := fun p hp x => (hm x).param p hp
theorem trailing : L.Str m.trailing := fun x => (hm x).trailing
theorem command : L.Str m.command := fun x => (hm x).command
theorem upperCommand : L.Str (toUpper m.command) := fun x => (hm x).upperCommand
theorem params : ∀ p ∈ m.params, L.Str p := fun p hp x => (hm x).params p hp
theorem head {p : String} (hp : m.params.head? = some p) : L.Str p := fun x => (hm x).head hp
theorem headD : L.Str (m.params.head?.getD "") := fun x => (hm x).headD
theorem pfxName : (pfxName m).Sat L.Str := fun p hp x => (hm x).pfxName p hp
theorem joinParams : L.Str (joinStr " " m.params) := fun x => (hm x).joinParams
theorem joinDrop (n : Nat) : L.Str (joinStr " " (m.params.drop n)) := fun x => (hm x).joinDrop n
theorem modes (x : L.text) : CleanModes (normalizeModes m) := normalizeModes_clean (hm x)
end Msg

theorem Msg.of_clean {m : IrcMsg} (h : CleanMsg m) : L.Msg m := fun _ => h

theorem Msg.of_not {m : IrcMsg} (h : ¬L.text) : L.Msg m := fun x => (h x).elim

variable (L)

theorem lit {x : String} (h : Clean x) : L.Str x := fun _ => h

variable {c : Ctx}

theorem mem (hc : I c) {e : Id × Session} (he : e ∈ c.st.sessions) : L.Sess e.2 :=
  ⟨fun x => (L.cinv hc x).sessions e he, fun y => (L.kinv hc y).sessions e he⟩

theorem sess (hc : I c) {sid : Id} {s : Session} (hs : AMap.get c.st.sessions sid = some s) : L.Sess s :=
  L.mem hc (AMap.mem_of_get hs)

theorem getS (hc : I c) {sid : Id} : (getS c sid).Sat L.Sess := fun _ hs => L.sess hc (getS_eq_ok.1 hs)

structure Chan (ch : Channel) : Prop where
  clean : L.text → CleanChan ch

namespace Chan
variable {L} {ch : Channel} (h : L.Chan ch)
include h
theorem name : L.Str ch.name := fun x => (h.clean x).name
theorem topic : L.Str ch.topic := fun x => (h.clean x).topic
theorem topicNick : L.Str ch.topicNick := fun x => (h.clean x).topicNick
theorem key : L.Str ch.key := fun x => (h.clean x).key
theorem bans : ∀ b ∈ ch.bans, L.Str b.mask := fun b hb x => (h.clean x).bans b hb
end Chan

theorem chan (hc : I c) {lc : String} {ch : Channel} (hch : getChan c lc = some ch) : L.Chan ch :=
  ⟨fun x => chan_of_getChan hch (L.cinv hc x)⟩

theorem serverName (hc : I c) : L.Str c.st.serverName := fun x => (L.cinv hc x).serverName

theorem banned (hc : I c) {k r : String} (h : AMap.get c.st.config.banned k = some r) : L.Str r :=
  fun x => (L.cinv hc x).banned (k, r) (AMap.mem_of_get h)

theorem hold (hc : I c) {k : String} {hold : SvsHold} (h : AMap.get c.st.svsholds k = some hold) : L.Str hold.reason :=
  fun x => (L.cinv hc x).svsholds (k, hold) (AMap.mem_of_get h)

variable {ps : List String} {rc : List Nat}

/-- what is known of a line that is built at one step and sent at a later one -/
structure Line (msg : IrcMsg) : Prop where
  clean : L.text → CleanMsg msg
  cmd : L.cmds → HasCommand msg.render

theorem send {msg : IrcMsg} (hc : I c) (hl : L.Line msg) : I (Robust.Irc.emit c msg rc) := L.emit hc hl.clean hl.cmd

/-- a line from the server itself, built in `c` (it may be sent from a later context: the server name stays) -/
theorem srvLine (code : String) (hc : I c) (hps : AllStr L.Str ps) (hg : GoodCmd code := by decide +kernel)
    (hcl : Clean code := by exact clean_lit) : L.Line (Robust.Irc.srv c code ps) :=
  ⟨fun x => .srv (L.cinv hc x).serverName (strs_clean hps x) hcl, fun y => hc_srv (L.kinv hc y).name hg ps⟩

theorem srv (code : String) (hc : I c) (hps : AllStr L.Str ps) (hg : GoodCmd code := by decide +kernel)
    (hcl : Clean code := by exact clean_lit) : I (Robust.Irc.emit c (Robust.Irc.srv c code ps) rc) :=
  L.send hc (L.srvLine code hc hps hg hcl)

theorem relay {s : Session} (cmd : String) (hc : I c) (cs : L.Sess s) (hps : AllStr L.Str ps)
    (hl : LitCmd cmd := by decide +kernel) (hcl : Clean cmd := by exact clean_lit) :
    I (Robust.Irc.emit c ⟨some s.ircPrefix, cmd, ps⟩ rc) :=
  L.emit hc (fun x => .from (cs.clean x).pfx (strs_clean hps x) hcl) fun y => (cs.ksess y).hc hl ps

/-- a line under the bare nickname of a stored session (what services are told) -/
theorem relayNick {s : Session} (cmd : String) (hc : I c) (cs : L.Sess s) (hps : AllStr L.Str ps)
    (hl : LitCmd cmd := by decide +kernel) (hcl : Clean cmd := by exact clean_lit) :
    I (Robust.Irc.emit c ⟨some ⟨s.nick, "", ""⟩, cmd, ps⟩ rc) :=
  L.emit hc (fun x => .from ⟨(cs.clean x).nick, clean_empty, clean_empty⟩ (strs_clean hps x) hcl)
    fun y => (cs.ksess y).hc_nick hl ps

/-- a line without prefix (`ERROR`) -/
theorem plain (cmd : String) (hc : I c) (hps : AllStr L.Str ps) (hg : GoodCmd cmd := by decide +kernel)
    (hcol : cmd.toList.head? ≠ some ':' := by decide +kernel) (hcl : Clean cmd := by exact clean_lit) :
    I (Robust.Irc.emit c ⟨none, cmd, ps⟩ rc) :=
  L.emit hc (fun x => .plain (strs_clean hps x) hcl) fun _ => hc_plain hg hcol ps

theorem svc {m : IrcMsg} {sp : Prefix} (cmd : String) (hc : I c) (hm : L.Msg m) (hp : L.cmds → PfxArgOK m)
    (hs : servicesPrefix m = .ok sp) (hps : AllStr L.Str ps) (hg : GoodCmd cmd := by decide +kernel)
    (hcl : Clean cmd := by exact clean_lit) : I (Robust.Irc.emit c ⟨some sp, cmd, ps⟩ rc) :=
  L.emit hc (fun x => .from ((servicesPrefix_clean (hm x)).apply hs) (strs_clean hps x) hcl)
    fun y => hc_svc hs (hp y) hg ps

/-- the numeric replies to services name the sender of the line (`msg.Prefix.Name`) first -/
theorem svcReply {m : IrcMsg} (code : String) (hc : I c) (hm : L.Msg m) (hps : AllStr L.Str ps)
    (hg : GoodCmd code := by decide +kernel) (hcl : Clean code := by exact clean_lit) :
    (do let pn ← pfxName m; pure (sendSvc c (Robust.Irc.srv c code (pn :: ps)))).Sat I :=
  .andThen hm.pfxName fun _ hpn => .pure (L.srv code hc (.cons hpn hps) hg hcl)

/-- `I` survives another member list over the stored channel `lc`: `MODE ±o` on that channel -/
def SetsMembersAt (I : Ctx → Prop) (lc : String) : Prop :=
  ∀ {c : Ctx} {ch : Channel} (nicks : AMap String Member), I c → getChan c lc = some ch →
    I (Robust.Irc.putChan c lc { ch with nicks := nicks })

/-- … over any stored channel: the member a JOIN adds -/
def SetsMembers (I : Ctx → Prop) : Prop := ∀ {lc : String}, SetsMembersAt I lc

/-- `I` survives a channel stored under a new key while the number of channels is below the limit (JOIN and the
services' JOIN and SVSJOIN check this before they create a channel) -/
def AddsChan : Prop :=
  ∀ {c : Ctx} {lc : String} {ch : Channel}, I c → getChan c lc = none →
    (c.st.config.maxChannels = 0 ∨ c.st.channels.length < c.st.config.maxChannels) → (L.text → CleanChan ch) →
    I (Robust.Irc.putChan c lc ch)

/-- `I` survives a change of the nick of the session `tid` to the valid nickname `n` that starts at `c`: the new nick
is stored, the index and the member lists are re-keyed, then the prefix is derived anew (`I` need not hold in
between) -/
def NickUpd (tid : Id) (n : String) (c : Ctx) : Prop :=
  ∀ ⦃c1 c2 : Ctx⦄ (lcnew old : String) (b : Bool), I c → L.Str n → isValidNickname n = true →
    Robust.Irc.modS c tid (fun s => { s with nick := n }) = .ok c1 →
    Robust.Irc.modS (renameCtx c1 tid lcnew old b) tid updateIrcPrefix = .ok c2 → I c2

/-- the channel that the services' JOIN and SVSJOIN store once their limit check has passed: over a stored channel,
or under a new key below the limit -/
theorem putChan_admitted (hmem : SetsMembers I) (hnew : L.AddsChan) {lc chn : String} (hc : I c)
    (hchn : L.Str chn)
    (hlim : ¬ ((!(getChan c lc).isSome && decide (c.st.channels.length ≥ c.st.config.maxChannels) &&
      decide (c.st.config.maxChannels > 0)) = true)) (nicks : AMap String Member) :
    I (Robust.Irc.putChan c lc { (getChan c lc).getD { name := chn } with nicks := nicks }) := by
  cases hg : getChan c lc with
  | some ch0 => exact hmem nicks hc hg
  | none =>
    rw [hg] at hlim
    exact hnew hc hg (room_of_not_full hlim) fun x => ⟨hchn x, clean_empty, clean_empty, clean_empty, bans_nil⟩

end HLogic

/-- what `KSess` reads of a session is among the fields that an ordinary update keeps -/
theorem Session.kview_of_kept {v s : Session} (h : v.kept = s.kept) : v.kview = s.kview := by
  show (v.ircPrefix, v.nick, v.username, v.id, v.server) = (s.ircPrefix, s.nick, s.username, s.id, s.server)
  rw [kept_ircPrefix h, kept_nick h, kept_username h, kept_id h, kept_server h]

def HLogic.clean : HLogic CCtx where
  text := True
  cmds := False
  cinv h _ := h.inv
  kinv _ y := y.elim
  emit h hm _ := h.emit (hm True.intro)
  modS h _ hf := h.modS (hf True.intro)
  putChan h _ _ hch := h.putChan (hch True.intro)
  leaveChannel h := h.leaveChannel
  deleteSession h := h.deleteSession
  frame h e1 e2 e3 _ e5 e6 hh := ⟨⟨by rw [e1]; exact h.inv.sessions, by rw [e2]; exact h.inv.channels, hh True.intro,
    by rw [e3]; exact h.inv.banned, by rw [e5]; exact h.inv.serverName⟩, by rw [e6]; exact h.out⟩

def HLogic.kstep (c0 : Ctx) : HLogic (KStep c0) where
  text := False
  cmds := True
  cinv _ x := x.elim
  kinv h _ := h.inv
  emit h _ hm := h.emit (hm True.intro)
  modS h hk _ := h.modS fun s hs => hs.congr (Session.kview_of_kept (hk s))
  putChan h _ _ _ := h.putChan
  leaveChannel h := h.leaveChannel
  deleteSession h := h.deleteSession
  frame h e1 _ _ _ e5 e6 _ := h.same e1 e5 e6

def HLogic.stable {P : St → Prop} (hP : Stable P) : HLogic fun c => P c.st where
  text := False
  cmds := False
  cinv _ x := x.elim
  kinv _ y := y.elim
  emit h _ _ := h
  modS h hk _ := hP.modS_keep h hk
  putChan h hch hn _ := hP.putChan h hch (.of_nicks hn)
  leaveChannel h := hP.leaveChannel h _ _ _
  deleteSession h := hP.deleteSession h _
  frame h e1 e2 e3 e4 _ _ _ := hP.congr h e1 e2 e3 e4

/-- the text of a channel is not in its member list -/
theorem CCtx.setsMembers : HLogic.SetsMembers CCtx := fun _ h hch => h.putChan { chan_of_getChan hch h.inv with }

theorem CCtx.addsChan : HLogic.clean.AddsChan := fun h _ _ hch => h.putChan (hch True.intro)

/-- `KStep` reads nothing of the channels -/
theorem KStep.setsMembers {c0 : Ctx} : HLogic.SetsMembers (KStep c0) := fun _ h _ => h.putChan

theorem KStep.addsChan {c0 : Ctx} : (HLogic.kstep c0).AddsChan := fun h _ _ _ => h.putChan

theorem ChanAny.setsMembers {P : St → Prop} (hA : ChanAny P) : HLogic.SetsMembers fun c => P c.st :=
  fun _ h hch => hA.setChannel _ h hch

theorem NewChan.addsChan {P : St → Prop} (hP : Stable P) (hnew : NewChan P) : (HLogic.stable hP).AddsChan :=
  fun h hg hl _ => hnew _ _ h hg hl

theorem NickUpd.logic {P : St → Prop} {tid : Id} {n : String} {c : Ctx} (h : NickUpd P tid n c) (hP : Stable P) :
    (HLogic.stable hP).NickUpd tid n c :=
  fun _ _ lcnew old b h0 _ _ e1 e2 => h lcnew old b h0 e1 e2

/-- a nick change re-keys the index and the member lists, which hold no text that is sent -/
theorem renameCtx_clean {c : Ctx} (hc : CCtx c) (tid : Id) (lcnew old : String) (b : Bool) :
    CCtx (renameCtx c tid lcnew old b) := by
  unfold renameCtx
  have h1 : CCtx { c with st := { c.st with nicks := AMap.set c.st.nicks lcnew tid } } := hc.setSt { hc.inv with }
  cases b
  · exact h1
  · exact h1.setSt (h1.inv.mapNicks _ _)

theorem CCtx.nickUpd (tid : Id) (n : String) (c : Ctx) : HLogic.clean.NickUpd tid n c :=
  fun _ _ lcnew old b h hn _ e1 e2 =>
    Res.Sat.of_ok e2 <|
      (renameCtx_clean (Res.Sat.of_ok e1 (h.modS fun _ hs => { hs with nick := hn True.intro })) tid lcnew old b).modS
        fun _ hs => hs.updateIrcPrefix

theorem renameCtx_kstep {c0 c : Ctx} (hc : KStep c0 c) (tid : Id) (lcnew old : String) (b : Bool) :
    KStep c0 (renameCtx c tid lcnew old b) := by
  refine hc.same (renameCtx_sessions c tid lcnew old b) ?_ ?_
  · unfold renameCtx; cases b <;> rfl
  · unfold renameCtx; cases b <;> rfl

/-- a valid nickname is short and has no space, so the prefix derived from it is within the bound -/
theorem KStep.nickUpd {c0 : Ctx} (tid : Id) (n : String) (c : Ctx) : (HLogic.kstep c0).NickUpd tid n c :=
  fun _ _ lcnew old b h _ hv e1 e2 =>
    Res.Sat.of_ok e2 <|
      (renameCtx_kstep (Res.Sat.of_ok e1 (h.modS fun _ hs => hs.setNick hv)) tid lcnew old b).modS fun _ hs => hs.update

end Robust.Irc
