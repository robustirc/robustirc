import Robust.Irc.Proofs.ClientMid
/-!
Services-link handlers (`SCmds.lean`): shared infrastructure.

* `Srv.NoPanic`  – "the result is not a `Res.panic`" (what `ServicesSafe` spells out for a handler);
* `OutGrows`     – bookkeeping of the non-state part of a context (`msgid`, `out`);
* `SrvActor`     – the acting session is stored and is a services link (`SrvActor.kept`: it stays one wherever every
                   stored session stays stored with its flags, `SessKept`);
* `Mid c0 c sid` – what holds between the primitives of a services handler that started in `c0`:
                   `HInv`, `LInv`, the actor is still a stored link, output only appended, `NI` kept.
                   `Mid.post` turns it into `Post`.
* per-primitive transfer lemmas for `Mid` (emits, inert `modS`/`putChan`, `deleteSession`);
* `SrvWp`        – the form the theorem about one services handler takes (`Res.Wp`, `WpCore.lean`), with `PreservesSrv`
                   and `ServicesSafe` as projections, and the steps that can panic as `Wp` leaves: `Mid.reply_wp`,
                   `Mid.leaveChannel_wp`, `Mid.deleteSession_wp`, `Mid.addMember_wp` (the join step).
-/
namespace Robust.Irc
open Robust AMap

def PreservesSrv (h : Ctx → Id → IrcMsg → Res Ctx) : Prop :=
  ∀ c sid m c' s, Pre c sid → AMap.get c.st.sessions sid = some s → s.server = true →
    h c sid m = .ok c' → Post c c' sid

namespace Srv
def NoPanic {α : Type} (r : Res α) : Prop := ∀ site, r ≠ Res.panic site

theorem NoPanic.declined {α : Type} (w : String) : NoPanic (Res.declined w : Res α) := fun _ h => by cases h

theorem NoPanic.bind' {α β : Type} {x : Res α} {f : α → Res β} (hx : NoPanic x)
    (hf : ∀ a, x = Res.ok a → NoPanic (f a)) : NoPanic (Res.bind x f) := by
  cases x with
  | ok a => exact hf a rfl
  | panic s => exact absurd rfl (hx s)
  | declined w => exact NoPanic.declined w

end Srv
open Srv

theorem pfxName_ok {m : IrcMsg} (h : m.pfx.isSome = true) : ∃ n, pfxName m = Res.ok n := by
  unfold pfxName
  cases hp : m.pfx with
  | none => rw [hp] at h; cases h
  | some p => exact ⟨_, rfl⟩

theorem servicesPrefix_ok {m : IrcMsg} (h : m.pfx.isSome = true) : ∃ p, servicesPrefix m = Res.ok p := by
  unfold servicesPrefix
  obtain ⟨n, hn⟩ := pfxName_ok h
  rw [hn]; exact ⟨_, rfl⟩

structure OutGrows (c c' : Ctx) : Prop where
  msgid : c'.msgid = c.msgid
  out : ∃ extra, c'.out = c.out ++ extra

theorem OutGrows.refl (c : Ctx) : OutGrows c c := ⟨rfl, [], by simp⟩

theorem OutGrows.trans {a b c : Ctx} (h1 : OutGrows a b) (h2 : OutGrows b c) : OutGrows a c := by
  obtain ⟨e1, x1⟩ := h1.out
  obtain ⟨e2, x2⟩ := h2.out
  exact ⟨h2.msgid.trans h1.msgid, e1 ++ e2, by rw [x2, x1, List.append_assoc]⟩

theorem OutGrows.emit (c : Ctx) (m : IrcMsg) (r : List Nat) : OutGrows c (emit c m r) := ⟨rfl, _, rfl⟩
theorem OutGrows.sendUser (c : Ctx) (sid : Id) (m : IrcMsg) : OutGrows c (sendUser c sid m) := ⟨rfl, _, rfl⟩
theorem OutGrows.sendSvc (c : Ctx) (m : IrcMsg) : OutGrows c (sendSvc c m) := ⟨rfl, _, rfl⟩

theorem OutGrows.of_frame {c c' : Ctx} (h : CtxFrame c c') : OutGrows c c' :=
  ⟨h.msgid, [], by rw [h.out]; simp⟩

namespace Srv
structure Emits (c c' : Ctx) : Prop where
  st : c'.st = c.st
  og : OutGrows c c'

theorem Emits.refl (c : Ctx) : Emits c c := ⟨rfl, OutGrows.refl c⟩
theorem Emits.trans {a b c : Ctx} (h1 : Emits a b) (h2 : Emits b c) : Emits a c :=
  ⟨h2.st.trans h1.st, h1.og.trans h2.og⟩
theorem Emits.emit (c : Ctx) (m : IrcMsg) (r : List Nat) : Emits c (emit c m r) := ⟨rfl, OutGrows.emit c m r⟩
theorem Emits.sendUser (c : Ctx) (sid : Id) (m : IrcMsg) : Emits c (sendUser c sid m) := ⟨rfl, OutGrows.sendUser c sid m⟩
theorem Emits.sendSvc (c : Ctx) (m : IrcMsg) : Emits c (sendSvc c m) := ⟨rfl, OutGrows.sendSvc c m⟩
end Srv
open Srv

theorem Post.emit {c c1 : Ctx} {sid : Id} (h : Post c c1 sid) (m : IrcMsg) (r : List Nat) : Post c (emit c1 m r) sid :=
  { h with outGrows := (h.outStep.emit m r).outGrows }
theorem Post.sendUser {c c1 : Ctx} {sid : Id} (h : Post c c1 sid) (tid : Id) (m : IrcMsg) :
    Post c (sendUser c1 tid m) sid := h.emit m _
theorem Post.sendSvc {c c1 : Ctx} {sid : Id} (h : Post c c1 sid) (m : IrcMsg) : Post c (sendSvc c1 m) sid :=
  h.emit m _

def SrvActor (st : St) (sid : Id) : Prop := ∃ s, AMap.get st.sessions sid = some s ∧ s.server = true

theorem SrvActor.congr {st st' : St} {sid : Id} (h : SrvActor st sid) (hs : st'.sessions = st.sessions) :
    SrvActor st' sid := by
  unfold SrvActor; rw [hs]; exact h

theorem SrvActor.privileged {st : St} {sid : Id} (h : SrvActor st sid) : Privileged st sid := by
  obtain ⟨s, h1, h2⟩ := h
  exact ⟨s, h1, Or.inl h2⟩

theorem SrvActor.set {st st' : St} {sid tid : Id} {t t' : Session} (h : SrvActor st sid)
    (ht : AMap.get st.sessions tid = some t) (hsrv : t'.server = t.server)
    (hs : st'.sessions = AMap.set st.sessions tid t') : SrvActor st' sid := by
  obtain ⟨s, h1, h2⟩ := h
  unfold SrvActor
  rw [hs, AMap.get_set]
  split
  · rename_i he; subst he
    rw [ht] at h1; cases h1
    exact ⟨t', rfl, by rw [hsrv]; exact h2⟩
  · exact ⟨s, h1, h2⟩

theorem SrvActor.set_other {st st' : St} {sid tid : Id} {t' : Session} (h : SrvActor st sid)
    (hne : sid ≠ tid) (hs : st'.sessions = AMap.set st.sessions tid t') : SrvActor st' sid := by
  obtain ⟨s, h1, h2⟩ := h
  exact ⟨s, by rw [hs, AMap.get_set_other _ hne]; exact h1, h2⟩

theorem SrvActor.modS {c c' : Ctx} {sid tid : Id} {f : Session → Session} (h : SrvActor c.st sid)
    (hw : WInvCore c.st) (hf : ∀ s, (f s).id = s.id ∧ (f s).server = s.server)
    (hr : modS c tid f = Res.ok c') : SrvActor c'.st sid := by
  obtain ⟨t, ht, rfl⟩ := modS_eq_ok.1 hr
  refine h.set ht (hf t).2 ?_
  rw [putS_sessions, (hf t).1, (hw.sessId tid t ht).1]

theorem SrvActor.kept {c c' : Ctx} {sid : Id} (h : SrvActor c.st sid) (hk : SessKept c c') : SrvActor c'.st sid := by
  obtain ⟨s, hs, hsv⟩ := h
  obtain ⟨s', hs', _, e, _⟩ := hk sid s hs
  exact ⟨s', hs', by rw [e]; exact hsv⟩

theorem SrvActor.sessUpTo {st st' : St} {sid : Id} (h : SrvActor st sid)
    (hs : SessUpTo st.sessions st'.sessions) : SrvActor st' sid := by
  obtain ⟨s, h1, h2⟩ := h
  obtain ⟨inv, hinv⟩ := hs.get sid s h1
  exact ⟨_, hinv, h2⟩

structure Mid (c0 c : Ctx) (sid : Id) : Prop where
  hinv : HInv c.st
  linv : LInv c.st
  actor : SrvActor c.st sid
  og : OutGrows c0 c
  ninv : NI c0.st → NI c.st

theorem Mid.post {c0 c : Ctx} {sid : Id} (h : Mid c0 c sid) : Post c0 c sid where
  hinv := h.hinv
  linv := h.linv
  actorKept := by obtain ⟨s, h1, _⟩ := h.actor; exact ⟨s, h1⟩
  flagged := fun _ _ _ _ => Or.inr h.actor.privileged
  outGrows := h.og.out
  msgid := h.og.msgid

theorem Mid.of_pre {c : Ctx} {sid : Id} {s : Session} (h : Pre c sid)
    (hs : AMap.get c.st.sessions sid = some s) (hsrv : s.server = true) : Mid c c sid :=
  ⟨h.inv.toHInv, h.linv, ⟨s, hs, hsrv⟩, OutGrows.refl c, fun h0 => h0⟩

theorem Mid.emits {c0 c c' : Ctx} {sid : Id} (h : Mid c0 c sid) (he : Emits c c') : Mid c0 c' sid :=
  ⟨by rw [he.st]; exact h.hinv, by rw [he.st]; exact h.linv, by rw [he.st]; exact h.actor, h.og.trans he.og,
    fun h0 => by rw [he.st]; exact h.ninv h0⟩

theorem Mid.emit {c0 c : Ctx} {sid : Id} (h : Mid c0 c sid) (m : IrcMsg) (r : List Nat) : Mid c0 (emit c m r) sid :=
  h.emits (Emits.emit c m r)
theorem Mid.sendUser {c0 c : Ctx} {sid : Id} (h : Mid c0 c sid) (tid : Id) (m : IrcMsg) : Mid c0 (sendUser c tid m) sid :=
  h.emits (Emits.sendUser c tid m)
theorem Mid.sendSvc {c0 c : Ctx} {sid : Id} (h : Mid c0 c sid) (m : IrcMsg) : Mid c0 (sendSvc c m) sid :=
  h.emits (Emits.sendSvc c m)

/-- a function that keeps everything the invariants and `Mid` look at: `CoreKeep` and the two flags -/
def InertFn (f : Session → Session) : Prop :=
  ∀ s, (f s).id = s.id ∧ (f s).deleted = s.deleted ∧ (f s).nick = s.nick ∧ (f s).channels = s.channels ∧
    (f s).server = s.server ∧ (f s).loggedIn = s.loggedIn

theorem Mid.modS_inert {c0 c c' : Ctx} {sid tid : Id} {f : Session → Session} (h : Mid c0 c sid)
    (hf : InertFn f) (hr : modS c tid f = Res.ok c') : Mid c0 c' sid := by
  refine ⟨HInv_modS_inert f (fun s => ⟨(hf s).1, (hf s).2.1, (hf s).2.2.1, (hf s).2.2.2.1⟩) h.hinv hr,
    h.linv.modS hr (fun s hs hl => ?_),
    h.actor.modS h.hinv.toWInvCore (fun s => ⟨(hf s).1, (hf s).2.2.2.2.1⟩) hr, h.og.trans (.of_frame (.modS hr)),
    fun h0 => (h.ninv h0).modS_keep hr (fun s => ⟨(hf s).2.2.1, (hf s).2.2.2.1⟩)⟩
  rw [(hf s).2.2.1]
  exact h.linv _ s hs (by rw [← (hf s).2.2.2.2.2]; exact hl)

theorem Mid.putChan_inert {c0 c : Ctx} {sid : Id} {lc : String} {ch ch' : Channel} (h : Mid c0 c sid)
    (hg : AMap.get c.st.channels lc = some ch) (hname : ch'.name = ch.name)
    (hkeys : AMap.keys ch'.nicks = AMap.keys ch.nicks) : Mid c0 (putChan c lc ch') sid :=
  ⟨HInv_putChan_inert h.hinv hg hname hkeys, h.linv.putChan lc ch', h.actor.congr rfl,
    h.og.trans (.of_frame (.putChan c lc ch')), fun h0 => (h.ninv h0).putChan_same lc hg hname⟩

/-- the channel value `serverJoinOne` / `cmdServerSvsjoin` add the member to carries a valid name when it is new -/
theorem getD_chan_valid {c : Ctx} {lc chn : String} (hv : ¬ (!isValidChannel chn) = true) :
    AMap.get c.st.channels lc = none →
      isValidChannel ((AMap.get c.st.channels lc).getD { name := chn }).name = true := by
  intro hnone
  rw [hnone]
  simpa using hv

def SrvWp (h : Ctx → Id → IrcMsg → Res Ctx) (d : Nat) : Prop :=
  ∀ c0 c sid m, Mid c0 c sid →
    (h c sid m).Wp (m.pfx.isSome = true ∧ d ≤ m.params.length) fun c' => Mid c0 c' sid

theorem SrvWp.mid {h : Ctx → Id → IrcMsg → Res Ctx} {d : Nat} (H : SrvWp h d) {c0 c c' : Ctx} {sid : Id} {m : IrcMsg}
    (hm : Mid c0 c sid) (hr : h c sid m = Res.ok c') : Mid c0 c' sid :=
  (H c0 c sid m hm).sat c' hr

theorem SrvWp.preserves {h : Ctx → Id → IrcMsg → Res Ctx} {d : Nat} (H : SrvWp h d) : PreservesSrv h :=
  fun _ _ _ _ _ hpre hs hsrv hr => (H.mid (.of_pre hpre hs hsrv) hr).post

theorem SrvWp.safe {h : Ctx → Id → IrcMsg → Res Ctx} {d : Nat} (H : SrvWp h d) : ServicesSafe h d :=
  fun c sid m _ hp hs hsrv hpfx hn => (H c c sid m (.of_pre hp hs hsrv)).safe ⟨hpfx, hn⟩

section
variable {G : Prop}

theorem pfxName_wp {m : IrcMsg} (h : G → m.pfx.isSome = true) : (pfxName m).Wp G fun _ => True :=
  .returns fun g => pfxName_ok (h g)

theorem servicesPrefix_wp {m : IrcMsg} (h : G → m.pfx.isSome = true) : (servicesPrefix m).Wp G fun _ => True :=
  .returns fun g => servicesPrefix_ok (h g)

/-- the error replies that name the sender: `let pn ← pfxName m; return sendSvc c (… pn …)` -/
theorem Mid.reply_wp {c0 c : Ctx} {sid : Id} {m : IrcMsg} (h : Mid c0 c sid) (hg : G → m.pfx.isSome = true)
    (f : String → IrcMsg) : (pfxName m >>= fun pn => pure (Robust.Irc.sendSvc c (f pn))).Wp G fun c' => Mid c0 c' sid :=
  .bind (pfxName_wp hg) fun _ _ _ => .pure (h.sendSvc _)

theorem Mid.leaveChannel_wp {c0 c : Ctx} {sid tid : Id} {lc lcn : String} {ch : Channel} (h : Mid c0 c sid)
    (hidx : AMap.get c.st.nicks lcn = some tid) (hch : AMap.get c.st.channels lc = some ch) :
    (Robust.Irc.leaveChannel c lc lcn tid).Wp G fun c' => Mid c0 c' sid := by
  obtain ⟨t, ht, _⟩ := h.hinv.index lcn tid hidx
  refine .of_sat (fun c' hr => ?_) fun _ => leaveChannel_ok h.hinv.toWInvCore hch ht
  have sp := leaveChannel_spec h.hinv.toWInv hidx hr
  exact ⟨leaveChannel_HInv h.hinv hidx hr, h.linv.leaveChannel h.hinv.toWInv hidx hr,
    h.actor.kept sp.sessKept, h.og.trans (OutGrows.of_frame sp.frame), fun h0 => (h.ninv h0).leaveChannel hr⟩

theorem Mid.deleteSession_wp {c0 c : Ctx} {sid tid : Id} {t : Session} (h : Mid c0 c sid)
    (ht : AMap.get c.st.sessions tid = some t) (hpre : DelPre c.st t) :
    (Robust.Irc.deleteSession c tid).Wp G fun c' => Mid c0 c' sid := by
  refine .of_sat (fun c' hr => ?_) fun _ => deleteSession_ok h.hinv.toWInv ht
  have sp := deleteSession_spec h.hinv.toWInv ht hpre hr
  exact ⟨deleteSession_HInv h.hinv ht hpre hr, h.linv.deleteSession h.hinv.toWInv ht hpre hr,
    h.actor.kept (sp.sessKept ht), h.og.trans (OutGrows.of_frame sp.frame), fun h0 => (h.ninv h0).deleteSession hr⟩

/-- the join step of `serverJoinOne` / `cmdServerSvsjoin`, with the two lookups its callers go on with -/
theorem Mid.addMember_wp {c0 c : Ctx} {sid tid : Id} {lc lcn : String} {ch : Channel} {mem : Member}
    (h : Mid c0 c sid) (hidx : AMap.get c.st.nicks lcn = some tid)
    (hch : ChanOrNew c.st lc ch)
    (hvn : AMap.get c.st.channels lc = none → isValidChannel ch.name = true) :
    (modS (putChan c lc { ch with nicks := AMap.set ch.nicks lcn mem }) tid
        fun t => { t with channels := setInsert t.channels lc }).Wp G fun c' => Mid c0 c' sid ∧
      AMap.get c'.st.channels lc = some { ch with nicks := AMap.set ch.nicks lcn mem } ∧
      AMap.get c'.st.nicks lcn = some tid := by
  obtain ⟨t, ht, _, _⟩ := h.hinv.index lcn tid hidx
  refine .of_sat (fun c' hr => ?_) fun _ => ⟨_, modS_of_get (c := putChan _ _ _) _ ht⟩
  have sp := addMember_spec h.hinv.toWInv hidx hch hr
  obtain ⟨t', ht', e⟩ := sp.self
  exact ⟨⟨⟨sp.winv, sp.nonempty (h.hinv.nonempty.but lc)⟩, sp.linv h.linv, h.actor.set (t' := { t' with channels := setInsert t'.channels lc }) ht' rfl e,
    h.og.trans (.of_frame sp.frame), fun h0 => (h.ninv h0).addMember h.hinv.toWInvCore hidx hch hvn hr⟩,
    sp.chan, by rw [sp.nicks]; exact hidx⟩

end

theorem Mid.other_fields {c0 c c' : Ctx} {sid : Id} (h : Mid c0 c sid)
    (hs : c'.st.sessions = c.st.sessions) (hn : c'.st.nicks = c.st.nicks) (hc : c'.st.channels = c.st.channels)
    (og : OutGrows c c') : Mid c0 c' sid :=
  ⟨h.hinv.congr hs hn hc, h.linv.congr hs, h.actor.congr hs, h.og.trans og, fun h0 => (h.ninv h0).congr hs hn hc⟩

end Robust.Irc
