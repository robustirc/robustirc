import Robust.Irc.Proofs.Clean
/-!
C15, clause "every delivered line starts with a prefix and a command" — byte level.

* `cmdToken bytes`: the command token of a line, as the monitor's Python predicate finds it: if the line
  starts with `':'`, the maximal run of non-space bytes after the first space; otherwise the maximal run of
  non-space bytes at the start.  `HasCommand bytes` says that this token is not empty.
* `render_plain`, `render_prefixed`: the bytes of a rendered line before the 510-byte cut, without and with a prefix.
* `render_cmdToken`: if the command is not empty and contains no space, the prefix (if any) contains no
  space, and `":" ++ prefix ++ " " ++ command` fits into 510 bytes, then the command token of
  `IrcMsg.render m` is *exactly* the UTF-8 encoding of `m.command`: the 510-byte cut never touches it.
* length of the UTF-8 encoding: at most 4 bytes per character, exactly one for ASCII.
-/
namespace Robust.Irc
open Robust

def firstToken (b : Bytes) : Bytes := b.takeWhile (· != 32)

/-- the command token of a line: after `":" prefix " "` if the line starts with `':'` (byte 58),
at the start otherwise -/
def cmdToken (b : Bytes) : Bytes :=
  if b.head? = some 58 then firstToken ((b.tail.dropWhile (· != 32)).drop 1) else firstToken b

/-- the line is `[":" prefix-without-space " "] command …` with a non-empty command token -/
def HasCommand (b : Bytes) : Prop := cmdToken b ≠ []

instance (b : Bytes) : Decidable (HasCommand b) := by unfold HasCommand; infer_instance

def Spaceless (s : String) : Prop := ∀ c ∈ s.toList, c ≠ ' '

instance (s : String) : Decidable (Spaceless s) := by unfold Spaceless; infer_instance

def Ascii (s : String) : Prop := ∀ c ∈ s.toList, c.toNat < 128

instance (s : String) : Decidable (Ascii s) := by unfold Ascii; infer_instance

theorem utf8_append (a b : String) : utf8 (a ++ b) = utf8 a ++ utf8 b := by
  simp only [utf8_eq_flatMap, String.toList_append, List.flatMap_append]

theorem utf8_length (s : String) : (utf8 s).length = s.utf8ByteSize := by
  unfold utf8 String.utf8ByteSize
  rw [String.toUTF8_eq_toByteArray, byteArray_toList, Array.length_toList]
  rfl

theorem utf8_space : utf8 " " = [32] := by rw [utf8_eq_flatMap]; decide
theorem utf8_colon : utf8 ":" = [58] := by rw [utf8_eq_flatMap]; decide
theorem utf8_empty : utf8 "" = [] := by rw [utf8_eq_flatMap]; decide

theorem utf8_ne_nil {s : String} (h : s ≠ "") : utf8 s ≠ [] := by
  intro he
  apply h
  have hl : (utf8 s).length = 0 := by rw [he]; rfl
  rw [utf8_eq_flatMap] at hl
  cases hs : s.toList with
  | nil => exact String.toList_eq_nil_iff.1 hs
  | cons c t =>
    rw [hs] at hl
    simp only [List.flatMap_cons, List.length_append, String.length_utf8EncodeChar] at hl
    have := Char.utf8Size_pos c
    omega

theorem char_eq_of_toNat {c d : Char} (h : c.toNat = d.toNat) : c = d :=
  Char.ext (UInt32.toNat_inj.mp h)

theorem utf8_spaceless {s : String} (h : Spaceless s) : ∀ x ∈ utf8 s, (x != 32) = true := by
  intro x hx
  rw [utf8_eq_flatMap, List.mem_flatMap] at hx
  obtain ⟨c, hc, hxc⟩ := hx
  have hb := utf8EncodeChar_bytes c x hxc
  have hne : c.toNat ≠ 32 := fun he => h c hc (char_eq_of_toNat he)
  simp only [bne_iff_ne, ne_eq]
  intro he; subst he
  simp at hb
  omega

theorem utf8_head_ne_colon {s : String} (h : s.toList.head? ≠ some ':') : (utf8 s).head? ≠ some 58 := by
  rw [utf8_eq_flatMap]
  cases hs : s.toList with
  | nil => simp
  | cons c t =>
    rw [hs] at h
    have hne : c.toNat ≠ 58 := fun he => h (by rw [char_eq_of_toNat (d := ':') he]; rfl)
    intro hh
    have hmem : (58 : UInt8) ∈ String.utf8EncodeChar c := by
      have hl := String.length_utf8EncodeChar c
      have hp := Char.utf8Size_pos c
      cases he : String.utf8EncodeChar c with
      | nil => rw [he] at hl; simp at hl; omega
      | cons x r =>
        rw [List.flatMap_cons, he] at hh
        simp only [List.cons_append, List.head?_cons, Option.some.injEq] at hh
        subst hh; exact List.mem_cons_self ..
    have hb := utf8EncodeChar_bytes c 58 hmem
    simp at hb
    omega

theorem utf8_length_le (s : String) : (utf8 s).length ≤ 4 * s.toList.length := by
  rw [utf8_eq_flatMap]
  induction s.toList with
  | nil => simp
  | cons c t ih =>
    simp only [List.flatMap_cons, List.length_append, List.length_cons, String.length_utf8EncodeChar]
    have := Char.utf8Size_le_four c
    omega

theorem utf8Size_ascii {c : Char} (h : c.toNat < 128) : c.utf8Size = 1 := by
  have hv : c.val.toNat = c.toNat := rfl
  have : c.val ≤ 127 := by
    rw [UInt32.le_iff_toNat_le, hv]
    show c.toNat ≤ 127
    omega
  simp only [Char.utf8Size]
  exact if_pos this

theorem utf8_length_ascii {s : String} (h : Ascii s) : (utf8 s).length = s.toList.length := by
  rw [utf8_eq_flatMap]
  unfold Ascii at h
  generalize s.toList = l at h ⊢
  induction l with
  | nil => simp
  | cons c t ih =>
    simp only [List.flatMap_cons, List.length_append, List.length_cons, String.length_utf8EncodeChar]
    rw [utf8Size_ascii (h c (List.mem_cons_self ..)), ih (fun c hc => h c (List.mem_cons_of_mem _ hc))]
    omega

theorem utf8ByteSize_le (s : String) : s.utf8ByteSize ≤ 4 * s.toList.length := by
  rw [← utf8_length]; exact utf8_length_le s

theorem utf8ByteSize_ascii {s : String} (h : Ascii s) : s.utf8ByteSize = s.toList.length := by
  rw [← utf8_length]; exact utf8_length_ascii h

theorem utf8ByteSize_append (a b : String) : (a ++ b).utf8ByteSize = a.utf8ByteSize + b.utf8ByteSize := by
  rw [← utf8_length, utf8_append, List.length_append, utf8_length, utf8_length]

theorem firstToken_block {C T : Bytes} (hC : ∀ x ∈ C, (x != 32) = true) (hT : T = [] ∨ T.head? = some 32) :
    firstToken (C ++ T) = C := by
  unfold firstToken
  rw [List.takeWhile_append_of_pos hC]
  rcases hT with rfl | hT
  · simp
  · cases T with
    | nil => simp
    | cons x r =>
      simp only [List.head?_cons, Option.some.injEq] at hT
      subst hT
      simp

theorem tail_take {T : Bytes} (hT : T = [] ∨ T.head? = some 32) (k : Nat) :
    T.take k = [] ∨ (T.take k).head? = some 32 := by
  rcases hT with rfl | hT
  · left; simp
  · cases k with
    | zero => left; simp
    | succ k =>
      cases T with
      | nil => left; simp
      | cons x r => right; simpa using hT

theorem cmdToken_prefixed {P C T : Bytes} (hP : ∀ x ∈ P, (x != 32) = true) (hC : ∀ x ∈ C, (x != 32) = true)
    (hT : T = [] ∨ T.head? = some 32) : cmdToken (58 :: (P ++ 32 :: C) ++ T) = C := by
  rw [List.cons_append, List.append_assoc, List.cons_append]
  unfold cmdToken
  rw [if_pos (by rfl)]
  simp only [List.tail_cons]
  rw [List.dropWhile_append_of_pos hP]
  simp only [List.dropWhile_cons, bne_self_eq_false, Bool.false_eq_true, ↓reduceIte, List.drop_succ_cons,
    List.drop_zero]
  exact firstToken_block hC hT

theorem cmdToken_plain {C T : Bytes} (h58 : C.head? ≠ some 58) (hne : C ≠ []) (hC : ∀ x ∈ C, (x != 32) = true)
    (hT : T = [] ∨ T.head? = some 32) : cmdToken (C ++ T) = C := by
  unfold cmdToken
  have : (C ++ T).head? = C.head? := by
    cases C with
    | nil => exact absurd rfl hne
    | cons x r => rfl
  rw [this, if_neg h58]
  exact firstToken_block hC hT

/-- the text before the 510-byte cut -/
def IrcMsg.renderTail (m : IrcMsg) : String :=
  (if m.params.length > 1 then " " ++ joinStr " " m.params.dropLast else "") ++
    (match m.params.getLast? with
      | none => ""
      | some t =>
        " " ++ (if (t.isEmpty || t.toList.contains ' ' || t.toList.head? == some ':') then ":" else "") ++ t)

theorem render_eq (m : IrcMsg) : m.render =
    (utf8 ((match m.pfx with | some p => ":" ++ p.str ++ " " | none => "") ++ m.command ++ m.renderTail)).take 510 := by
  unfold IrcMsg.render IrcMsg.renderTail
  simp only []
  rw [String.append_assoc (s₁ := _ ++ m.command)]
  rfl

theorem renderTail_head (m : IrcMsg) : utf8 m.renderTail = [] ∨ (utf8 m.renderTail).head? = some 32 := by
  unfold IrcMsg.renderTail
  split
  · right
    rw [utf8_append, utf8_append, utf8_space]; rfl
  · rw [utf8_append, utf8_empty, List.nil_append]
    split
    · left; exact utf8_empty
    · right
      rw [utf8_append, utf8_append, utf8_space]; rfl

theorem take_append_of_le {A : Bytes} (T : Bytes) {n : Nat} (h : A.length ≤ n) :
    (A ++ T).take n = A ++ T.take (n - A.length) := by
  rw [List.take_append, List.take_of_length_le h]

theorem render_plain {m : IrcMsg} (hp : m.pfx = none) :
    m.render = (utf8 m.command ++ utf8 m.renderTail).take 510 := by
  rw [render_eq, hp]
  simp only []
  rw [utf8_append, utf8_append, utf8_empty, List.nil_append]

/-- the bytes of a line with a prefix, before the cut: `":" prefix " " command`, then the rest -/
theorem render_prefixed {m : IrcMsg} {p : Prefix} (hp : m.pfx = some p) :
    m.render = (58 :: (utf8 p.str ++ 32 :: utf8 m.command) ++ utf8 m.renderTail).take 510 := by
  rw [render_eq, hp]
  simp only []
  rw [utf8_append, utf8_append, utf8_append, utf8_append, utf8_colon, utf8_space]
  simp

/-- **the cut never touches the command**: for a non-empty command without spaces, under a prefix without
spaces such that `":" prefix " " command` fits into 510 bytes (resp. without prefix: the command fits and
does not start with `':'`), the command token of the rendered line is exactly the command -/
theorem render_cmdToken (m : IrcMsg) (hne : m.command ≠ "") (hsp : Spaceless m.command)
    (hpfx : ∀ p, m.pfx = some p → Spaceless p.str ∧ p.str.utf8ByteSize + m.command.utf8ByteSize + 2 ≤ 510)
    (hnone : m.pfx = none → m.command.toList.head? ≠ some ':' ∧ m.command.utf8ByteSize ≤ 510) :
    cmdToken m.render = utf8 m.command := by
  have hC := utf8_spaceless hsp
  have hT := renderTail_head m
  cases hp : m.pfx with
  | none =>
    obtain ⟨h58, hlen⟩ := hnone hp
    rw [render_plain hp, take_append_of_le _ (by rw [utf8_length]; exact hlen)]
    exact cmdToken_plain (utf8_head_ne_colon h58) (utf8_ne_nil hne) hC (tail_take hT _)
  | some p =>
    obtain ⟨hps, hlen⟩ := hpfx p hp
    rw [render_prefixed hp, take_append_of_le _ (by
      simp only [List.length_cons, List.length_append, utf8_length]; omega)]
    exact cmdToken_prefixed (utf8_spaceless hps) hC (tail_take hT _)

/-- **the bound on the prefix is needed**: under a prefix without space of 509 bytes or more, the 510-byte cut
falls inside the prefix and the rendered line has no command (what happened with 600-character user names
before they were cut to 30 characters) -/
theorem render_long_prefix_no_command (m : IrcMsg) (p : Prefix) (hp : m.pfx = some p) (hsp : Spaceless p.str)
    (hlen : 509 ≤ p.str.utf8ByteSize) : ¬ HasCommand m.render := by
  rw [render_prefixed hp, List.cons_append, List.append_assoc, show (510 : Nat) = 509 + 1 from rfl, List.take_succ_cons,
    List.take_append_of_le_length (by rw [utf8_length]; exact hlen)]
  unfold HasCommand cmdToken
  rw [if_pos (by rfl)]
  simp only [List.tail_cons]
  have hall : ∀ x ∈ List.take 509 (utf8 p.str), (x != 32) = true :=
    fun x hx => utf8_spaceless hsp x (List.mem_of_mem_take hx)
  have : List.dropWhile (fun x => x != 32) (List.take 509 (utf8 p.str)) = [] := by
    have := List.dropWhile_append_of_pos (p := fun x => x != 32) (l₂ := []) hall
    simpa using this
  rw [this]
  simp [firstToken]

theorem spaceless_ofList {l : List Char} (h : ∀ c ∈ l, c ≠ ' ') : Spaceless (String.ofList l) := by
  unfold Spaceless; rw [String.toList_ofList]; exact h

theorem spaceless_takeChars {s : String} (h : Spaceless s) (n : Nat) : Spaceless (takeChars s n) :=
  spaceless_ofList fun c hc => h c (List.mem_of_mem_take hc)

theorem spaceless_firstWord (s : String) : Spaceless (firstWord s) := by
  unfold firstWord
  exact spaceless_ofList fun c hc => by
    have := mem_takeWhile_sat (· != ' ') _ c hc
    simpa using this

theorem firstWord_of_spaceless {s : String} (h : Spaceless s) : firstWord s = s := by
  unfold firstWord
  rw [takeWhile_all (· != ' ') _ (fun c hc => by simpa using h c hc), String.ofList_toList]

theorem spaceless_empty : Spaceless "" := by decide

theorem spaceless_append {a b : String} (ha : Spaceless a) (hb : Spaceless b) : Spaceless (a ++ b) := by
  intro c hc
  rw [String.toList_append, List.mem_append] at hc
  rcases hc with hc | hc
  · exact ha c hc
  · exact hb c hc

/-- the pieces of `strings.Split(s, " ")` contain no space -/
theorem splitChar_spaceless (s : String) : ∀ x ∈ splitChar s ' ', Spaceless x :=
  splitChar_all ' ' fun _ _ hne => hne

/-- every parameter but the last one contains no space (`irc.ParseMessage` splits the middle
parameters at spaces; only the trailing parameter may contain spaces) -/
def MidOK (m : IrcMsg) : Prop := ∀ p ∈ m.params.dropLast, Spaceless p

instance (m : IrcMsg) : Decidable (MidOK m) := by unfold MidOK; infer_instance

theorem parseRest_midOK (pfx : Option Prefix) (r : List Char) : MidOK (parseRest pfx r) := by
  unfold parseRest MidOK
  split
  · intro p hp; simp at hp
  · intro p hp; simp at hp
  · simp only []
    split
    · intro p hp
      exact splitChar_spaceless _ p (List.dropLast_subset _ hp)
    · intro p hp
      rw [List.dropLast_concat] at hp
      split at hp
      · exact splitChar_spaceless _ p hp
      · simp at hp

theorem parseMessage_midOK {raw : String} {m : IrcMsg} (hp : parseMessage raw = some m) : MidOK m := by
  obtain ⟨cs, _, hm⟩ := parseMessage_cases hp
  rcases hm with rfl | ⟨_, _, _, rfl⟩
  · exact parseRest_midOK _ _
  · exact parseRest_midOK _ _

/-- a parameter that is not the last one -/
theorem MidOK.param {m : IrcMsg} (h : MidOK m) {i : Nat} (hl : i + 2 ≤ m.params.length) {x : String}
    (hx : m.params[i]? = some x) : Spaceless x := by
  apply h x
  rw [List.dropLast_eq_take]
  have hi : (m.params.take (m.params.length - 1))[i]? = some x := by
    rw [List.getElem?_take, if_pos (by omega)]
    exact hx
  exact List.mem_of_getElem? hi

end Robust.Irc
